import UvModel.Generated.Kernels
import UvModel.FsPoll
import UvModel.FsEvent
import UvModel.Lemmas.CSemLemmas
import UvModel.Lemmas.Cmp3
/-!
  Tie A obligations for C17 (src/fs-poll.c): the change test `statbuf_eq`, the re-arm delay computed
  at the end of `poll_cb` and the `start_time` update of `timer_cb`, as generated from the current C
  text, equal what the model (`FsPoll.statbufEq`, `FsPoll.finishPoll`, `FsPoll.timerFire`) computes;
  and (src/unix/linux.c) the classification of one inotify record into UV_CHANGE / UV_RENAME and the
  mask `uv_fs_event_start` registers equal `FsEvent.eventsOf` / `FsEvent.WATCH_MASK`; the order of the
  watcher tree `compare_watchers` equals `FsEvent.cmpWd`, a strict total order.
-/
namespace UvModel.GenEq
open UvModel UvModel.Generated UvModel.FsPoll

/-- `statbuf_eq` (fs-poll.c:270-285) = `FsPoll.statbufEq`: the fourteen fields, each compared for
    equality, all must agree -/
theorem statbuf_eq_eq (a b : Stat) :
    (statbuf_eq a.btimNs a.btimS a.ctimNs a.ctimS a.dev a.flags a.gen a.gid a.ino a.mode a.mtimNs a.mtimS a.size a.uid
                b.btimNs b.btimS b.ctimNs b.ctimS b.dev b.flags b.gen b.gid b.ino b.mode b.mtimNs b.mtimS b.size b.uid).map (·.ret)
      = some (CSem.b2i (statbufEq a b)) := by
  unfold statbuf_eq statbufEq
  simp only [Option.map_some, Option.some.injEq]
  congr 1
  rw [Bool.eq_iff_iff]
  simp only [Bool.and_eq_true, decide_eq_true_eq, beq_iff_eq, Int.natCast_inj]

/-- the re-arm delay of `poll_cb` (fs-poll.c:238-239): `interval - (now - start_time) % interval`
    on `uint64_t`, for the values the code can hold (`interval ≥ 1` by fs-poll.c:88, `start_time` a
    past reading of the loop clock) -/
theorem fs_poll_rearm_eq (iv now st : Nat) (hiv : 0 < iv) (hiv2 : iv < 2 ^ 64) (hnow : now < 2 ^ 64)
    (hst : st ≤ now) :
    (fs_poll_rearm now iv st).map (·.interval) = some (((iv - (now - st) % iv : Nat)) : Int) := by
  have hr : (now - st) % iv < iv := Nat.mod_lt _ hiv
  unfold fs_poll_rearm
  dsimp only
  -- every intermediate value is a natural number below 2^64: no wrap takes effect
  rw [CSem.u64_natCast hiv2, CSem.u64_natCast_sub hst hnow, ← Int.natCast_emod,
    CSem.u64_natCast_sub (Nat.le_of_lt hr) hiv2]
  rfl

/-- … and that is the delay `FsPoll.finishPoll` arms the timer with when the context is still live -/
theorem finishPoll_arm_generated (s : S) (c : Nat) (hl : liveB s c = true)
    (hiv : 0 < (s.ctxs c).interval) (hiv2 : (s.ctxs c).interval < 2 ^ 64) (hnow : s.now < 2 ^ 64)
    (hst : (s.ctxs c).startTime ≤ s.now) :
    ∃ o, fs_poll_rearm s.now (s.ctxs c).interval (s.ctxs c).startTime = some o ∧
      (finishPoll s c).trace.head? = some (.arm c o.interval.toNat) := by
  have h := fs_poll_rearm_eq (s.ctxs c).interval s.now (s.ctxs c).startTime hiv hiv2 hnow hst
  cases hk : fs_poll_rearm s.now (s.ctxs c).interval (s.ctxs c).startTime with
  | none => rw [hk] at h; simp at h
  | some o =>
    rw [hk] at h
    simp only [Option.map_some, Option.some.injEq] at h
    refine ⟨o, rfl, ?_⟩
    unfold finishPoll
    simp only [hl, Bool.not_true, Bool.false_eq_true, if_false, S.emit, S.setCtx, List.head?_cons, h,
      Int.toNat_natCast]

/-- `timer_cb` (fs-poll.c:178-188): `ctx->start_time = uv_now(loop)`; a failing `uv_fs_stat` aborts.
    `FsPoll.timerFire` stores the same clock reading. -/
theorem fs_poll_timer_cb_eq (s : S) (c : Nat) (ctxp timerp : Int)
    (hg : (decide (c < s.nctx) && (s.ctxs c).timerActive && decide ((s.ctxs c).due ≤ s.now)) = true) :
    (fs_poll_timer_cb 0 s.now ctxp timerp).map (·.ctx_start_time)
      = some ((((timerFire s c).ctxs c).startTime : Nat) : Int) ∧
    ∀ e, e ≠ 0 → fs_poll_timer_cb e s.now ctxp timerp = none := by
  constructor
  · unfold fs_poll_timer_cb timerFire
    simp only [hg, kernel_simp, S.emit, S.setCtx]
    split <;> simp [upd]
  · intro e he
    unfold fs_poll_timer_cb
    simp [he]

/-- one inotify record (linux.c:2604-2608): `events = 0; if (mask & (IN_ATTRIB|IN_MODIFY)) events |=
    UV_CHANGE; if (mask & ~(IN_ATTRIB|IN_MODIFY)) events |= UV_RENAME` = `FsEvent.eventsOf` for a
    `uint32_t` mask.  The translator keeps each flag of `events` as a cell of its own; `events = 0`
    is rendered by starting both cells at `false`. -/
theorem inotify_events_eq (mask : Nat) (hm : mask < 2 ^ 32) :
    (inotify_events mask false false).map
        (fun o => (if o.events__UV_CHANGE then FsEvent.UV_CHANGE else 0) ||| (if o.events__UV_RENAME then FsEvent.UV_RENAME else 0))
      = some (FsEvent.eventsOf mask) := by
  have c1 : CSem.u32 (CSem.i32 (CSem.lor (4 : Int) (2 : Int))) = ((6 : Nat) : Int) := by decide +kernel
  have c2 : CSem.u32 (-(CSem.i32 (CSem.lor (4 : Int) (2 : Int))) - 1) = ((4294967289 : Nat) : Int) := by decide +kernel
  have hm' : mask % 2 ^ 32 = mask := Nat.mod_eq_of_lt hm
  have hm64 : mask < 2 ^ 64 := Nat.lt_trans hm (by decide)
  unfold inotify_events FsEvent.eventsOf
  rw [c1, c2, CSem.land_natCast hm64 (by decide), CSem.land_natCast hm64 (by decide), hm']
  have k1 : FsEvent.IN_ATTRIB ||| FsEvent.IN_MODIFY = 6 := by decide
  have k2 : 2 ^ 32 - 1 - 6 = 4294967289 := by decide
  rw [k1, k2]
  simp only [kernel_simp]
  by_cases ha : mask &&& 6 = 0 <;> by_cases hb : mask &&& 4294967289 = 0 <;> simp only [ha, hb, kernel_simp]

/-- the mask `uv_fs_event_start` registers (linux.c:2673-2680) = `FsEvent.WATCH_MASK` -/
theorem fs_event_start_mask_eq : fs_event_start_mask.map (·.events) = some ((FsEvent.WATCH_MASK : Nat) : Int) := by
  decide

/-- `compare_watchers` (linux.c:2465-2470) = `FsEvent.cmpWd` on the two `wd` fields -/
theorem compare_watchers_eq (a b : Int) :
    (compare_watchers a b).map (·.ret) = some (FsEvent.cmpWd a b) := by
  unfold compare_watchers FsEvent.cmpWd
  simp only [kernel_simp]

/-! The order laws the RB-tree macros of src/unix/tree.h rely on, proved of the model comparator;
    by `compare_watchers_eq` they hold of the comparator generated from the C text. -/

theorem cmpWd_antisymm (a b : Int) : FsEvent.cmpWd a b = -(FsEvent.cmpWd b a) :=
  cmp3_antisymm (lt := (· < ·)) (fun _ _ => Int.lt_asymm) a b

theorem cmpWd_neg_iff_pos (a b : Int) : FsEvent.cmpWd a b < 0 ↔ FsEvent.cmpWd b a > 0 := by
  rw [cmpWd_antisymm a b]; omega

theorem cmpWd_neg_iff_lt (a b : Int) : FsEvent.cmpWd a b < 0 ↔ a < b :=
  cmp3_neg_iff_lt (lt := (· < ·)) a b

theorem cmpWd_zero_iff_eq (a b : Int) : FsEvent.cmpWd a b = 0 ↔ a = b :=
  cmp3_zero_iff_eq (lt := (· < ·)) (fun _ _ => Int.lt_asymm) Int.lt_trichotomy a b

theorem cmpWd_trans (a b c : Int) : FsEvent.cmpWd a b < 0 → FsEvent.cmpWd b c < 0 → FsEvent.cmpWd a c < 0 := by
  simp only [cmpWd_neg_iff_lt]; omega

theorem cmpWd_total (a b : Int) : FsEvent.cmpWd a b < 0 ∨ a = b ∨ FsEvent.cmpWd b a < 0 := by
  simp only [cmpWd_neg_iff_lt]; omega

/-- the same laws for the generated comparator -/
theorem compare_watchers_order_laws (a b c : Int) :
    (∃ x y, (compare_watchers a b).map (·.ret) = some x ∧ (compare_watchers b a).map (·.ret) = some y ∧
        x = -y ∧ (x < 0 ↔ y > 0) ∧ (x = 0 ↔ a = b) ∧ (x < 0 ∨ a = b ∨ y < 0)) ∧
    (∀ x y z, (compare_watchers a b).map (·.ret) = some x → (compare_watchers b c).map (·.ret) = some y →
        (compare_watchers a c).map (·.ret) = some z → x < 0 → y < 0 → z < 0) := by
  simp only [compare_watchers_eq, Option.some.injEq]
  refine ⟨⟨_, _, rfl, rfl, cmpWd_antisymm a b, cmpWd_neg_iff_pos a b, cmpWd_zero_iff_eq a b, cmpWd_total a b⟩, ?_⟩
  intro x y z hx hy hz
  subst hx hy hz
  exact cmpWd_trans a b c

example : (statbuf_eq 1 2 3 4 5 6 7 8 9 10 11 12 13 14 1 2 3 4 5 6 7 8 9 10 11 12 13 14).map (·.ret) = some 1 ∧
    (statbuf_eq 1 2 3 4 5 6 7 8 9 10 11 12 13 14 1 2 3 4 5 6 7 8 9 10 11 12 99 14).map (·.ret) = some 0 ∧
    (fs_poll_rearm 1250 100 1000).map (·.interval) = some 50 ∧
    (fs_poll_rearm 1000 100 1000).map (·.interval) = some 100 ∧
    (compare_watchers 3 5).map (·.ret) = some (-1) ∧ (compare_watchers 5 3).map (·.ret) = some 1 ∧
    (compare_watchers 4 4).map (·.ret) = some 0 := by decide +kernel

end UvModel.GenEq
