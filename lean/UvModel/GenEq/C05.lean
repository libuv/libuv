import UvModel.Generated.Kernels
import UvModel.StreamW
import UvModel.Lemmas.CSemLemmas
/-!
  Tie A obligations for C05 (src/unix/stream.c, write side): the return-value decision of
  `uv_try_write2`, the entry table `uv__check_before_write`, the iovec-count clamp and the
  errno mapping at the end of `uv__try_write`, as generated from the current C text, equal what
  `StreamW.tryWrite2`, `StreamW.checkBeforeWrite` and `StreamW.tryWriteOnce` compute.
  `0` = NULL.  `uv__getiovmax()` is the model's `IOV_MAX`.
-/
namespace UvModel.GenEq
open UvModel UvModel.Generated UvModel.StreamW

/-- `uv__check_before_write` (stream.c:1295-1331) = `StreamW.checkBeforeWrite`.  The write model
    abstracts "`type == UV_NAMED_PIPE && ipc`" as `s.ipc` and only ever sends open handles
    (`uv__handle_fd(send_handle) ≥ 0`).  The same generated kernel is tied to the accept model's table
    `Accept.checkBeforeWrite`, which keeps the handle's descriptor, in GenEq/C07.lean. -/
theorem check_before_write_w_eq (s : S) (send : Bool) (fd ty ipc sendp hfd : Int)
    (hfd0 : s.fdOpen = decide (0 ≤ fd)) (hty : 0 ≤ ty ∧ ty < 4294967296)
    (hipc : s.ipc = (decide (ty = CEnum.UV_NAMED_PIPE) && decide (ipc ≠ 0)))
    (hsend : send = decide (sendp ≠ 0)) (hh : 0 ≤ hfd) :
    (check_before_write hfd sendp s.writable fd ipc ty).map (·.ret) = some (checkBeforeWrite s send) := by
  unfold check_before_write checkBeforeWrite
  rw [CSem.u32_of_range hty.1 hty.2, hfd0, hipc, hsend]
  simp only [kernel_simp, Int.not_le, Int.not_lt.mpr hh, show CSem.u32 CEnum.UV_NAMED_PIPE = CEnum.UV_NAMED_PIPE from rfl]
  by_cases h3 : sendp = 0 <;> simp only [h3, kernel_simp] <;> rfl

/-- the return value of `StreamW.tryWrite2`: what happens to the state afterwards does not touch it -/
theorem tryWrite2_ret (s : S) (bufs : List Nat) (send : Bool) :
    (tryWrite2 s bufs send).2 =
      let s' := { s with nextId := s.nextId + 1 }
      if s.connecting ∨ s.wqs ≠ 0 then UV_EAGAIN
      else if checkBeforeWrite s' send < 0 then checkBeforeWrite s' send
      else (tryWriteOnce s' bufs send s.nextId 0).1 := by
  unfold tryWrite2
  simp only [apply_ite Prod.snd, ite_self]

/-- `uv_try_write2` (stream.c:1423-1438): which of `UV_EAGAIN`, the entry check's error and
    `uv__try_write`'s answer is returned = the return value of `StreamW.tryWrite2` -/
theorem try_write2_eq (s : S) (bufs : List Nat) (send : Bool) (connreq : Int)
    (hc : s.connecting = decide (connreq ≠ 0)) :
    let s' := { s with nextId := s.nextId + 1 }
    (try_write2 (checkBeforeWrite s' send) (tryWriteOnce s' bufs send s.nextId 0).1 connreq s.wqs).map (·.ret)
      = some (tryWrite2 s bufs send).2 := by
  intro s'
  have hc' : s.connecting = true ↔ connreq ≠ 0 := by rw [hc, decide_eq_true_eq]
  rw [tryWrite2_ret]
  unfold try_write2
  simp only [hc', kernel_simp]
  rfl

/-- the iovec count handed to the kernel (stream.c:767-774) = the `iovcnt` of `StreamW.tryWriteOnce`
    (`nbufs` is an `unsigned int` converted to `int`: counts below 2^31) -/
theorem try_write_iovcnt_eq (lens : List Nat) (h : lens.length < 2 ^ 31) :
    (try_write_iovcnt (IOV_MAX : Nat) (lens.length : Nat)).map (·.iovcnt)
      = some (((if lens.length > IOV_MAX then IOV_MAX else lens.length : Nat)) : Int) := by
  unfold try_write_iovcnt
  rw [CSem.i32_of_range (by omega) (by omega)]
  simp only [kernel_simp]

theorem try_write_result_core (x n errno : Int) (hx : x < 2147483648) (hpos : 0 ≤ x → n = x)
    (hneg : x < 0 → n = -1 ∧ errno = -x) :
    (try_write_result errno n).map (·.ret) =
      some (if x ≥ 0 then x else if x = -(EAGAIN : Int) ∨ x = -(ENOBUFS : Int) then UV_EAGAIN else x) := by
  unfold try_write_result
  by_cases h0 : 0 ≤ x
  · obtain rfl := hpos h0
    simp only [h0, kernel_simp, CSem.i32_of_range (by omega) hx]
  · obtain ⟨rfl, rfl⟩ := hneg (Int.lt_of_not_ge h0)
    have e1 : -x = 11 ↔ x = -(EAGAIN : Int) := by unfold EAGAIN; omega
    have e2 : -x = 105 ↔ x = -(ENOBUFS : Int) := by unfold ENOBUFS; omega
    simp only [h0, kernel_simp, Int.reduceNeg, Int.reduceLE, e1, e2, or_self, Int.neg_neg]
    rfl

/-- the tail of `uv__try_write` (stream.c:818-838): a count is returned as it is, `EAGAIN` /
    `EWOULDBLOCK` / `ENOBUFS` become `UV_EAGAIN`, any other errno is negated = the first component of
    `StreamW.tryWriteOnce`, where `x` is what the model's system-call loop answered (a count, or
    `-errno`); `n`/`errno` are the C variables in that situation.  Counts fit an `int` (Linux
    transfers at most 0x7ffff000 bytes per call). -/
theorem try_write_result_eq (s : S) (lens : List Nat) (send : Bool) (tag off : Nat) (n errno : Int) :
    let iovcnt := if lens.length > IOV_MAX then IOV_MAX else lens.length
    let total := (lens.take iovcnt).sum
    let kind := if send then 2 else if iovcnt = 1 then 0 else 1
    let x := (sysLoop kind iovcnt total send tag off s.env s).1
    x < 2147483648 → (0 ≤ x → n = x) → (x < 0 → n = -1 ∧ errno = -x) →
    (try_write_result errno n).map (·.ret) = some (tryWriteOnce s lens send tag off).1 := by
  intro iovcnt total kind x hx hpos hneg
  unfold tryWriteOnce
  simp only [apply_ite Prod.fst]
  exact try_write_result_core x n errno hx hpos hneg

example : (try_write2 0 7 0 0).map (·.ret) = some 7 ∧ (try_write2 0 7 1 0).map (·.ret) = some (-11) ∧
    (try_write2 (-32) 7 0 0).map (·.ret) = some (-32) ∧ (try_write2 0 7 0 5).map (·.ret) = some (-11) ∧
    (try_write_iovcnt 1024 2000).map (·.iovcnt) = some 1024 ∧ (try_write_iovcnt 1024 3).map (·.iovcnt) = some 3 ∧
    (try_write_result 11 (-1)).map (·.ret) = some (-11) ∧ (try_write_result 105 (-1)).map (·.ret) = some (-11) ∧
    (try_write_result 32 (-1)).map (·.ret) = some (-32) ∧ (try_write_result 32 9).map (·.ret) = some 9 := by decide +kernel

end UvModel.GenEq
