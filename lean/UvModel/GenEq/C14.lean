import UvModel.Generated.Kernels
import UvModel.IoWatch
import UvModel.Lemmas.CSemLemmas
/-!
  Tie A obligations for C14 (`src/unix/core.c`): the watcher-table sizing (`next_power_of_two`, the size
  computation of `maybe_resize`) and the mask arithmetic / early-return / queue / `nfds` decisions of
  `uv__io_start`, `uv__io_stop`, `uv__io_active`, as generated from the current C text, equal the
  kernels `IoWatch.nextPow2`, `IoWatch.maybeResize`'s `nw`, and `ioStartK` / `ioStopK` below, which are
  proved to be exactly what `IoWatch.ioStart` / `IoWatch.ioStop` compute with (`ioStart_via_K`,
  `ioStop_via_K`).  C words are the `Mask.toNat` of the model's masks; `loop->watchers[w->fd]` is the
  opaque input `elem`, compared against NULL (`ioStart`) or against `w` (`ioStop`).
-/
namespace UvModel.IoWatch.Mask

/-! ## event masks as C words: the word operations act field by field -/

/-- the field of a mask that sits at bit `k` of its C word -/
def bit (m : Mask) : Nat → Bool
  | 0 => m.i | 1 => m.p | 2 => m.o | 3 => m.e | 4 => m.h | 13 => m.r | _ => false

/-- the table behind `testBit_toNat`: every bit of every mask word, and nothing from bit 14 on -/
theorem toNat_table : ∀ (i p o e h r : Bool),
    toNat ⟨i, p, o, e, h, r⟩ < 2 ^ 14 ∧
      ∀ k : Fin 14, (toNat ⟨i, p, o, e, h, r⟩).testBit k = bit ⟨i, p, o, e, h, r⟩ k := by decide +kernel

theorem toNat_lt (m : Mask) : m.toNat < 2 ^ 14 := (toNat_table m.i m.p m.o m.e m.h m.r).1

theorem toNat_lt64 (m : Mask) : m.toNat < 2 ^ 64 := Nat.lt_trans m.toNat_lt (by decide)

theorem testBit_toNat (m : Mask) (k : Nat) : m.toNat.testBit k = m.bit k := by
  by_cases hk : k < 14
  · exact (toNat_table m.i m.p m.o m.e m.h m.r).2 ⟨k, hk⟩
  · have hk := Nat.le_of_not_lt hk
    rw [Nat.testBit_lt_two_pow (Nat.lt_of_lt_of_le m.toNat_lt (Nat.pow_le_pow_right (by decide) hk))]
    obtain ⟨j, rfl⟩ := Nat.exists_eq_add_of_le hk
    rw [Nat.add_comm]
    rfl

theorem toNat_or (a b : Mask) : a.toNat ||| b.toNat = (a.or b).toNat :=
  Nat.eq_of_testBit_eq fun k => by
    rw [Nat.testBit_or, testBit_toNat, testBit_toNat, testBit_toNat]
    unfold bit Mask.or
    split <;> rfl

theorem toNat_and (a b : Mask) : a.toNat &&& b.toNat = (a.and b).toNat :=
  Nat.eq_of_testBit_eq fun k => by
    rw [Nat.testBit_and, testBit_toNat, testBit_toNat, testBit_toNat]
    unfold bit Mask.and
    split <;> rfl

/-- `a & ~b` on 32-bit words -/
theorem toNat_diff (a b : Mask) : a.toNat &&& (2 ^ 32 - (b.toNat + 1)) = (a.diff b).toNat :=
  Nat.eq_of_testBit_eq fun k => by
    rw [Nat.testBit_and, Nat.testBit_two_pow_sub_succ (Nat.lt_trans b.toNat_lt (by decide)),
      testBit_toNat, testBit_toNat, testBit_toNat]
    unfold bit Mask.diff
    split <;> simp

theorem ofNat_toNat (m : Mask) : ofNat m.toNat = m := by
  simp only [ofNat, testBit_toNat]
  rfl

theorem toNat_inj {a b : Mask} : a.toNat = b.toNat ↔ a = b :=
  ⟨fun h => by rw [← ofNat_toNat a, h, ofNat_toNat], fun h => by rw [h]⟩

theorem toNat_eq_zero {a : Mask} : a.toNat = 0 ↔ a = none :=
  toNat_inj (b := none)

end UvModel.IoWatch.Mask

namespace UvModel.GenEq
open UvModel UvModel.Generated UvModel.IoWatch

/-- one `val |= val >> k` on a value below 2^31 -/
theorem c14_step (v k : Nat) (hv : v < 2^31) :
    CSem.lor (v : Int) (CSem.shr (v : Int) k) = ((v ||| (v >>> k) : Nat) : Int) ∧ (v ||| (v >>> k)) < 2^31 := by
  have hs : v >>> k ≤ v := Nat.shiftRight_le v k
  have hs' : v >>> k < 2^31 := by omega
  refine ⟨?_, Nat.or_lt_two_pow hv hs'⟩
  rw [CSem.shr_natCast, CSem.lor_natCast] <;> omega

/-- `next_power_of_two` (core.c:859-868) = `IoWatch.nextPow2` for `1 ≤ val ≤ 2^31` (above that the C
    result wraps to 0; `uv__io_start` asserts `fd < INT_MAX`, descriptors are far below); the result
    stays within 2^31. -/
theorem next_power_of_two_eq (n : Nat) (h1 : 1 ≤ n) (h2 : n ≤ 2^31) :
    nextPow2 n ≤ 2^31 ∧
      next_power_of_two (n : Int) = some { ret := (nextPow2 n : Nat), val := (nextPow2 n : Nat) } := by
  have h0 : CSem.u32 ((n : Int) - CSem.u32 1) = ((n - 1 : Nat) : Int) := by
    rw [CSem.u32_one, ← Int.natCast_one, ← Int.natCast_sub h1]
    exact CSem.u32_natCast (by omega)
  obtain ⟨e1, b1⟩ := c14_step (n - 1) 1 (by omega)
  obtain ⟨e2, b2⟩ := c14_step _ 2 b1
  obtain ⟨e3, b3⟩ := c14_step _ 4 b2
  obtain ⟨e4, b4⟩ := c14_step _ 8 b3
  obtain ⟨e5, b5⟩ := c14_step _ 16 b4
  refine ⟨b5, ?_⟩
  simp only [next_power_of_two, nextPow2, h0, e1, e2, e3, e4, e5]
  rw [CSem.u32_one, ← Int.natCast_one, ← Int.natCast_add, CSem.u32_natCast (Nat.lt_trans (Nat.succ_lt_succ b5) (by decide))]

/-- `nextPow2 n ≥ n` (so the `- 2` of `maybe_resize` does not underflow for `len + 2`) -/
theorem nextPow2_ge (n : Nat) (h1 : 1 ≤ n) : n ≤ nextPow2 n := by
  have h : n - 1 ≤ nextPow2 n - 1 :=
    Nat.le_trans (Nat.le_trans (Nat.le_trans (Nat.le_trans Nat.left_le_or Nat.left_le_or) Nat.left_le_or)
      Nat.left_le_or) Nat.left_le_or
  simp only [nextPow2] at *
  omega

/-- `nwatchers = next_power_of_two(len + 2) - 2` (core.c:889): the generated callee composed with the
    generated size slice = the `nw` of `IoWatch.maybeResize`.  (The argument expression `len + 2` of the
    call is not part of the slice: arguments of calls are not translated; Tie B covers it.) -/
theorem maybe_resize_size_eq (len : Nat) (h : len + 2 ≤ 2^31) :
    ((next_power_of_two ((len + 2 : Nat) : Int)).bind fun p => maybe_resize_size p.ret).map (·.nwatchers)
      = some ((nextPow2 (len + 2) - 2 : Nat) : Int) := by
  obtain ⟨hle, heq⟩ := next_power_of_two_eq (len + 2) (by omega) h
  have hge : 2 ≤ nextPow2 (len + 2) := Nat.le_trans (Nat.le_add_left 2 len) (nextPow2_ge (len + 2) (by omega))
  rw [heq]
  simp only [Option.bind_some, maybe_resize_size, Option.map_some]
  rw [show CSem.u32 2 = ((2 : Nat) : Int) from rfl, ← Int.natCast_sub hge,
    CSem.u32_natCast (Nat.lt_of_le_of_lt (Nat.sub_le ..) (Nat.lt_of_le_of_lt hle (by decide)))]

theorem c14_lor_mask (a b : Mask) : CSem.lor a.toNat b.toNat = ((a.or b).toNat : Int) := by
  rw [CSem.lor_natCast a.toNat_lt64 b.toNat_lt64, Mask.toNat_or]

theorem c14_land_mask (a b : Mask) : CSem.land a.toNat b.toNat = ((a.and b).toNat : Int) := by
  rw [CSem.land_natCast a.toNat_lt64 b.toNat_lt64, Mask.toNat_and]

/-- `a & ~b` on (32-bit unsigned) mask words -/
theorem c14_landnot_mask (a b : Mask) : CSem.land a.toNat (4294967295 - (b.toNat : Int)) = ((a.diff b).toNat : Int) := by
  have hb := b.toNat_lt
  have h : (4294967295 : Int) - (b.toNat : Int) = ((2 ^ 32 - (b.toNat + 1) : Nat) : Int) := by omega
  rw [h, CSem.land_natCast a.toNat_lt64 (by omega), Mask.toNat_diff]

/-- `uv__io_active` (core.c:992-996): `0 != (w->pevents & events)` -/
theorem io_active_eq : ∀ (a1 a2 a3 a4 a5 a6 b1 b2 b3 b4 b5 b6 : Bool),
    io_active (Mask.toNat ⟨b1, b2, b3, b4, b5, b6⟩) (Mask.toNat ⟨a1, a2, a3, a4, a5, a6⟩) =
      some { ret := CSem.b2i (decide (Mask.and ⟨a1, a2, a3, a4, a5, a6⟩ ⟨b1, b2, b3, b4, b5, b6⟩ ≠ Mask.none)) } := by
  intro a1 a2 a3 a4 a5 a6 b1 b2 b3 b4 b5 b6
  unfold io_active
  rw [c14_land_mask]
  simp only [kernel_simp, eq_comm (a := (0 : Int)), Mask.toNat_eq_zero]

/-- decisions of `uv__io_start` (core.c:917-942): new `pevents`; "insert into `loop->watcher_queue`";
    "claim the `loop->watchers[fd]` slot and `nfds++`" -/
def ioStartK (events pevents m : Mask) (qEmpty slotEmpty : Bool) : Mask × Bool × Bool :=
  let pe := pevents.or m
  if events = pe then (pe, false, false) else (pe, qEmpty, slotEmpty)

/-- `IoWatch.ioStart` computes with exactly `ioStartK` -/
theorem ioStart_via_K (s : St) (id : Nat) (m : Mask) :
    ioStart s id m =
      (let w := getW s id
       let s1 := maybeResize (setW s id { w with pevents := w.pevents.or m, clean := false }) (w.fd + 1)
       let k := ioStartK w.events w.pevents m (!s1.wq.contains id) (decide (watcherAt s1 w.fd = .none))
       let s2 := if k.2.1 then { s1 with wq := s1.wq ++ [id] } else s1
       if k.2.2 then { s2 with watchers := s2.watchers.set (getW s id).fd (some id), nfds := s2.nfds + 1 } else s2) := by
  simp only [ioStart, ioStartK]
  generalize maybeResize _ _ = s1
  by_cases h1 : (getW s id).events = (getW s id).pevents.or m
  · simp [h1]
  · cases s1.wq.contains id <;> simp [h1, watcherAt]

/-- `uv__io_start` as generated = `ioStartK`.  `elem` = `loop->watchers[w->fd]` (NULL = 0),
    `qempty` = `uv__queue_empty(&w->watcher_queue)`; `called_uv__queue_insert_tail` starts out `false`. -/
theorem io_start_eq (events pevents m : Mask) (elem nfds : Int) (qempty : Bool)
    (hn : 0 ≤ nfds ∧ nfds + 1 < 4294967296) :
    io_start false elem m.toNat nfds events.toNat pevents.toNat qempty =
      some { ret := 0
             w_pevents := ((ioStartK events pevents m qempty (decide (elem = 0))).1.toNat : Nat)
             called_uv__queue_insert_tail := (ioStartK events pevents m qempty (decide (elem = 0))).2.1
             loop_nfds := if (ioStartK events pevents m qempty (decide (elem = 0))).2.2 then nfds + 1 else nfds } := by
  unfold io_start ioStartK
  simp only [c14_lor_mask, CSem.u32_of_range (n := nfds + 1) (by omega) hn.2, kernel_simp, Mask.toNat_inj]
  by_cases h1 : events = pevents.or m
  · simp only [h1, kernel_simp]
  · by_cases h2 : elem = 0 <;> cases qempty <;> simp only [h1, h2, kernel_simp]

/-- decisions of `uv__io_stop` (core.c:945-973) once `fd != -1`: `none` = "never started" early return;
    else new `pevents`, new `events`, "remove from the watcher queue", "insert into the watcher queue",
    "clear the slot and `nfds--`" -/
def ioStopK (fd nw : Nat) (events pevents m : Mask) (qEmpty mine : Bool) : Option (Mask × Mask × Bool × Bool × Bool) :=
  if fd ≥ nw then none
  else
    let pe := pevents.diff m
    if pe = Mask.none then some (pe, Mask.none, true, false, mine)
    else some (pe, events, false, qEmpty, false)

/-- `IoWatch.ioStop` computes with exactly `ioStopK` -/
theorem ioStop_via_K (s : St) (id : Nat) (m : Mask) :
    ioStop s id m =
      (let w := getW s id
       match ioStopK w.fd s.watchers.length w.events w.pevents m (!s.wq.contains id)
               (decide (watcherAt s w.fd = some id)) with
       | none => s
       | some (pe, ev, rm, ins, dec) =>
         let s1 := setW s id { w with pevents := pe, events := ev }
         let s2 := if rm then { s1 with wq := s1.wq.erase id } else s1
         let s3 := if ins then { s2 with wq := s2.wq ++ [id] } else s2
         if dec then { s3 with watchers := s3.watchers.set w.fd .none, nfds := s3.nfds - 1 } else s3) := by
  simp only [ioStop, ioStopK]
  by_cases h0 : (getW s id).fd ≥ s.watchers.length
  · simp [h0]
  · by_cases h1 : (getW s id).pevents.diff m = Mask.none
    · by_cases h3 : s.watchers[(getW s id).fd]?.getD .none = some id <;> simp [h0, h1, h3, watcherAt, setW]
    · by_cases h2 : id ∈ s.wq <;> simp [h0, h1, h2, setW]

/-- `uv__io_stop` as generated = `ioStopK`.  `fd ≥ 0` (asserted by the C; `fd == -1` is the first early
    return, `io_stop_closed_fd`), `wptr` = `w`, `elem` = `loop->watchers[w->fd]`; `hpos` is the C's
    `assert(loop->nfds > 0)`. -/
theorem io_stop_eq (fd nw : Nat) (events pevents m : Mask) (elem wptr nfds : Int) (qempty : Bool)
    (hfd : fd < 2147483648)
    (hn : 0 ≤ nfds ∧ nfds < 4294967296) (hpos : wptr = elem → 1 ≤ nfds) :
    io_stop false false elem m.toNat nfds nw wptr events.toNat fd pevents.toNat qempty =
      some (match ioStopK fd nw events pevents m qempty (decide (wptr = elem)) with
            | none => { ret := 0, w_pevents := pevents.toNat, called_uv__queue_remove := false,
                        w_events := events.toNat, loop_nfds := nfds, called_uv__queue_insert_tail := false }
            | some (pe, ev, rm, ins, dec) =>
              { ret := 0, w_pevents := pe.toNat, called_uv__queue_remove := rm, w_events := ev.toNat,
                loop_nfds := if dec then nfds - 1 else nfds, called_uv__queue_insert_tail := ins }) := by
  unfold io_stop ioStopK
  have hf1 : ¬ (fd : Int) = -1 := by omega
  simp only [c14_landnot_mask, hf1, CSem.u32_natCast (Nat.lt_trans hfd (by decide)), kernel_simp, Mask.toNat_eq_zero]
  by_cases h0 : nw ≤ fd
  · simp only [h0, kernel_simp]
  · by_cases h1 : pevents.diff m = Mask.none
    · by_cases h3 : wptr = elem
      · have hp := hpos h3
        simp only [h0, h1, h3, kernel_simp, CSem.u32_of_range (n := nfds - 1) (by omega) (by omega)]
        rfl
      · simp only [h0, h1, h3, kernel_simp]
        rfl
    · cases qempty <;> simp only [h0, h1, kernel_simp]

/-- first early return of `uv__io_stop`: a watcher whose fd is -1 is left alone -/
theorem io_stop_closed_fd (elem ev nfds nw wptr we wp : Int) (q : Bool) :
    io_stop false false elem ev nfds nw wptr we (-1) wp q =
      some { ret := 0, w_pevents := wp, called_uv__queue_remove := false, w_events := we, loop_nfds := nfds,
             called_uv__queue_insert_tail := false } := by
  simp [io_stop]

/-- `uv__io_close` (core.c:976-983) = the call order of `IoWatch.ioClose`: `ioStop … Mask.all4`, removal from the
    pending queue, then `invalidate fd` unless the fd is -1 (the model's `W.fd` is a `Nat`: always open) -/
theorem io_close_eq (fd : Int) :
    io_close [] fd = some { ret := 0, call_seq :=
      [("uv__io_stop", [(Mask.all4.toNat : Int)]), ("uv__queue_remove", [])] ++
      (if fd ≠ -1 then [("uv__platform_invalidate_fd", [fd])] else []) } := by
  have hm : CSem.u32 (CSem.i32 (CSem.lor (CSem.i32 (CSem.lor (CSem.i32 (CSem.lor 1 4)) 8192)) 2)) =
      ((Mask.all4.toNat : Nat) : Int) := by decide +kernel
  unfold io_close
  by_cases h : fd = -1 <;> simp [h, hm]

example : (next_power_of_two 5).map (·.ret) = some 8 ∧ (next_power_of_two 1025).map (·.ret) = some 2048 ∧
    (next_power_of_two 1).map (·.ret) = some 1 := by decide +kernel
example : (io_start false 0 4 3 1 1 true).map (fun o => (o.w_pevents, o.called_uv__queue_insert_tail, o.loop_nfds))
    = some (5, true, 4) := by decide +kernel
example : (io_stop false false 77 1 3 8 77 1 5 1 false).map
    (fun o => (o.w_pevents, o.w_events, o.called_uv__queue_remove, o.loop_nfds)) = some (0, 0, true, 2) := by decide +kernel

end UvModel.GenEq
