import UvModel.Generated.Kernels
import UvModel.FsBuf
import UvModel.Lemmas.CSemLemmas
/-!
  Tie A obligations for C11 (src/unix/fs.c): which system call `uv__fs_write` / `uv__fs_read` issue
  for a given (`req->off`, `req->nbufs`) — including the `iovmax` clamp of the read path — and the
  normalisation of the result in `uv__fs_work`, as generated from the current C text, equal
  `FsBuf.writeSys`, `FsBuf.readSys` (on the clamped count, as `FsBuf.fsRead` uses it) and
  `FsBuf.mapResult`.  The answers of the system calls are inputs: `f y` is what call `y` returns.
-/
namespace UvModel.GenEq
open UvModel UvModel.Generated UvModel.FsBuf

/-- the value returned when the route is `r`: the chosen call's answer, `0` when no call is made -/
def routeVal (r : Option Sys) (f : Sys → Int) : Int :=
  match r with
  | none => 0
  | some y => f y

theorem routeVal_none (f : Sys → Int) : routeVal none f = 0 := rfl
theorem routeVal_some (y : Sys) (f : Sys → Int) : routeVal (some y) f = f y := rfl

/-- `uv__fs_write` (fs.c:1196-1222) returns the answer of the call `FsBuf.writeSys` names -/
theorem fs_write_route_eq (f : Sys → Int) (off bufs fd : Int) (nbufs : Nat) (hn : nbufs < 2 ^ 64) :
    (fs_write_route (f .pwrite) (f .pwritev) (f .write) (f .writev) bufs fd nbufs off).map (·.ret)
      = some (routeVal (writeSys off nbufs) f) := by
  unfold fs_write_route writeSys
  simp only [CSem.u64_natCast hn, CSem.u64_one]
  simp only [← Int.natCast_one, kernel_simp, apply_ite (routeVal · f), routeVal_none, routeVal_some]

/-- `uv__fs_read` (fs.c:510-561) clamps the count to `iovmax` and returns the answer of the call
    `FsBuf.readSys` names for the clamped count — the route `FsBuf.fsRead` takes — and leaves
    `req->bufs = NULL`, `req->nbufs = 0` -/
theorem fs_read_route_eq {α : Type} (f : Sys → Int) (off bufsp bufsml cb fd : Int) (bufs : List (List α))
    (iovmax : Nat) (hn : bufs.length < 2 ^ 32) (hi : iovmax < 2 ^ 31) :
    (fs_read_route (f .pread) (f .read) (f .readv) iovmax (f .preadv) bufsp bufsml cb fd bufs.length off).map
        (fun o => (o.ret, o.req_bufs, o.req_nbufs))
      = some (routeVal (readSys off (bufs.take iovmax).length) f, 0, 0) := by
  unfold fs_read_route readSys
  simp only [CSem.u64_natCast (Nat.lt_trans hn (by decide)), CSem.u64_natCast (Nat.lt_trans hi (by decide)),
    CSem.u32_of_range (Int.natCast_nonneg iovmax) (Int.ofNat_lt.mpr (Nat.lt_trans hi (by decide))),
    CSem.u64_one, CSem.u32_zero, List.length_take]
  -- the branches on `req->cb` and `req->bufs != req->bufsml` only choose what to free: they collapse
  simp only [← Int.natCast_one, kernel_simp, apply_ite (routeVal · f), routeVal_none, routeVal_some,
    apply_ite (Prod.mk · ((0 : Int), (0 : Int)))]
  by_cases hcl : iovmax < bufs.length
  · simp only [hcl, if_true, Nat.min_eq_left (Nat.le_of_lt hcl)]
  · simp only [hcl, if_false, Nat.min_eq_right (Nat.le_of_not_lt hcl)]

/-- `uv__fs_work` (fs.c:1750-1753): `req->result = (r == -1) ? UV__ERR(errno) : r` = `FsBuf.mapResult` -/
theorem fs_work_result_eq (r : Int) (errno : Nat) :
    (fs_work_result errno r).map (·.req_result) = some (mapResult r errno) := by
  unfold fs_work_result mapResult
  by_cases h : r = -1 <;> simp [h]

example : (fs_write_route 1 2 3 4 9 9 1 (-1)).map (·.ret) = some 3 ∧ (fs_write_route 1 2 3 4 9 9 2 (-1)).map (·.ret) = some 4 ∧
    (fs_write_route 1 2 3 4 9 9 1 0).map (·.ret) = some 1 ∧ (fs_write_route 1 2 3 4 9 9 5 7).map (·.ret) = some 2 ∧
    (fs_write_route 1 2 3 4 9 9 0 7).map (·.ret) = some 0 ∧
    (fs_read_route 1 2 3 1 4 9 8 0 9 5 (-1)).map (·.ret) = some 2 ∧ (fs_read_route 1 2 3 1024 4 9 8 0 9 5 (-1)).map (·.ret) = some 3 ∧
    (fs_work_result 4 (-1)).map (·.req_result) = some (-4) ∧ (fs_work_result 4 17).map (·.req_result) = some 17 := by decide +kernel

end UvModel.GenEq
