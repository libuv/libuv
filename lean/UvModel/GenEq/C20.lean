import UvModel.Generated.Kernels
import UvModel.ThreadArith
import UvModel.Lemmas.ThreadLemmas
import UvModel.Lemmas.CSemLemmas
/-!
  Tie A obligations for C20 (see UvModel/GenEq.lean for the principle): the kernels generated from
  the current text of src/unix/thread.c and src/thread-common.c equal the `ThreadArith` functions
  `createExStack`, `deadline`, `trylockMap`, `semFinal`, `timedwaitMap`, `barrierWaitMap`, `mustZero`.
  Not tied here (Tie B only): `condInit`, `rmutexInit`, `simpleInit`, `semInit`, `attrSetup`, `hrtimeClock`,
  `semWait`; `minStackSize` and `threadStackSize` enter `thread_stack_size_eq` as inputs.
-/
namespace UvModel.GenEq
open UvModel UvModel.Generated UvModel.ThreadArith

/-- for a power-of-two page size `2^k`, `x & ~(2^k - 1)` as generated (`~y` on a 64-bit word is
    `2^64-1 - y`) clears the low `k` bits: it is `x - x % 2^k` -/
theorem land_align (x k : Nat) (hk : k ≤ 64) (hx : x < 2 ^ 64) :
    CSem.land (x : Int) (18446744073709551615 - ((2 ^ k - 1 : Nat) : Int)) = ((x - x % 2 ^ k : Nat) : Int) := by
  have h1 : 0 < 2 ^ k := Nat.pos_of_ne_zero (by simp)
  have h2 : 2 ^ k ≤ 2 ^ 64 := Nat.pow_le_pow_right (by omega) hk
  have h3 : (18446744073709551615 : Int) - ((2 ^ k - 1 : Nat) : Int) = ((2 ^ 64 - 2 ^ k : Nat) : Int) := by omega
  rw [h3, CSem.land_natCast hx (by omega), and_mask x k hk hx]

example : CSem.land 12345 (18446744073709551615 - 4095) = 12288 := by decide +kernel

example : CEnum.UV_THREAD_HAS_STACK_SIZE = (UV_THREAD_HAS_STACK_SIZE : Int) := by decide +kernel

/-- what the slice's final state means for the rest of `uv_thread_create_ex` (thread.c:172-179:
    `if (stack_size > 0) pthread_attr_setstacksize(attr, stack_size)`) -/
def stackOut (o : Out_thread_stack_size) : StackOut :=
  if o.ret = CEnum.UV_EINVAL then .einval
  else .create (if o.stack_size > 0 then some o.stack_size.toNat else none)

theorem stackOut_ok (s : Nat) (a b : Int) :
    stackOut { ret := 0, stack_size := s, pagesize := a, min_stack_size := b } = .create (if s > 0 then some s else none) := by
  unfold stackOut
  simp only [CEnum.UV_EINVAL, Int.reduceNeg, Int.reduceEq, if_false, Int.natCast_pos, Int.toNat_natCast, gt_iff_lt]

theorem stackOut_einval (s a b : Int) :
    stackOut { ret := CEnum.UV_EINVAL, stack_size := s, pagesize := a, min_stack_size := b } = .einval :=
  if_pos rfl

/-- the stack-size slice of `uv_thread_create_ex` = `ThreadArith.createExStack`, for every page size
    `1 ≤ p < 2^64` and every 64-bit request; `junk1/2` are the (never read) initial values of the
    locals `min_stack_size`/`pagesize` -/
theorem thread_stack_size_eq (e : Env) (flags r : Nat) (junk1 junk2 : Int)
    (hp1 : 1 ≤ e.pagesize) (hp : e.pagesize < 2 ^ 64) (hr : r < 2 ^ 64) :
    (thread_stack_size (e.pagesize : Int) (minStackSize e : Int) (threadStackSize e : Int) junk1 junk2
        (decide (flags &&& UV_THREAD_HAS_STACK_SIZE ≠ 0)) (r : Int)).map stackOut
      = some (createExStack e flags r) := by
  unfold thread_stack_size createExStack
  generalize e.pagesize = p at hp1 hp ⊢
  by_cases hf : flags &&& UV_THREAD_HAS_STACK_SIZE ≠ 0
  · have hN : not64 (p - 1) < 2 ^ 64 := by unfold not64; omega
    have e1 : CSem.u64 ((p : Int) - 1) = ((p - 1 : Nat) : Int) := CSem.u64_natCast_sub hp1 hp
    have e2 : (18446744073709551615 : Int) - ((p - 1 : Nat) : Int) = ((not64 (p - 1) : Nat) : Int) := by
      unfold not64
      rw [Int.natCast_sub (Nat.le_of_lt_succ (Nat.lt_of_le_of_lt (Nat.sub_le p 1) hp))]
      rfl
    have e3 : 1 ≤ r → CSem.u64 ((r : Int) + p - 1) = (((r + p - 1) % 2 ^ 64 : Nat) : Int) := fun h => by
      rw [← CSem.u64_natCast_mod, Int.natCast_sub (by omega), Int.natCast_add, Int.natCast_one]
    have e4 : SIZE_MAX - (p - 1) = not64 (p - 1) := rfl
    -- the wraps of the C text cancel, except the outermost one of `stack_size + pagesize - 1` (`e3`)
    simp only [hf, kernel_simp, e1, e2, e4, CSem.u64_natCast hN, stackOut_ok, stackOut_einval]
    by_cases h0 : r = 0
    · simp only [h0, kernel_simp]
    · simp only [h0, kernel_simp, e3 (Nat.pos_of_ne_zero h0), CSem.land_natCast (Nat.mod_lt _ (by decide)) hN, stackOut_ok]
      by_cases h2 : (r + p - 1) % 2 ^ 64 &&& not64 (p - 1) < minStackSize e <;> simp only [h2, kernel_simp]
  · simp only [hf, kernel_simp, stackOut_ok]

/-- the `uv_cond_timedwait` deadline computation = `ThreadArith.deadline` -/
theorem cond_deadline_eq (now timeout : Nat) (hn : now < 2 ^ 64) (ht : timeout < 2 ^ 64) :
    (cond_deadline (now : Int) (timeout : Int)).map (fun o => (o.ret, o.now, o.ts_tv_sec, o.ts_tv_nsec))
      = some (0, (now : Int), ((deadline now timeout).1 : Int), ((deadline now timeout).2 : Int)) := by
  have e1 : CSem.u64 (18446744073709551615 - (now : Int)) = ((2 ^ 64 - 1 - now : Nat) : Int) := by
    rw [Int.natCast_sub (by omega)]
    exact CSem.u64_of_range (by omega) (by omega)
  have e2 : (18446744073709551615 : Int) = ((2 ^ 64 - 1 : Nat) : Int) := rfl
  have e3 : (1000000000 : Int) = ((1000000000 : Nat) : Int) := rfl
  unfold cond_deadline deadline NANOSEC
  simp only [e1]
  -- every value is a cast of a natural number: compare, divide and take remainders there
  simp only [e2, e3, ← Int.natCast_add, CSem.u64_natCast_mod, ← Int.natCast_ediv, ← Int.natCast_emod, kernel_simp]
  split <;> rfl

example : (cond_deadline 18000000000000000000 500000000000000000).map (·.ts_tv_sec) = some 18446744073 := by decide +kernel
example : (thread_stack_size 4096 16384 8388608 0 0 true 20000).map (·.stack_size) = some 20480 := by decide +kernel

/-- an `Option` result of a generated kernel as a `ThreadArith.Out` -/
def toOut {α} (ret : α → Int) : Option α → Out
  | none => .abort
  | some o => .ret (ret o)

theorem toOut_none {α} (ret : α → Int) : toOut ret none = .abort := rfl
theorem toOut_some {α} (ret : α → Int) (o : α) : toOut ret (some o) = .ret (ret o) := rfl

theorem mutex_trylock_eq (err : Int) : toOut (·.ret) (mutex_trylock err) = trylockMap err := by
  unfold mutex_trylock trylockMap
  simp only [apply_ite (toOut _), toOut_none, toOut_some, bne_iff_ne, Bool.and_eq_true, decide_eq_true_eq]
  rfl

theorem rwlock_tryrdlock_eq (err : Int) : toOut (·.ret) (rwlock_tryrdlock err) = trylockMap err := by
  unfold rwlock_tryrdlock trylockMap
  simp only [apply_ite (toOut _), toOut_none, toOut_some, bne_iff_ne, Bool.and_eq_true, decide_eq_true_eq]
  rfl

theorem rwlock_trywrlock_eq (err : Int) : toOut (·.ret) (rwlock_trywrlock err) = trylockMap err := by
  unfold rwlock_trywrlock trylockMap
  simp only [apply_ite (toOut _), toOut_none, toOut_some, bne_iff_ne, Bool.and_eq_true, decide_eq_true_eq]
  rfl

/-- tail of `uv__sem_trywait` (after the EINTR retry loop) = `semFinal` -/
theorem sem_trywait_final_eq (r e : Int) : toOut (·.ret) (sem_trywait_final e r) = semFinal r e := by
  unfold sem_trywait_final semFinal
  simp only [apply_ite (toOut _), toOut_none, toOut_some, bne_iff_ne, beq_iff_eq, decide_eq_true_eq]
  rfl

/-- tail of `uv_cond_timedwait` (after `pthread_cond_timedwait`) = `timedwaitMap` -/
theorem cond_timedwait_result_eq (r : Int) : toOut (·.ret) (cond_timedwait_result r) = timedwaitMap r := by
  unfold cond_timedwait_result timedwaitMap
  simp only [apply_ite (toOut _), toOut_none, toOut_some, beq_iff_eq, decide_eq_true_eq]
  rfl

theorem barrier_wait_eq (rc : Int) : toOut (·.ret) (barrier_wait rc) = barrierWaitMap rc := by
  unfold barrier_wait barrierWaitMap toOut SERIAL_THREAD CSem.b2i
  by_cases h0 : rc = 0 <;> by_cases h1 : rc = -1 <;> simp_all

/-- the `if (pthread_xxx(..)) abort();` wrappers = `mustZero` -/
theorem must_zero_eq (rc : Int) :
    toOut (·.ret) (mutex_lock rc) = mustZero rc ∧ toOut (·.ret) (mutex_unlock rc) = mustZero rc ∧
    toOut (·.ret) (cond_wait rc) = mustZero rc := by
  unfold mutex_lock mutex_unlock cond_wait mustZero toOut
  by_cases h0 : rc = 0 <;> simp_all

example : toOut (·.ret) (mutex_trylock 16) = .ret (-16) ∧ toOut (·.ret) (mutex_trylock 22) = .abort ∧
    toOut (·.ret) (sem_trywait_final 11 (-1)) = .ret (-11) ∧ toOut (·.ret) (cond_timedwait_result 110) = .ret (-110) ∧
    toOut (·.ret) (barrier_wait (-1)) = .ret 1 := by decide +kernel

end UvModel.GenEq
