import UvModel.Generated.Kernels
import UvModel.StreamR
/-!
  Tie A obligations for C06 (read side): the argument/state checks of `uv_read_start`
  (src/uv-common.c), the flag and callback updates of `uv__read_start` and `uv_read_stop`
  (src/unix/stream.c; the watcher calls `uv__io_start`/`uv__io_stop` are left out, `pollin` stays tied
  by the correspondence harness), as generated from the current C text, equal `StreamR.readStart`
  and `StreamR.readStop`.  `0` = NULL; `hasCb` is `stream->read_cb != NULL`.
-/
namespace UvModel.GenEq
open UvModel UvModel.Generated UvModel.StreamR

/-- `uv__read_start` always succeeds; it switches reading on, clears the EOF mark and installs the
    callback, however the activation bookkeeping goes -/
theorem read_start_body_spec (acb rcb ah : Int) (act ref : Bool) :
    ∃ o, read_start_body acb rcb act ref ah = some o ∧ o.ret = 0 ∧ o.stream_flags__UV_HANDLE_READING = true ∧
      o.stream_flags__UV_HANDLE_READ_EOF = false ∧ o.stream_read_cb = rcb := by
  unfold read_start_body
  cases act <;> cases ref <;> exact ⟨_, rfl, rfl, rfl, rfl, rfl⟩

/-- `uv_read_start` + `uv__read_start` = `StreamR.readStart` for a call with non-NULL arguments:
    same return code; on success the same `UV_HANDLE_READING`, `UV_HANDLE_READ_EOF`, `read_cb`
    presence; on failure the model leaves the stream untouched, as the C (which returns before
    `uv__read_start`) does. -/
theorem read_start_eq (s : St) (streamp acb rcb ah : Int) (act ref : Bool)
    (hs : streamp ≠ 0) (ha : acb ≠ 0) (hr : rcb ≠ 0) :
    ∃ o, read_start_body acb rcb act ref ah = some o ∧
      (read_start_api acb o.ret rcb streamp s.closing s.readable s.reading).map (·.ret) = some (readStart s).1 ∧
      ((readStart s).1 = 0 →
         (readStart s).2.reading = o.stream_flags__UV_HANDLE_READING ∧
         (readStart s).2.readEof = o.stream_flags__UV_HANDLE_READ_EOF ∧
         (readStart s).2.hasCb = decide (o.stream_read_cb ≠ 0)) ∧
      ((readStart s).1 ≠ 0 → (readStart s).2 = s) := by
  obtain ⟨o, ho, h0, h1, h2, h3⟩ := read_start_body_spec acb rcb ah act ref
  refine ⟨o, ho, ?_⟩
  rw [h0, h1, h2, h3]
  unfold read_start_api readStart
  cases hcl : s.closing <;> cases hrd : s.reading <;> cases hrb : s.readable <;>
    simp [hs, ha, hr, CEnum.UV_EINVAL, CEnum.UV_EALREADY, CEnum.UV_ENOTCONN, UV_EINVAL, UV_EALREADY, UV_ENOTCONN]

/-- `uv_read_stop` (stream.c:1471-1483) = `StreamR.readStop`: always 0; reading is switched off and
    the callbacks are cleared exactly when the stream was reading -/
theorem read_stop_eq (s : St) (sacb srcb ah : Int) (act ref : Bool) (hcb : s.hasCb = decide (srcb ≠ 0)) :
    (read_stop sacb act s.reading ref ah srcb).map
        (fun o => (o.ret, o.stream_flags__UV_HANDLE_READING, decide (o.stream_read_cb ≠ 0)))
      = some (0, (readStop s).reading, (readStop s).hasCb) := by
  unfold read_stop readStop
  cases act <;> cases ref <;> cases hrd : s.reading <;> simp [hcb, hrd]

example : (read_start_api 1 0 1 1 false true false).map (·.ret) = some 0 ∧
    (read_start_api 1 0 1 1 true true false).map (·.ret) = some (-22) ∧
    (read_start_api 1 0 1 1 false true true).map (·.ret) = some (-114) ∧
    (read_start_api 1 0 1 1 false false false).map (·.ret) = some (-107) ∧
    (read_stop 5 true true true 3 6).map (fun o => (o.stream_flags__UV_HANDLE_READING, o.stream_read_cb, o.stream_loop_active_handles))
      = some (false, 0, 2) := by decide +kernel

end UvModel.GenEq
