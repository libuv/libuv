import UvModel.Generated.Kernels
import UvModel.HandleKernels
import UvModel.Lemmas.CSemLemmas
/-!
  Tie A obligations for C03: the loop-free decision code of `uv_run` (core.c:427-492) around its
  `while` loop, as generated from the current C text:
  * `run_entry`  — the statements before the loop: `r = uv__loop_alive(loop)`, the clock update when the
    loop is not alive, the UV_RUN_DEFAULT initial timers pass (`HandleKernels.initialTimers`);
  * `run_iter`   — ONE iteration of `while (r != 0 && loop->stop_flag == 0)`: the loop condition
    (`HandleKernels.runCond`), the order of the phase calls and the timeout handed to `uv__io_poll`
    (`runTimeout ∘ canSleep`), the loop counter, `r = uv__loop_alive(loop)`, and the
    `if (mode == UV_RUN_ONCE || mode == UV_RUN_NOWAIT) break;` decision (`loop_again`);
    the inner `for (r = 0; r < 8 && !empty(pending_queue); r++) uv__run_pending(loop);` is abstracted
    (its up to eight `uv__run_pending` calls are not in `call_seq`; `r` is overwritten afterwards);
  * `run_exit`   — the statements after the loop: `stop_flag` reset, `return r`.
  The right-hand sides are what `LoopRun.uvRun` / `LoopRun.runLoop` / `LoopRun.iteration` are written
  with: `alive`, `initialTimers`, `runCond`, `canSleep`, `runTimeout`, the order of the `let`s of
  `iteration`, `loopCount + 1`, `mode == .once || mode == .nowait`, `stop := false`.
-/
namespace UvModel.GenEq.Run
open UvModel UvModel.Generated UvModel.HandleKernels

/-- `uv_run_mode` values (`UvModel.GenEq.modeVal` of UvModel/GenEq.lean is the same encoding with the
    literal `2` for `UV_RUN_NOWAIT`) -/
def modeVal : Mode → Int
  | .default => CEnum.UV_RUN_DEFAULT
  | .once => CEnum.UV_RUN_ONCE
  | .nowait => CEnum.UV_RUN_NOWAIT

abbrev Calls := List (String × List Int)

/-- the tests of `mode` against the enumerators, read on the model's `Mode` -/
theorem mode_once (m : Mode) :
    decide ((CSem.u32 (modeVal m) == CSem.u32 CEnum.UV_RUN_ONCE) = true) = (m == .once) := by
  cases m <;> rfl

theorem mode_default (m : Mode) :
    decide ((CSem.u32 (modeVal m) == CSem.u32 CEnum.UV_RUN_DEFAULT) = true) = (m == .default) := by
  cases m <;> rfl

theorem mode_nowait (m : Mode) :
    decide ((CSem.u32 (modeVal m) == CSem.u32 CEnum.UV_RUN_NOWAIT) = true) = (m == .nowait) := by
  cases m <;> rfl

/-- calls made before the loop (the first two `let`s of `LoopRun.uvRun`): `updateTime` when the loop is not
    alive; `updateTime`, `runTimers` when `initialTimers` -/
def entryCalls (m : Mode) (r stop : Bool) : Calls :=
  (if !r then [("uv__update_time", [])] else []) ++
  (if initialTimers m r stop then [("uv__update_time", []), ("uv__run_timers", [])] else [])

/-- `uv_run` before its loop -/
theorem run_entry_eq (alive stopFlag : Int) (m : Mode) :
    run_entry [] alive stopFlag (modeVal m) =
      some { ret := 0, call_seq := entryCalls m (decide (alive ≠ 0)) (decide (stopFlag ≠ 0)), r := alive } := by
  unfold run_entry entryCalls initialTimers
  simp only [mode_default]
  simp only [CSem.u32_zero, bne_iff_ne, beq_iff_eq, ne_eq, decide_not, Bool.not_not, Bool.not_eq_true',
    decide_eq_true_eq]
  generalize (m == Mode.default && !decide (alive = 0) && decide (stopFlag = 0)) = t
  by_cases h : alive = 0 <;> cases t <;> simp [h]

/-- the phase calls of one iteration in the order of `LoopRun.iteration`: runPending, runWatchers idle,
    runWatchers prepare, ioPoll with the decided timeout, (pendingRounds: abstracted), runWatchers check,
    runClosing, updateTime, runTimers -/
def iterCalls (timeout : Int) : Calls :=
  [("uv__run_pending", []), ("uv__run_idle", []), ("uv__run_prepare", []), ("uv__io_poll", [timeout]),
   ("uv__run_check", []), ("uv__run_closing_handles", []), ("uv__update_time", []), ("uv__run_timers", [])]

/-- one iteration of `uv_run`'s loop: entered iff `runCond`; polls with `runTimeout mode (canSleep …) bt`;
    counts the iteration; `r` becomes `uv__loop_alive(loop)`; continues iff the mode is UV_RUN_DEFAULT.
    `hv` is whatever the abstracted inner loop left in `r`: the result does not depend on it. -/
theorem run_iter_eq (r stopFlag bt aliveAfter hv lc : Int) (pe ie : Bool) (m : Mode)
    (hlc : 0 ≤ lc ∧ lc + 1 < 18446744073709551616) :
    run_iter [] bt aliveAfter hv ie lc pe stopFlag (modeVal m) r =
      some (if runCond (decide (r ≠ 0)) (decide (stopFlag ≠ 0)) then
              { ret := 0, call_seq := iterCalls (runTimeout m (canSleep pe ie) bt),
                loop_internal_fields_loop_metrics_metrics_loop_count := lc + 1,
                r := aliveAfter, loop_again := !(m == .once || m == .nowait) }
            else
              { ret := 0, call_seq := [], loop_internal_fields_loop_metrics_metrics_loop_count := lc,
                r := r, loop_again := false }) := by
  unfold run_iter iterCalls runCond runTimeout canSleep
  rw [CSem.u64_of_range (by omega) hlc.2]
  simp only [mode_once, mode_default, mode_nowait]
  simp only [CSem.b2i_ne_zero, CSem.u32_zero, bne_iff_ne, beq_iff_eq, ne_eq, decide_not, Bool.not_not]
  -- three decisions are left, spelt alike on both sides: entered?, poll with `bt`?, again?
  generalize (!decide (r = 0) && decide (stopFlag = 0)) = c
  generalize (m == .once && (pe && ie) || m == .default) = t
  generalize (m == .once || m == .nowait) = a
  cases c <;> cases t <;> cases a <;> rfl

/-- `uv_run` after its loop: `loop->stop_flag` is 0 afterwards and `r` is returned (`{ s with stop := false }, r`) -/
theorem run_exit_eq (stopFlag r : Int) :
    run_exit stopFlag r = some { ret := r, loop_stop_flag := 0 } := by
  unfold run_exit CSem.u32
  by_cases h : stopFlag = 0 <;> simp [h]

example : (run_entry [] 1 0 0).map (·.call_seq) = some [("uv__update_time", []), ("uv__run_timers", [])] ∧
    (run_entry [] 0 0 0).map (·.call_seq) = some [("uv__update_time", [])] ∧
    (run_entry [] 1 0 1).map (·.call_seq) = some [] := by decide +kernel
example : (run_iter [] 250 1 0 true 7 true 0 1 1).map (fun o => (o.call_seq.map (·.2), o.loop_again, o.r)) =
    some ([[], [], [], [250], [], [], [], []], false, 1) ∧
    (run_iter [] 250 1 0 false 7 true 0 1 1).map (fun o => o.call_seq.map (·.2)) =
    some [[], [], [], [0], [], [], [], []] ∧
    (run_iter [] 250 1 0 true 7 true 1 0 1).map (·.loop_again) = some false := by decide +kernel

end UvModel.GenEq.Run
