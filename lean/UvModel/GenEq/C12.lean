import UvModel.Generated.Kernels
import UvModel.ProcFd
import UvModel.Lemmas.CSemLemmas
/-!
  Tie A obligation for C12: the wait-status decode of `uv__wait_children` (process.c:166-172, the
  glibc `WIFEXITED/WEXITSTATUS/WIFSIGNALED/WTERMSIG` macros expanded to bit operations on an `int`)
  as generated from the current C text equals `ProcFd.decode` on the 32-bit pattern of the status.
-/
namespace UvModel.GenEq
open UvModel UvModel.Generated UvModel.ProcFd

/-- a mask below 2^32 only sees the low 32 bits of the other operand -/
theorem land_low32 (x : Int) (m : Nat) (hm : m < 2 ^ 32) :
    CSem.land x m = (((x % 4294967296).toNat &&& m : Nat) : Int) := by
  have h3 : (x % 18446744073709551616).toNat % 2 ^ 32 = (x % 4294967296).toNat := by
    apply Int.natCast_inj.mp
    rw [Int.natCast_emod, Int.toNat_of_nonneg (Int.emod_nonneg _ (by decide)),
      Int.toNat_of_nonneg (Int.emod_nonneg _ (by decide))]
    exact Int.emod_emod_of_dvd x ⟨4294967296, rfl⟩
  have h : m &&& (2 ^ 32 - 1) = m := by
    rw [Nat.and_two_pow_sub_one_eq_mod, Nat.mod_eq_of_lt hm]
  unfold CSem.land
  rw [CSem.u64_natCast (Nat.lt_trans hm (by decide)), Int.toNat_natCast, ← h3]
  unfold CSem.u64
  -- `x & m = (x & (2^32-1)) & m` because `m & (2^32-1) = m`
  rw [← Nat.and_two_pow_sub_one_eq_mod _ 32, Nat.and_assoc, Nat.and_comm (2 ^ 32 - 1) m, h]
  rfl

/-- `status & m` as generated, for an `int` status and a literal mask `m < 2^31`: the `Nat` and of
    the status' 32-bit pattern with `m` -/
theorem land_status (st : Int) (m : Nat) (hm : m < 2 ^ 31) :
    CSem.i32 (CSem.land st (m : Int)) = (((st % 4294967296).toNat &&& m : Nat) : Int) := by
  rw [land_low32 st m (Nat.lt_trans hm (by decide))]
  have hle : (st % 4294967296).toNat &&& m ≤ m := Nat.and_le_right
  exact CSem.i32_of_range (by omega) (by omega)

/-- the decode in `uv__wait_children` = `ProcFd.decode`, for every `int` status -/
theorem wait_decode_eq (st : Int) (hlo : -2147483648 ≤ st) (hhi : st < 2147483648) :
    (wait_decode st).map (fun o => (o.exit_status, o.term_signal))
      = some (((decode (st % 4294967296).toNat).1 : Int), ((decode (st % 4294967296).toNat).2 : Int)) := by
  unfold wait_decode decode wIfExited wIfSignaled wExitStatus wTermSig
  rw [show (127 : Int) = ((127 : Nat) : Int) from rfl, show (65280 : Int) = ((65280 : Nat) : Int) from rfl,
    land_status st 127 (by decide), land_status st 65280 (by decide)]
  generalize (st % 4294967296).toNat = w
  have h7 : w &&& 127 ≤ 127 := Nat.and_le_right
  generalize w &&& 127 = a at h7 ⊢
  generalize w &&& 65280 = b
  -- `(signed char) ((w & 0x7f) + 1)`: 128 wraps to -128, which is how the model writes it
  have hi8 : CSem.i8 ((a : Int) + 1) = if a + 1 ≥ 128 then ((a + 1 : Nat) : Int) - 256 else ((a + 1 : Nat) : Int) := by
    by_cases h : a + 1 ≥ 128
    · obtain rfl : a = 127 := by omega
      rfl
    · rw [if_neg h, Int.natCast_add, Int.natCast_one]
      exact CSem.i8_of_range (by omega) (by omega)
  have hshr : ∀ x : Int, CSem.shr x 1 = x >>> 1 := fun x => by
    rw [Int.shiftRight_eq_div_pow]
    rfl
  simp only [hi8, hshr, kernel_simp]
  generalize (if a + 1 ≥ 128 then ((a + 1 : Nat) : Int) - 256 else ((a + 1 : Nat) : Int)) = sc
  by_cases h1 : a = 0 <;> by_cases h2 : (0 : Int) < sc >>> 1 <;> simp only [h1, h2, kernel_simp]

/-- exited with code 3; killed by SIGKILL; killed by SIGSEGV with core dump (0x80 set);
    stopped (0x7f: neither exited nor signaled); a negative `int` -/
example : (wait_decode 0x0300).map (fun o => (o.exit_status, o.term_signal)) = some (3, 0) ∧
    (wait_decode 9).map (fun o => (o.exit_status, o.term_signal)) = some (0, 9) ∧
    (wait_decode 0x8b).map (fun o => (o.exit_status, o.term_signal)) = some (0, 11) ∧
    (wait_decode 0x137f).map (fun o => (o.exit_status, o.term_signal)) = some (0, 0) ∧
    (wait_decode (-256)).map (fun o => (o.exit_status, o.term_signal)) = some (255, 0) := by decide +kernel

end UvModel.GenEq
