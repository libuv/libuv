import UvModel.Generated.Kernels
import UvModel.Accept
import UvModel.Lemmas.CSemLemmas
/-!
  Tie A obligation for C07: `uv__check_before_write` (stream.c) as generated from the current C
  text equals `Accept.checkBeforeWrite`, the table `uv_write2`/`uv_try_write2` consult before a
  handle is queued for sending.
-/
namespace UvModel.GenEq
open UvModel UvModel.Generated UvModel.Accept

/-- `uv__check_before_write` = `Accept.checkBeforeWrite`.  `ty` is `stream->type` (an enum, hence
    `0 ≤ ty < 2^32`), `ipc` the `int` field of the pipe, `sendp` the `send_handle` pointer and `hfd`
    what `uv__handle_fd(send_handle)` answers.  The same generated kernel is tied to the write model's
    coarser table `StreamW.checkBeforeWrite` in GenEq/C05.lean (`check_before_write_w_eq`). -/
theorem check_before_write_eq (s : WStream) (send : Option Int) (ty ipc sendp hfd : Int)
    (hty : 0 ≤ ty ∧ ty < 4294967296) (hpipe : s.isPipe = decide (ty = CEnum.UV_NAMED_PIPE))
    (hipc : s.ipc = decide (ipc ≠ 0)) (hsend : sendp = 0 ↔ send = none)
    (hhfd : ∀ d, send = some d → hfd = d) :
    (check_before_write hfd sendp s.writable s.fd ipc ty).map (·.ret) = some (checkBeforeWrite s send) := by
  unfold check_before_write checkBeforeWrite
  rw [CSem.u32_of_range hty.1 hty.2, hpipe, hipc, show CSem.u32 CEnum.UV_NAMED_PIPE = CEnum.UV_NAMED_PIPE from rfl]
  cases send with
  | none =>
    simp only [hsend.mpr rfl, kernel_simp]
    rfl
  | some d =>
    have hsp : ¬ sendp = 0 := fun h => Option.some_ne_none d (hsend.mp h)
    obtain rfl := hhfd d rfl
    simp only [hsp, kernel_simp]
    rfl

example : (check_before_write 5 1 true 4 1 7).map (·.ret) = some 0 ∧
    (check_before_write 5 1 true 4 0 7).map (·.ret) = some (-22) ∧
    (check_before_write 5 1 true 4 1 12).map (·.ret) = some (-22) ∧
    (check_before_write (-1) 1 true 4 1 7).map (·.ret) = some (-9) ∧
    (check_before_write 5 0 false 4 1 7).map (·.ret) = some (-32) := by decide +kernel

end UvModel.GenEq
