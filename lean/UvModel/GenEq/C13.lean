import UvModel.Generated.Kernels
import UvModel.Signal
import UvModel.Lemmas.CSemLemmas
import UvModel.Lemmas.Cmp3
/-!
  Tie A obligations for C13 (src/unix/signal.c): the tree order `uv__signal_compare` and the
  decisions of `uv__signal_start` (argument check, same-signum short circuit, whether the process-wide
  handler is (re)registered, the values left in `signum` / `UV_SIGNAL_ONE_SHOT` / `signal_cb`), as
  generated from the current C text, equal `Signal.Key.lt` and `Signal.sigStart`.
  Pointer order = id order (the trusted convention of the C13 harness), `0` = NULL.
-/
namespace UvModel.GenEq
open UvModel UvModel.Generated UvModel.Signal

/-- one level of a lexicographic three-way comparison: decide on `x`, `y` first, then on the rest -/
theorem lex_level (x y : Nat) (P Q : Prop) [Decidable P] [Decidable Q] :
    (if x < y ∨ x = y ∧ P then (-1 : Int) else if y < x ∨ y = x ∧ Q then 1 else 0) =
      if x < y then -1 else if y < x then 1 else if P then -1 else if Q then 1 else 0 := by
  rcases Nat.lt_trichotomy x y with h | rfl | h
  · simp [h]
  · simp
  · simp [h, Nat.lt_asymm h, Nat.ne_of_gt h]

/-- `uv__signal_compare` (signal.c:502-529) = `Signal.Key.cmp`: `-1` iff `a < b` (`Key.lt`), `1` iff
    `b < a`, `0` otherwise -/
theorem signal_compare_eq (a b : Key) :
    (signal_compare a.id a.os a.loop a.sig b.id b.os b.loop b.sig).map (·.ret) = some (Key.cmp a b) := by
  unfold signal_compare Key.cmp Key.lt
  simp only [lex_level, kernel_simp]

/-! The order laws the RB-tree macros of src/unix/tree.h rely on (`RB_INSERT` / `RB_FIND` / `RB_NFIND`
    descend by the sign of the comparator and treat `0` as "this node"), proved of the model
    comparator; by `signal_compare_eq` they hold of the comparator generated from the C text. -/

/-! `Key.lt` is the lexicographic order of four natural numbers; each law is the law of one level,
    handed down to the next. -/

theorem lex_total {x y : Nat} {P E Q : Prop} (h : P ∨ E ∨ Q) :
    (x < y ∨ x = y ∧ P) ∨ (x = y ∧ E) ∨ (y < x ∨ y = x ∧ Q) := by
  rcases Nat.lt_trichotomy x y with h1 | rfl | h1
  · exact .inl (.inl h1)
  · rcases h with p | e | q
    · exact .inl (.inr ⟨rfl, p⟩)
    · exact .inr (.inl ⟨rfl, e⟩)
    · exact .inr (.inr (.inr ⟨rfl, q⟩))
  · exact .inr (.inr (.inl h1))

theorem lex_asymm {x y : Nat} {P Q : Prop} (h : P → ¬ Q) :
    (x < y ∨ x = y ∧ P) → ¬ (y < x ∨ y = x ∧ Q) := by
  rintro (h1 | ⟨rfl, p⟩) (h2 | ⟨e, q⟩)
  · exact Nat.lt_asymm h1 h2
  · exact Nat.lt_irrefl _ (e ▸ h1)
  · exact Nat.lt_irrefl _ h2
  · exact h p q

theorem lex_trans {x y z : Nat} {P Q R : Prop} (h : P → Q → R) :
    (x < y ∨ x = y ∧ P) → (y < z ∨ y = z ∧ Q) → (x < z ∨ x = z ∧ R) := by
  rintro (h1 | ⟨rfl, p⟩) (h2 | ⟨rfl, q⟩)
  · exact .inl (Nat.lt_trans h1 h2)
  · exact .inl h1
  · exact .inl h2
  · exact .inr ⟨rfl, h p q⟩

theorem key_ext_iff (a b : Key) :
    a = b ↔ a.sig = b.sig ∧ a.os.toNat = b.os.toNat ∧ a.loop = b.loop ∧ a.id = b.id := by
  obtain ⟨as, ao, al, ai⟩ := a
  obtain ⟨bs, bo, bl, bi⟩ := b
  have : ao.toNat = bo.toNat ↔ ao = bo := by cases ao <;> cases bo <;> decide
  simp only [Key.mk.injEq, this]

theorem key_lt_total (a b : Key) : Key.lt a b ∨ a = b ∨ Key.lt b a := by
  unfold Key.lt
  rw [key_ext_iff]
  exact lex_total (lex_total (lex_total (Nat.lt_trichotomy ..)))

theorem key_lt_asymm (a b : Key) : Key.lt a b → ¬ Key.lt b a := by
  unfold Key.lt
  exact lex_asymm (lex_asymm (lex_asymm Nat.lt_asymm))

theorem key_lt_trans (a b c : Key) : Key.lt a b → Key.lt b c → Key.lt a c := by
  unfold Key.lt
  exact lex_trans (lex_trans (lex_trans Nat.lt_trans))

theorem key_cmp_antisymm (a b : Key) : Key.cmp a b = -(Key.cmp b a) :=
  cmp3_antisymm key_lt_asymm a b

theorem key_cmp_neg_iff_pos (a b : Key) : Key.cmp a b < 0 ↔ Key.cmp b a > 0 := by
  rw [key_cmp_antisymm a b]; omega

theorem key_cmp_neg_iff_lt (a b : Key) : Key.cmp a b < 0 ↔ Key.lt a b :=
  cmp3_neg_iff_lt a b

theorem key_cmp_zero_iff_eq (a b : Key) : Key.cmp a b = 0 ↔ a = b :=
  cmp3_zero_iff_eq key_lt_asymm key_lt_total a b

theorem key_cmp_trans (a b c : Key) : Key.cmp a b < 0 → Key.cmp b c < 0 → Key.cmp a c < 0 := by
  simp only [key_cmp_neg_iff_lt]
  exact key_lt_trans a b c

/-- the comparator generated from the C text -/
def genCmp (a b : Key) : Option Int := (signal_compare a.id a.os a.loop a.sig b.id b.os b.loop b.sig).map (·.ret)

/-- the same laws for the generated comparator -/
theorem signal_compare_order_laws (a b c : Key) :
    (∃ x y, genCmp a b = some x ∧ genCmp b a = some y ∧ x = -y ∧ (x < 0 ↔ y > 0) ∧ (x = 0 ↔ a = b)) ∧
    (∀ x y z, genCmp a b = some x → genCmp b c = some y → genCmp a c = some z → x < 0 → y < 0 → z < 0) ∧
    (∃ x, genCmp a b = some x ∧ (x < 0 ∨ x = 0 ∨ x > 0) ∧ (x = -1 ∨ x = 0 ∨ x = 1)) := by
  unfold genCmp
  simp only [signal_compare_eq, Option.some.injEq]
  refine ⟨⟨_, _, rfl, rfl, key_cmp_antisymm a b, key_cmp_neg_iff_pos a b, key_cmp_zero_iff_eq a b⟩, ?_, ?_⟩
  · intro x y z hx hy hz
    subst hx hy hz
    exact key_cmp_trans a b c
  · exact ⟨_, rfl, by omega, cmp3_range a b⟩

/-- and `0` is answered only for the same key -/
theorem signal_compare_zero (a b : Key)
    (h : (signal_compare a.id a.os a.loop a.sig b.id b.os b.loop b.sig).map (·.ret) = some 0) : a = b := by
  rw [signal_compare_eq] at h
  exact (key_cmp_zero_iff_eq a b).mp (by simpa using h)

/-- what a caller can see of a start: the return value and, when it is 0, the handle's
    `signum`, `UV_SIGNAL_ONE_SHOT` and `signal_cb` afterwards -/
def startView (ret : Int) (signum : Int) (os : Bool) (cb : Int) : Int × Option (Int × Bool × Int) :=
  (ret, if ret = 0 then some (signum, os, cb) else none)

/-- whether `uv__signal_start` has to (re)register the process-wide handler (signal.c:407-409) -/
def needReg (s : S) (h sig : Nat) (oneshot : Bool) : Bool :=
  match firstHandle (sigStop s h).tree sig with
  | none => true
  | some f => !oneshot && f.os

/-- what a caller sees of `Signal.sigStart` -/
theorem sigStart_view (s : S) (h sig : Nat) (oneshot : Bool) (cb : Nat) :
    (let r := sigStart s h sig oneshot cb
     startView r.2 (r.1.hs h).signum (r.1.hs h).oneshot (r.1.hs h).cb) =
      if sig = 0 then (-22, none)
      else if sig = (s.hs h).signum then (0, some ((((s.hs h).signum : Nat) : Int), (s.hs h).oneshot, (cb : Int)))
      else if needReg s h sig oneshot && !sigValid sig then (-22, none)
      else (0, some ((sig : Int), oneshot, (cb : Int))) := by
  unfold sigStart startView needReg
  by_cases h0 : sig = 0
  · simp only [h0, if_true]
    rfl
  · by_cases h1 : sig = (s.hs h).signum
    · subst h1
      simp only [h0, if_true, if_false, setCb, upd_same]
    · simp only [h0, h1, if_false]
      cases firstHandle (sigStop s h).tree sig <;> dsimp only <;>
        generalize (_ && !sigValid sig) = c <;> cases c
      all_goals simp only [if_true, if_false, Bool.false_eq_true, upd_same]
      all_goals rfl

/-- `uv__signal_start` (signal.c:369-432) = `Signal.sigStart`.  `first` is what
    `uv__signal_first_handle(signum)` answers after the handle was taken out of the tree (NULL iff the
    model finds none), `ff` its `UV_SIGNAL_ONE_SHOT`, `reg` what `uv__signal_register_handler` answers
    (`sigaction` succeeds exactly for `sigValid`), the remaining arguments are the handle's fields. -/
theorem signal_start_eq (s : S) (h sig : Nat) (oneshot : Bool) (cb : Nat)
    (first reg ah : Int) (ff act ref : Bool)
    (hfirst : first = 0 ↔ firstHandle (sigStop s h).tree sig = none)
    (hff : ∀ f, firstHandle (sigStop s h).tree sig = some f → ff = f.os)
    (hreg : reg = if sigValid sig then 0 else -22) :
    (signal_start first reg ff act ref (s.hs h).oneshot ah (s.hs h).cb (s.hs h).signum
        (CSem.b2i oneshot) cb sig).map
        (fun o => startView o.ret o.handle_signum o.handle_flags__UV_SIGNAL_ONE_SHOT o.handle_signal_cb)
      = some (let r := sigStart s h sig oneshot cb
              startView r.2 (r.1.hs h).signum (r.1.hs h).oneshot (r.1.hs h).cb) := by
  have hneed : (decide ((first == 0) = true) || !CSem.b2i oneshot != 0 && ff) = needReg s h sig oneshot := by
    unfold needReg
    cases hf : firstHandle (sigStop s h).tree sig with
    | none => simp only [hfirst.mpr hf, kernel_simp]
    | some f =>
      have hz : ¬ first = 0 := fun e => by rw [hfirst.mp e] at hf; cases hf
      simp only [hz, hff f hf, kernel_simp]
  rw [sigStart_view]
  unfold signal_start startView
  -- the view does not look at the activation bookkeeping: the branches on `act`/`ref` collapse
  simp only [map_ite, Option.map_some, ite_self, if_true, hneed, hreg]
  simp only [kernel_simp]
  generalize needReg s h sig oneshot = n
  cases oneshot <;> cases n <;> cases sigValid sig <;> rfl

example : (signal_compare 1 false 1 10 2 false 1 10).map (·.ret) = some (-1) ∧
    (signal_compare 1 true 1 10 2 false 1 10).map (·.ret) = some 1 ∧
    (signal_compare 1 true 9 10 2 false 1 12).map (·.ret) = some (-1) ∧
    (signal_start 0 0 false false true false 0 7 0 0 8 10).map (fun o => (o.ret, o.handle_signum, o.handle_loop_active_handles))
      = some (0, 10, 1) ∧
    (signal_start 0 0 false false true false 0 7 0 0 8 0).map (·.ret) = some (-22) := by decide +kernel

end UvModel.GenEq
