import UvModel.Generated.Kernels
import UvModel.Udp
import UvModel.Lemmas.CSemLemmas
/-!
  Tie A obligations for C10: the address-family `switch` of `uv__udp_prep_pkt` (udp.c) and the entry
  checks / result selection of `uv__udp_check_before_send`, `uv_udp_try_send` → `uv__udp_try_send`,
  `uv_udp_try_send2` → `uv__udp_try_send2` (uv-common.c, udp.c), as generated from the current C
  text, equal `Udp.prepOk`, `Udp.checkBeforeSend` and the pure kernels `trySendRet` / `trySend2Ret`
  below, which are proved to be exactly the value `Udp.applyOp` returns for `.trySend` / `.trySend2`
  (`applyOp_trySend_ret`, `applyOp_trySend2_ret`).
-/
namespace UvModel.GenEq
open UvModel UvModel.Generated UvModel.Udp

/-- what the model's destination class `dest` stands for in C: NULL-ness of `addr` and `addr->sa_family`
    (0 = NULL, 1 = AF_INET (2), 2 = AF_INET6 (10), ≥ 3 = a family libuv does not support; AF_UNIX (1) and
    AF_UNSPEC (0) addresses are not among the model's destination classes) -/
structure AddrEnc (dest : Nat) (addr fam : Int) : Prop where
  null : addr = 0 ↔ dest = 0
  v4 : dest = 1 → fam = 2
  v6 : dest = 2 → fam = 10
  other : dest ≥ 3 → fam ≠ 2 ∧ fam ≠ 10 ∧ fam ≠ 1 ∧ fam ≠ 0

/-- `msg_namelen` / `addrlen` of a destination class: `sizeof(struct sockaddr_in)`, `sizeof(struct sockaddr_in6)` -/
def addrLen (dest : Nat) : Int := if dest = 1 then 16 else if dest = 2 then 28 else 0

theorem AddrEnc.cases {dest : Nat} {addr fam : Int} (h : AddrEnc dest addr fam) :
    dest = 0 ∧ addr = 0 ∨ dest = 1 ∧ addr ≠ 0 ∧ fam = 2 ∨ dest = 2 ∧ addr ≠ 0 ∧ fam = 10 ∨
      dest ≠ 0 ∧ 2 < dest ∧ addr ≠ 0 ∧ fam ≠ 2 ∧ fam ≠ 10 ∧ fam ≠ 1 ∧ fam ≠ 0 := by
  obtain ⟨hn, h4, h6, ho⟩ := h
  by_cases h0 : dest = 0
  · exact .inl ⟨h0, hn.mpr h0⟩
  · have ha : addr ≠ 0 := fun e => h0 (hn.mp e)
    by_cases h1 : dest = 1
    · exact .inr (.inl ⟨h1, ha, h4 h1⟩)
    · by_cases h2 : dest = 2
      · exact .inr (.inr (.inl ⟨h2, ha, h6 h2⟩))
      · have h3 : 2 < dest := by omega
        exact .inr (.inr (.inr ⟨h0, h3, ha, ho h3⟩))

/-- `uv__udp_prep_pkt` (udp.c:1243-1270, a `switch` on `addr->sa_family`): returns 0 exactly on the
    destinations `Udp.prepOk` accepts, `UV_EINVAL` otherwise. -/
theorem udp_prep_pkt_eq (d : Dgram) (addr fam bufs nl nbufs : Int) (h : AddrEnc d.dest addr fam) :
    (udp_prep_pkt addr fam bufs nl nbufs).map (·.ret) = some (if prepOk d then 0 else UV_EINVAL) := by
  unfold udp_prep_pkt prepOk
  simp only [kernel_simp]
  rcases h.cases with ⟨h0, rfl⟩ | ⟨h1, ha, rfl⟩ | ⟨h2, ha, rfl⟩ | ⟨_, h3, ha, o1, o2, o3, o4⟩ <;>
    simp [*, Nat.not_le_of_lt, CEnum.UV_EINVAL, UV_EINVAL]

/-- the name length `uv__udp_prep_pkt` stores for an IPv4 / IPv6 destination -/
theorem udp_prep_pkt_namelen (dest : Nat) (addr fam bufs nl nbufs : Int) (h : AddrEnc dest addr fam)
    (hd : dest = 1 ∨ dest = 2) :
    (udp_prep_pkt addr fam bufs nl nbufs).map (·.h_msg_namelen) = some (addrLen dest) := by
  unfold udp_prep_pkt addrLen
  simp only [kernel_simp]
  rcases h.cases with ⟨h0, ha⟩ | ⟨h1, ha, hf⟩ | ⟨h2, ha, hf⟩ | ⟨_, h3, _⟩
  · omega
  · simp [h1, ha, hf, CEnum.sizeof_struct_sockaddr_in, CSem.u32]
  · simp [h2, ha, hf, CEnum.sizeof_struct_sockaddr_in6, CSem.u32]
  · omega

/-- `uv__udp_check_before_send` (uv-common.c:456-484) on a UDP handle: the negative results are those of
    `Udp.checkBeforeSend`; otherwise the address length is returned. -/
theorem udp_check_before_send_eq (s : H) (dest : Nat) (addr fam ty : Int) (h : AddrEnc dest addr fam)
    (hty : ty = CEnum.UV_UDP) :
    (udp_check_before_send addr fam s.connected ty).map (·.ret) =
      some (if checkBeforeSend s dest < 0 then checkBeforeSend s dest else addrLen dest) := by
  unfold udp_check_before_send checkBeforeSend addrLen
  subst hty
  simp only [map_ite, Option.map_some, bne_self_eq_false, Bool.false_eq_true, decide_false, if_false,
    beq_iff_eq, bne_iff_ne, decide_eq_true_eq, Bool.and_eq_true, Bool.not_eq_true']
  rcases h.cases with ⟨rfl, rfl⟩ | ⟨rfl, ha, rfl⟩ | ⟨rfl, ha, rfl⟩ | ⟨h0, h3, ha, o1, o2, o3, o4⟩ <;>
    cases s.connected <;>
    simp [*, CEnum.UV_EDESTADDRREQ, UV_EDESTADDRREQ, CEnum.UV_EISCONN, UV_EISCONN,
      CEnum.UV_EINVAL, UV_EINVAL, CEnum.sizeof_struct_sockaddr_in, CEnum.sizeof_struct_sockaddr_in6, CSem.u32, CSem.i32]

/-- value returned by `uv_udp_try_send` (uv-common.c:503-514 → udp.c:638-664): `c` = result of
    `uv__udp_check_before_send`, `r` = result of `uv__udp_sendmsg1`, `bytes` = `uv__count_bufs` -/
def trySendRet (c : Int) (nbufs : Nat) (sqCount r bytes : Int) : Int :=
  if c < 0 then c
  else if nbufs < 1 then UV_EINVAL
  else if sqCount ≠ 0 then UV_EAGAIN
  else if r > 0 then bytes else r

theorem emit_last (s : H) (e : Ev) : (emit s e).trace.getLast? = some e :=
  List.getLast?_concat ..

/-- `Udp.applyOp` on `.trySend` returns exactly `trySendRet` -/
theorem applyOp_trySend_ret (s : H) (bufs : List Nat) (dest : Nat) (hc : s.closing = false) :
    (applyOp s (.trySend bufs dest)).trace.getLast? =
      some (.ret (trySendRet (checkBeforeSend s dest) bufs.length s.sqCount
                    (sendmsg1 ⟨s.nseq, bufs, dest⟩ s.souts).r ((Dgram.mk s.nseq bufs dest).bytes : Int))) := by
  -- every branch ends in an `emit`: both sides become the same cascade of tests over `some (.ret _)`
  simp only [applyOp, hc, trySendRet, Bool.false_eq_true, if_false,
    apply_ite (fun x : H => x.trace.getLast?), emit_last, apply_ite Ev.ret, apply_ite some]
  rfl

/-- the generated `uv_udp_try_send` with the generated `uv__udp_try_send` as its callee = `trySendRet`.
    Model assumptions visible here: `uv__udp_maybe_deferred_bind` succeeds (`bind = 0`), the byte count fits
    an `int`. -/
theorem udp_try_send_eq (c addr bind r bytes sq nbufs : Int) (hbind : bind = 0)
    (hn : 0 ≤ nbufs) (hb : -2147483648 ≤ bytes ∧ bytes < 2147483648) :
    ((udp_try_send addr bytes bind r sq nbufs).bind fun i => udp_try_send_api c i.ret).map (·.ret) =
      some (trySendRet c nbufs.toNat sq r bytes) := by
  subst hbind
  have hnb : nbufs.toNat < 1 ↔ nbufs < 1 := by omega
  unfold udp_try_send udp_try_send_api trySendRet
  -- the callee tests `nbufs` and the queue before the caller looks at `c`: settle `c < 0` first
  by_cases h0 : c < 0 <;> simp only [h0, hnb, CSem.i32_of_range hb.1 hb.2, kernel_simp] <;> rfl

/-- value returned by `uv_udp_try_send2` with `flags = 0` (uv-common.c:517-533 → udp.c:1425-1437): `v` =
    result of `uv__udp_sendmsgv` -/
def trySend2Ret (count : Nat) (sqCount : Int) (fdOpen : Bool) (v : Int) : Int :=
  if count < 1 then UV_EINVAL
  else if sqCount > 0 then UV_EAGAIN
  else if !fdOpen then UV_EINVAL
  else v

/-- `Udp.applyOp` on `.trySend2` returns exactly `trySend2Ret` -/
theorem applyOp_trySend2_ret (s : H) (count : Nat) (bufs : List Nat) (dest : Nat) (hc : s.closing = false) :
    (applyOp s (.trySend2 count bufs dest)).trace.getLast? =
      some (.ret (trySend2Ret count s.sqCount s.fdOpen (sendmsgv (mkDgrams s.nseq count bufs dest) s.souts).ret)) := by
  simp only [applyOp, hc, trySend2Ret, Bool.false_eq_true, if_false,
    apply_ite (fun x : H => x.trace.getLast?), emit_last, apply_ite Ev.ret, apply_ite some]

/-- the generated `uv_udp_try_send2` with the generated `uv__udp_try_send2` as its callee = `trySend2Ret`
    (`fd` = `handle->io_watcher.fd`, open iff `≠ -1`; `flags = 0` as the model's callers pass) -/
theorem udp_try_send2_eq (count sq fd v : Int) (hcnt : 0 ≤ count) :
    ((udp_try_send2 v fd).bind fun i => udp_try_send2_api i.ret count 0 sq).map (·.ret) =
      some (trySend2Ret count.toNat sq (decide (fd ≠ -1)) v) := by
  have hnb : count.toNat < 1 ↔ count < 1 := by omega
  unfold udp_try_send2 udp_try_send2_api trySend2Ret
  by_cases h3 : fd = -1 <;> simp only [h3, hnb, kernel_simp] <;> rfl

/-- a non-zero `flags` argument is refused before anything else but the count check -/
theorem udp_try_send2_flags (inner count flags sq : Int) (hc : ¬ count < 1) (hf : flags ≠ 0) :
    (udp_try_send2_api inner count flags sq).map (·.ret) = some UV_EINVAL := by
  unfold udp_try_send2_api CSem.u32
  simp [hc, hf, CEnum.UV_EINVAL, UV_EINVAL]

example : (udp_prep_pkt 1 2 0 0 1).map (·.ret) = some 0 ∧ (udp_prep_pkt 1 5 0 0 1).map (·.ret) = some (-22) ∧
    (udp_prep_pkt 0 5 0 0 1).map (·.ret) = some 0 ∧ (udp_prep_pkt 1 10 0 0 1).map (·.h_msg_namelen) = some 28 := by
  decide +kernel
example : (udp_check_before_send 1 2 true 15).map (·.ret) = some (-106) ∧
    (udp_check_before_send 0 0 false 15).map (·.ret) = some (-89) ∧
    (udp_check_before_send 1 2 false 15).map (·.ret) = some 16 := by decide +kernel
example : ((udp_try_send 1 100 0 1 0 2).bind fun i => udp_try_send_api 16 i.ret).map (·.ret) = some 100 ∧
    ((udp_try_send 1 100 0 1 3 2).bind fun i => udp_try_send_api 16 i.ret).map (·.ret) = some (-11) := by decide +kernel

end UvModel.GenEq
