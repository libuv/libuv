import UvModel.Generated.Kernels
import UvModel.Lemmas.GetterLemmas
import UvModel.Lemmas.CSemLemmas
/-!
  Tie A obligations for C19: the decision part (argument checks, the length-vs-`*size` comparison,
  the value left in `*size`, the return code) of the check-then-copy getters, as generated from the
  current C text with the library calls (`getenv`, `strlen`, `gethostname`, …) as inputs and the
  copies (`memcpy`, `buffer[len] = 0`) left out, equals `Getter.checkCopy` for the comparison style
  the model assigns to that getter.  Pointers: `0` = NULL.  `len + 1 < 2^64` holds for every C
  string (the object includes its terminator).
-/
namespace UvModel.GenEq
open UvModel UvModel.Generated UvModel.Getter

/-- the (return code, `*size`) part of a model result -/
def dec (r : Result) : Int × Int := (r.rc, (r.size : Int))

/-- the decision of the shared check-then-copy shape: all three comparisons read `*size ≤ len` -/
theorem dec_checkCopy (cmp : Cmp) (copy : Copy) (v : List Byte) (size : Nat) :
    dec (checkCopy cmp copy v size) =
      if size = 0 then (EINVAL, (size : Int))
      else if size ≤ v.length then (ENOBUFS, ((v.length + 1 : Nat) : Int)) else (0, (v.length : Int)) := by
  unfold checkCopy dec
  by_cases h0 : size = 0
  · simp only [h0, kernel_simp]
  · by_cases h1 : size ≤ v.length <;> simp only [h0, h1, tooSmall_iff, kernel_simp]

/-- `*size = len + 1` does not wrap: a C string's length leaves room for its terminator -/
theorem u64_len_succ {n : Nat} (h : n + 1 < 2 ^ 64) : CSem.u64 ((n : Int) + 1) = ((n + 1 : Nat) : Int) :=
  CSem.u64_natCast h

/-- `uv_os_getenv` (core.c:1485-1509) = `Getter.osGetenv`; `varp` is what `getenv` returned -/
theorem os_getenv_eq (var : Option (List Byte)) (size : Nat) (name buffer sizep varp : Int)
    (hn : name ≠ 0) (hb : buffer ≠ 0) (hs : sizep ≠ 0)
    (hv : varp = 0 ↔ var = none) (hlen : ∀ v, var = some v → v.length + 1 < 2 ^ 64) :
    (os_getenv buffer varp (((var.getD []).length : Nat) : Int) name sizep (size : Int)).map
        (fun o => (o.ret, o.size_deref)) = some (dec (osGetenv var size)) := by
  unfold os_getenv
  cases var with
  | none =>
    unfold osGetenv
    simp only [kernel_simp, hn, hb, hs, hv.mpr rfl, apply_ite dec]
    rfl
  | some v =>
    have hvp : ¬ varp = 0 := fun h => Option.some_ne_none v (hv.mp h)
    rw [getenv_eq, dec_checkCopy]
    simp only [kernel_simp, hn, hb, hs, hvp, Option.getD_some, u64_len_succ (hlen v rfl)]
    rfl

/-- `uv_os_gethostname` (core.c:1536-1563) = `Getter.osGethostname` when `gethostname` succeeded (`rc = 0`); `len = strlen(buf)` after `buf[64] = 0` -/
theorem os_gethostname_eq (v : List Byte) (size : Nat) (buffer sizep : Int) (e : Int)
    (hb : buffer ≠ 0) (hs : sizep ≠ 0) (hlen : ((v.take 64).length) + 1 < 2 ^ 64) :
    (os_gethostname buffer 0 (((v.take 64).length : Nat) : Int) e sizep (size : Int)).map (fun o => (o.ret, o.size_deref)) = some (dec (osGethostname v size)) := by
  unfold os_gethostname osGethostname
  rw [dec_checkCopy]
  simp only [kernel_simp, hb, hs, u64_len_succ hlen]
  rfl

/-- `uv_fs_event_getpath` (uv-common.c:663-684) = `Getter.fsEventGetpath` for an active handle -/
theorem fs_event_getpath_eq (v : List Byte) (size : Nat) (buffer sizep : Int)
    (hb : buffer ≠ 0) (hs : sizep ≠ 0) (hlen : (v.length) + 1 < 2 ^ 64) :
    (fs_event_getpath buffer ((v.length : Nat) : Int) true sizep (size : Int)).map (fun o => (o.ret, o.size_deref)) = some (dec (fsEventGetpath v size)) := by
  unfold fs_event_getpath fsEventGetpath
  rw [dec_checkCopy]
  simp only [kernel_simp, hb, hs, u64_len_succ hlen]
  rfl

/-- `uv_fs_poll_getpath` (fs-poll.c:138-164) = `Getter.fsPollGetpath` for an active handle (`uv_is_active` answered `act ≠ 0`) -/
theorem fs_poll_getpath_eq (v : List Byte) (size : Nat) (buffer sizep : Int) (act ctx : Int)
    (hb : buffer ≠ 0) (hs : sizep ≠ 0) (ha : act ≠ 0) (hlen : (v.length) + 1 < 2 ^ 64) :
    (fs_poll_getpath buffer ((v.length : Nat) : Int) act ctx sizep (size : Int)).map (fun o => (o.ret, o.size_deref)) = some (dec (fsPollGetpath v size)) := by
  unfold fs_poll_getpath fsPollGetpath
  rw [dec_checkCopy]
  simp only [kernel_simp, hb, hs, ha, u64_len_succ hlen]
  rfl

/-- `uv_if_indextoname` (getaddrinfo.c:226-251) = `Getter.ifIndexToName` when `if_indextoname` found the interface (`p ≠ NULL`); `len = strnlen(ifname_buf, 16)` -/
theorem if_indextoname_eq (v : List Byte) (size : Nat) (buffer sizep : Int) (p e : Int)
    (hb : buffer ≠ 0) (hs : sizep ≠ 0) (hp : p ≠ 0) (hlen : ((v.take 16).length) + 1 < 2 ^ 64) :
    (if_indextoname buffer p (((v.take 16).length : Nat) : Int) e sizep (size : Int)).map (fun o => (o.ret, o.size_deref)) = some (dec (ifIndexToName v size)) := by
  unfold if_indextoname ifIndexToName
  rw [dec_checkCopy]
  simp only [kernel_simp, hb, hs, hp, u64_len_succ hlen]
  rfl

/-- `uv_get_process_title` (proctitle.c:125-149), after `uv_setup_args` (`args_mem ≠ NULL`): return code
    = `Getter.getProcessTitle`; `size` is passed by value, nothing is reported back -/
theorem get_process_title_eq (v : List Byte) (size : Nat) (buffer argsMem : Int)
    (hb : buffer ≠ 0) (ha : argsMem ≠ 0) :
    (get_process_title argsMem buffer ((v.length : Nat) : Int) (size : Int)).map (·.ret)
      = some (getProcessTitle v size).rc := by
  unfold get_process_title getProcessTitle
  simp only [kernel_simp, hb, ha, apply_ite Result.rc]
  rfl

/-- the `*size` bookkeeping of `uv__pipe_getsockpeername` (pipe.c:372-396) once `addrlen`/`slop` are
    known = `Getter.pipeCopy`'s (`.lenSlopGt` style: `addrlen + slop > *size`); `err ≥ 0`:
    `uv__getsockpeername` succeeded -/
theorem pipe_getname_size_eq (path : List Byte) (abstract : Bool) (addrlen : Nat) (old0 : Byte) (size : Nat)
    (err : Int) (he : 0 ≤ err) (ha : addrlen < 2 ^ 32) :
    (pipe_getname_size (addrlen : Int) err (size : Int) (if abstract then 0 else 1)).map
        (fun o => (o.ret, o.size_deref)) = some (dec (pipeCopy path abstract addrlen old0 size)) := by
  have h64 : addrlen + 1 < 2 ^ 64 := Nat.lt_trans (Nat.succ_lt_succ ha) (by decide)
  unfold pipe_getname_size pipeCopy dec
  cases abstract <;>
    simp only [kernel_simp, Int.not_lt.mpr he, Int.add_zero, Nat.add_zero, u64_len_succ h64,
      CSem.u64_natCast (Nat.lt_trans (Nat.lt_succ_self _) h64), apply_ite Result.rc, apply_ite Result.size] <;>
    split <;> rfl

/-- `uv__getsockpeername` failed: `*size = 0; return err` -/
theorem pipe_getname_size_err (addrlen slop size err : Int) (he : err < 0) :
    (pipe_getname_size addrlen err size slop).map (fun o => (o.ret, o.size_deref)) = some (err, 0) := by
  unfold pipe_getname_size CSem.u64; simp [he]

/-- the inactive-handle answers (`*size = 0; return UV_EINVAL`) and the library-failure answers
    (`return UV__ERR(errno)`, `*size` untouched) of the same kernels -/
theorem getter_side_exits (buffer sizep len size e ctx : Int) (hb : buffer ≠ 0) (hs : sizep ≠ 0) (h0 : size ≠ 0) (r : Int) (hr : r ≠ 0) :
    (fs_event_getpath buffer len false sizep size).map (fun o => (o.ret, o.size_deref)) = some (EINVAL, 0) ∧
    (fs_poll_getpath buffer len 0 ctx sizep size).map (fun o => (o.ret, o.size_deref)) = some (EINVAL, 0) ∧
    (os_gethostname buffer r len e sizep size).map (fun o => (o.ret, o.size_deref)) = some (-e, size) ∧
    (if_indextoname buffer 0 len e sizep size).map (fun o => (o.ret, o.size_deref)) = some (-e, size) := by
  unfold fs_event_getpath fs_poll_getpath os_gethostname if_indextoname CSem.u64
  simp [hb, hs, h0, hr, CEnum.UV_EINVAL, EINVAL]

example : (os_getenv 1 1 5 1 1 5).map (fun o => (o.ret, o.size_deref)) = some (-105, 6) ∧
    (os_getenv 1 1 5 1 1 6).map (fun o => (o.ret, o.size_deref)) = some (0, 5) ∧
    (if_indextoname 1 1 4 0 1 4).map (fun o => (o.ret, o.size_deref)) = some (-105, 5) ∧
    (fs_event_getpath 1 7 true 1 8).map (fun o => (o.ret, o.size_deref)) = some (0, 7) := by decide +kernel

end UvModel.GenEq
