import UvModel.Generated.Kernels
import UvModel.Timer
import UvModel.HandleKernels
import UvModel.Lemmas.CSemLemmas
/-!
  Tie A obligations (DESIGN.md §2.2): the kernels *generated from /repo's current C text*
  (UvModel/Generated/Kernels.lean, rewritten by tools/gen_lean.py on every run) equal the
  hand-written model kernels on which the property theorems are stated.  A change of the C
  text changes the generated term; if it changes the meaning, the proof below stops checking.

  This file holds the obligations of the handle and request accounting (C01, C02), of the timeout
  decisions of the loop (C03: `uv__backend_timeout`, `can_sleep`; the entry, iteration and exit of
  `uv_run` are in `UvModel/GenEq/C03.lean`) and of the timers (C04); the other properties'
  obligations live in `UvModel/GenEq/C05.lean` … `C20.lean`, each built by
  its own check only, so that a change in one property's C text cannot break another's tie.

  Range hypotheses (`0 ≤ x < 2^64` …) are the C types' ranges; counters additionally need the
  "no underflow / no wrap" facts, which are exactly the invariants the loop model proves.

  The proofs bring both sides into the normal form of the simp set `kernel_simp`
  (UvModel/Lemmas/CSemLemmas.lean) and split only where the two sides branch differently.
-/
namespace UvModel.GenEq
open UvModel UvModel.Generated

/-! ### C04: timer arithmetic -/

/-- `uv_timer_start`'s clamp = `Timer.clampC` -/
theorem timer_clamp_eq (time timeout : Nat) (ht : time < Timer.U64) (hto : timeout < Timer.U64) :
    timer_clamp (time : Int) (timeout : Int)
      = some { ret := 0, clamped_timeout := (Timer.clampC time timeout : Nat) } := by
  have e1 : CSem.u64 ((time : Int) + timeout) = (((time + timeout) % Timer.U64 : Nat) : Int) := by
    rw [← Int.natCast_add]
    exact CSem.u64_natCast_mod _
  have e2 : CSem.u64 (-1) = ((Timer.U64 - 1 : Nat) : Int) := by decide
  unfold timer_clamp Timer.clampC
  simp only [e1, e2, kernel_simp, apply_ite (Out_timer_clamp.mk 0)]

/-- `uv_timer_get_due_in` = `Timer.dueIn` arithmetic -/
theorem timer_due_in_eq (time due : Nat) (hd : due < Timer.U64) :
    timer_due_in (time : Int) (due : Int)
      = some { ret := ((if time ≥ due then 0 else due - time : Nat) : Int) } := by
  unfold timer_due_in
  by_cases h : due ≤ time
  · simp only [h, kernel_simp]
  · simp only [h, kernel_simp, CSem.u64_natCast_sub (Nat.le_of_not_le h) hd]

/-- `timer_less_than` = `Heap.lt` -/
theorem timer_less_than_eq (a b : Heap.Ent) (ha hb oa ob : Int) :
    (timer_less_than a.startId a.timeout b.startId b.timeout ha hb oa ob).map (·.ret)
      = some (CSem.b2i (Heap.lt a b)) := by
  unfold timer_less_than Heap.lt
  simp only [kernel_simp, apply_ite CSem.b2i]
  rfl

/-- `uv__next_timeout` = `Timer.nextTimeout` given the heap minimum -/
theorem next_timeout_eq (s : Timer.S) (hm : Int) (opq : Int)
    (hnull : (hm = 0) ↔ Heap.min? s.heap = none)
    (hrange : ∀ e, Heap.min? s.heap = some e → e.timeout < Timer.U64) (htime : s.time < Timer.U64) :
    (next_timeout hm (((Heap.min? s.heap).map (·.timeout)).getD 0 : Nat) (s.time : Int) opq).map (·.ret)
      = some (Timer.nextTimeout s) := by
  unfold next_timeout Timer.nextTimeout
  cases hmin : Heap.min? s.heap with
  | none => simp only [hnull.mpr hmin, kernel_simp]
  | some e =>
    have hne : ¬ hm = 0 := fun h => by rw [hnull.mp h] at hmin; cases hmin
    have hi : CSem.u64 2147483647 = ((Timer.INT_MAX : Nat) : Int) := by decide
    simp only [Option.getD_some, hne, hi, kernel_simp]
    by_cases h1 : e.timeout ≤ s.time
    · simp only [h1, kernel_simp]
    · simp only [h1, kernel_simp, CSem.u64_natCast_sub (Nat.le_of_not_le h1) (hrange e hmin)]
      by_cases h2 : Timer.INT_MAX < e.timeout - s.time
      · simp only [h2, kernel_simp]
        rfl
      · simp only [h2, kernel_simp, Option.some.injEq]
        exact CSem.i32_of_range (by omega) (by unfold Timer.INT_MAX at h2; omega)

end UvModel.GenEq

namespace UvModel.GenEq
open UvModel UvModel.Generated UvModel.HandleKernels

/-! ### C01 – C03: handle and loop accounting kernels (uv-common.h macros, core.c) -/

/-- the counter range in which C's `unsigned int` arithmetic is plain integer arithmetic -/
def InU32 (n : Int) : Prop := 0 ≤ n ∧ n < 4294967296

theorem u32_id {n : Int} (h : InU32 n) : CSem.u32 n = n :=
  CSem.u32_of_range h.1 h.2

/-- `uv__handle_start` (macro expanded from /repo) = `HandleKernels.handleStart`,
    provided the counter does not wrap (`ah + 1 < 2^32`) -/
theorem handle_start_eq (k : HK) (h : InU32 k.ah) (h' : InU32 (k.ah + 1)) :
    handle_start k.active k.ref k.ah
      = some { ret := 0, h_flags__UV_HANDLE_ACTIVE := (handleStart k).active,
               h_loop_active_handles := (handleStart k).ah } := by
  unfold handle_start handleStart
  cases ha : k.active <;> cases hr : k.ref <;> simp_all [u32_id]

/-- `uv__handle_stop` = `HandleKernels.handleStop`, provided the counter does not underflow
    when it is decremented (`ah ≥ 1` for an active referenced handle: the loop model's count_inv) -/
theorem handle_stop_eq (k : HK) (h : InU32 k.ah) (h' : k.active → k.ref → InU32 (k.ah - 1)) :
    handle_stop k.active k.ref k.ah
      = some { ret := 0, h_flags__UV_HANDLE_ACTIVE := (handleStop k).active,
               h_loop_active_handles := (handleStop k).ah } := by
  unfold handle_stop handleStop
  cases ha : k.active <;> cases hr : k.ref <;> simp_all [u32_id]

theorem handle_ref_eq (k : HK) (h : InU32 k.ah) (h' : InU32 (k.ah + 1)) :
    handle_ref k.active k.closing k.ref k.ah
      = some { ret := 0, h_flags__UV_HANDLE_REF := (handleRef k).ref,
               h_loop_active_handles := (handleRef k).ah } := by
  unfold handle_ref handleRef
  cases ha : k.active <;> cases hr : k.ref <;> cases hc : k.closing <;> simp_all [u32_id]

theorem handle_unref_eq (k : HK) (h : InU32 k.ah)
    (h' : k.active → k.ref → ¬ k.closing → InU32 (k.ah - 1)) :
    handle_unref k.active k.closing k.ref k.ah
      = some { ret := 0, h_flags__UV_HANDLE_REF := (handleUnref k).ref,
               h_loop_active_handles := (handleUnref k).ah } := by
  unfold handle_unref handleUnref
  cases ha : k.active <;> cases hr : k.ref <;> cases hc : k.closing <;> simp_all [u32_id]

theorem is_active_eq (k : HK) : is_active k.active = some { ret := CSem.b2i (isActive k) } := by
  simp [is_active, isActive]

theorem is_closing_eq (k : HK) :
    is_closing k.closed k.closing = some { ret := CSem.b2i (isClosing k) } := by
  simp [is_closing, isClosing]

theorem has_ref_eq (k : HK) : has_ref k.ref = some { ret := CSem.b2i (hasRef k) } := by
  simp [has_ref, hasRef]

theorem req_register_eq (ar : Int) (h : InU32 (ar + 1)) :
    req_register ar = some { ret := 0, loop_active_reqs_count := reqRegister ar } := by
  simp [req_register, reqRegister, u32_id h]

theorem req_unregister_eq (ar : Int) (h : InU32 (ar - 1)) :
    req_unregister ar = some { ret := 0, loop_active_reqs_count := reqUnregister ar } := by
  simp [req_unregister, reqUnregister, u32_id h]

theorem has_active_handles_eq (ah : Int) :
    has_active_handles ah = some { ret := CSem.b2i (hasActiveHandles ah) } := by
  simp [has_active_handles, hasActiveHandles, CSem.u32]

theorem has_active_reqs_eq (ar : Int) :
    has_active_reqs ar = some { ret := CSem.b2i (hasActiveReqs ar) } := by
  simp [has_active_reqs, hasActiveReqs, CSem.u32]

/-- `uv__loop_alive` (core.c) = `HandleKernels.loopAlive`; `closing` is the `closing_handles` pointer -/
theorem loop_alive_eq (ah ar closing : Int) (pendingEmpty : Bool) :
    loop_alive ah ar closing pendingEmpty
      = some { ret := CSem.b2i (loopAlive ah ar pendingEmpty (decide (closing = 0))) } := by
  simp [loop_alive, loopAlive, hasActiveHandles, hasActiveReqs, CSem.u32]

/-- `uv__backend_timeout` (core.c) = `HandleKernels.backendTimeout` -/
theorem backend_timeout_eq (next ah ar closing : Int) (reap idleEmpty pendingEmpty : Bool) (stop : Int) :
    backend_timeout next ah ar closing reap idleEmpty pendingEmpty stop
      = some { ret := backendTimeout (decide (stop ≠ 0)) ah ar pendingEmpty idleEmpty reap (decide (closing = 0)) next } := by
  unfold backend_timeout backendTimeout hasActiveHandles hasActiveReqs
  simp only [kernel_simp, apply_ite Out_backend_timeout.mk]

theorem backend_timeout_api_eq (bt : Int) (wqEmpty : Bool) :
    backend_timeout_api bt wqEmpty = some { ret := uvBackendTimeout wqEmpty bt } := by
  unfold backend_timeout_api uvBackendTimeout
  cases wqEmpty <;> simp

/-- encoding of `uv_run_mode` as the C enum values (`2` = `UV_RUN_NOWAIT`; `UvModel.GenEq.Run.modeVal`
    of UvModel/GenEq/C03.lean is the same encoding with the enumerator's name) -/
def modeVal : Mode → Int
  | .default => CEnum.UV_RUN_DEFAULT
  | .once => CEnum.UV_RUN_ONCE
  | .nowait => 2

/-- `can_sleep` and the mode → timeout decision inside `uv_run` = `canSleep` / `runTimeout` -/
theorem run_timeout_decision_eq (bt : Int) (idleEmpty pendingEmpty : Bool) (m : Mode) :
    run_timeout_decision bt idleEmpty pendingEmpty (modeVal m)
      = some { ret := 0, can_sleep := CSem.b2i (canSleep pendingEmpty idleEmpty),
               timeout := runTimeout m (canSleep pendingEmpty idleEmpty) bt } := by
  unfold run_timeout_decision runTimeout canSleep modeVal
  cases m <;> simp [CSem.b2i_ne_zero, CEnum.UV_RUN_DEFAULT, CEnum.UV_RUN_ONCE, CSem.u32]
  split <;> rfl

end UvModel.GenEq
