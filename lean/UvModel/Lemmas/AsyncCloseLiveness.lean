import UvModel.Lemmas.AsyncLiveness
/-! Liveness when the start state is inside uv__async_spin(h'): the spin ends under weak fairness.  Measure `nu` = the
steps the senders inside uv_async_send(h') still have to do (no send can begin on a closing handle) + 2/1 for
closeStore/closeSpin.  Helpful: a sender inside uv_async_send(h') while there is one, then the loop thread
(`busy` is 0 by `InvB.busyEq`). -/
namespace UvModel.Async
variable {s s' : State} {a : Act} {c e e' : Nat} {x x' : Sender} {v v' : HS}

/-- remaining steps of a sender inside uv_async_send, by program counter -/
def SPc.w : SPc → Nat
  | .idle => 0 | .load => 5 | .inc => 4 | .xchg => 3 | .write => 2 | .dec => 1

def remW (h' : Nat) (x : Sender) : Nat := if x.h = h' then x.pc.w else 0

def remL (h' : Nat) : List Sender → Nat
  | [] => 0
  | x :: l => remW h' x + remL h' l

/-- total number of sender steps still to be executed inside uv_async_send(h') -/
def rem (s : State) (h' : Nat) : Nat := remL h' s.snd

theorem remL_set {h' : Nat} (l : List Sender) (t : Nat) (x x' : Sender) (h0 : l[t]? = some x) :
    remL h' (l.set t x') + remW h' x = remL h' l + remW h' x' := by
  induction l generalizing t with
  | nil => simp at h0
  | cons y l ih =>
    cases t with
    | zero => simp at h0; subst h0; simp [remL]; omega
    | succ t => simp at h0; have := ih t h0; simp [remL]; omega

theorem remL_eq_zero {h' : Nat} {l : List Sender} : remL h' l = 0 ↔ ∀ x ∈ l, remW h' x = 0 := by
  induction l with
  | nil => simp [remL]
  | cons y l ih => simp [remL, Nat.add_eq_zero_iff, ih]

theorem rem_zero_countP {h' : Nat} (hz : rem s h' = 0) : s.snd.countP (critB h') = 0 := by
  rw [List.countP_eq_zero]
  intro x hx
  have := remL_eq_zero.mp hz x hx
  simp only [critB, Bool.and_eq_true, beq_iff_eq, Bool.or_eq_true, not_and]
  intro he hc
  simp only [remW, he, if_true] at this
  rcases hc with (hc | hc) | hc <;> simp [hc, SPc.w] at this

theorem rem_setSnd_le {s s2 : State} {h' t : Nat} {x x' : Sender} (hx : s.snd[t]? = some x) (h2 : s2.snd = s.snd)
    (hw : remW h' x' ≤ remW h' x) : rem (setSnd s2 t x') h' ≤ rem s h' := by
  have := remL_set (h' := h') s.snd t x x' hx
  simp only [rem, setSnd, h2]; omega

theorem rem_setSnd_lt {s s2 : State} {h' t : Nat} {x x' : Sender} (hx : s.snd[t]? = some x) (h2 : s2.snd = s.snd)
    (hw : remW h' x' < remW h' x) : rem (setSnd s2 t x') h' < rem s h' := by
  have := remL_set (h' := h') s.snd t x x' hx
  simp only [rem, setSnd, h2]; omega

def cpart : LPc → Nat
  | .closeStore _ _ => 2
  | .closeSpin _ _ => 1
  | _ => 0

def nu (s : State) (h' : Nat) : Nat := rem s h' + cpart s.lpc

/-- the loop thread is inside uv__async_spin(h'), to return to `r` -/
def InClose (s : State) (h' : Nat) (r : LRet) : Prop := s.lpc = .closeStore h' r ∨ s.lpc = .closeSpin h' r

/-- a callback of `h` is owed while the loop thread is inside uv__async_spin(h') -/
structure OwedC (s : State) (h c0 h' : Nat) (r : LRet) : Prop where
  inv : Inv s
  pend : (s.hs h).pending ≠ 0
  opn : (s.hs h).closing = false
  cnt : (s.hs h).cbs = c0
  pc : InClose s h' r

theorem SndOp.remW_lt (h : SndOp c x v e x' v' e') :
    remW x.h x' < remW x.h x := by
  simp only [remW, h.h_eq, if_true]; cases h <;> simp [SPc.w, *]

theorem snd_rem_dec {h' t : Nat} {x : Sender} (hx : s.snd[t]? = some x) (hh : x.h = h') (hp : x.pc ≠ .idle) :
    rem (step s (.snd t)) h' < rem s h' := by
  obtain ⟨s', hs⟩ := Option.isSome_iff_exists.mp (snd_enabled hx hp)
  rw [step, hs]
  obtain ⟨y, x', v, e, hy, hop, rfl⟩ := step?_snd hs
  cases hx.symm.trans hy
  exact rem_setSnd_lt hx rfl (hh ▸ hop.remW_lt)

theorem LoopOp.inClose {h' : Nat} {r : LRet} (hop : LoopOp s s') (hpc : InClose s h' r) :
    (s'.lpc = .closeSpin h' r ∧ s.lpc = .closeStore h' r) ∨ (s'.lpc = r.toPc ∧ s.lpc = .closeSpin h' r) := by
  cases hop with
  | store hl => rcases hpc with e | e <;> rw [hl] at e <;> cases e; exact .inl ⟨rfl, hl⟩
  | unlink hl => rcases hpc with e | e <;> rw [hl] at e <;> cases e; exact .inr ⟨rfl, hl⟩
  | wake hl | drain hl | skip hl | call hl | cbRet hl => rcases hpc with e | e <;> rw [hl] at e <;> cases e

/-- no step other than uv_close adds to the work left inside uv_async_send(h') once `h'` is closing: no send begins
on it, and the senders inside only move on -/
theorem rem_step_le {h' : Nat} (hs : step? s a = some s') (ha : notClose a)
    (hc : (s.hs h').closing = true) : rem s' h' ≤ rem s h' := by
  cases step?_step hs with
  | close | fork => exact ha.elim
  | begin t h0 x hx _ _ ho =>
    refine rem_setSnd_le hx rfl ?_
    rw [remW, if_neg (fun e : h0 = h' => by rw [e, hc] at ho; cases ho)]; exact Nat.zero_le _
  | snd t x x' v e hx hop =>
    refine rem_setSnd_le hx rfl ?_
    by_cases e : x.h = h'
    · exact e ▸ Nat.le_of_lt hop.remW_lt
    · rw [remW, hop.h_eq, if_neg e]; exact Nat.zero_le _
  | loop _ hop => rw [rem, hop.snd_eq]; exact Nat.le_refl _
  | eintr w => exact Nat.le_refl _
  | closeCbs _ => exact Nat.le_refl _

theorem owedC_step {h c0 h' : Nat} {r : LRet} (a : Act) (ha : notClose a) (ho : OwedC s h c0 h' r) :
    rem (step s a) h' ≤ rem s h' ∧
    (Owed (step s a) h c0 ∨ (OwedC (step s a) h c0 h' r ∧ nu (step s a) h' ≤ nu s h')) := by
  refine step_elim (P := fun s' => rem s' h' ≤ rem s h' ∧ (Owed s' h c0 ∨ (OwedC s' h c0 h' r ∧ nu s' h' ≤ nu s h')))
    ⟨Nat.le_refl _, .inr ⟨ho, Nat.le_refl _⟩⟩ fun s' hs => ?_
  have hrem := rem_step_le hs ha (ho.inv.L.cloPc h' r ho.pc).1
  refine ⟨hrem, ?_⟩
  have hi := inv_step ho.inv hs
  by_cases hl : a = .loop
  · subst hl
    have hop := step?_loop hs
    have hne : h ≠ h' := fun e => by
      have := (ho.inv.L.cloPc h' r ho.pc).1
      rw [← e, ho.opn] at this; cases this
    have hh : s'.hs h = s.hs h := by
      rcases hop.hs_cases h with e | ⟨hl, -⟩ | ⟨r', hl, -⟩ | ⟨r', hl, -⟩
      · exact e
      all_goals rcases ho.pc with h1 | h1 <;> rw [h1] at hl <;> cases hl <;> exact absurd rfl hne
    rcases hop.inClose ho.pc with ⟨hl', hl⟩ | ⟨hl', hl⟩
    · refine .inr ⟨⟨hi, hh ▸ ho.pend, hh ▸ ho.opn, hh ▸ ho.cnt, .inr hl'⟩, ?_⟩
      rw [nu, nu, hl', hl]; exact Nat.add_le_add hrem (Nat.le_succ 1)
    · exact .inl ⟨hi, hh ▸ ho.pend, hh ▸ ho.opn, hh ▸ ho.cnt,
        fun k r' => hl' ▸ ⟨toPc_ne_closeStore r k r', toPc_ne_closeSpin r k r'⟩⟩
  · obtain ⟨h1, -, -, -, h5, -⟩ := Frame.of_step? hs ha hl
    have e : s'.hs h = _ := nonloop_loopFieldsEq hs hl h
    refine .inr ⟨⟨hi, (h5 h).2 ho.pend, (h5 h).1 ▸ ho.opn, by rw [e]; exact ho.cnt, by rw [InClose, h1]; exact ho.pc⟩, ?_⟩
    rw [nu, nu, h1]; exact Nat.add_le_add_right hrem _

def HelpfulC (s : State) (h' : Nat) : Act → Prop
  | .snd t => ∃ x : Sender, s.snd[t]? = some x ∧ x.h = h' ∧ x.pc ≠ .idle
  | .loop => rem s h' = 0
  | _ => False

theorem exists_helpfulC (s : State) (h' : Nat) :
    ∃ a, HelpfulC s h' a ∧ (a = .loop ∨ ∃ t, a = .snd t ∧ t < s.snd.length) := by
  by_cases hz : rem s h' = 0
  · exact ⟨.loop, hz, Or.inl rfl⟩
  · obtain ⟨x, hm, hw⟩ : ∃ x ∈ s.snd, remW h' x ≠ 0 := by simpa [rem, remL_eq_zero] using hz
    obtain ⟨t, hx⟩ := List.getElem?_of_mem hm
    have hh : x.h = h' := by
      by_cases hh : x.h = h'
      · exact hh
      · simp [remW, hh] at hw
    have hp : x.pc ≠ .idle := by
      intro hid; simp [remW, hid, SPc.w] at hw
    exact ⟨.snd t, ⟨x, hx, hh, hp⟩, .inr ⟨t, rfl, (List.getElem?_eq_some_iff.mp hx).1⟩⟩

theorem HelpfulC.cases {h' : Nat} (h : HelpfulC s h' a) : a = .loop ∨ ∃ t, a = .snd t := by
  cases a <;> first | exact .inl rfl | exact .inr ⟨_, rfl⟩ | exact h.elim

theorem helpfulC_dec {h c0 h' : Nat} {r : LRet} (ho : OwedC s h c0 h' r) (hh : HelpfulC s h' a) :
    Owed (step s a) h c0 ∨ (OwedC (step s a) h c0 h' r ∧ nu (step s a) h' < nu s h') := by
  rcases hh.cases with rfl | ⟨t, rfl⟩
  · obtain ⟨s', hs⟩ := Option.ne_none_iff_exists'.mp fun hn => by
      rcases loop_blocked.mp hn with ⟨hl, -⟩ | ⟨k, r', hl, hb⟩ <;> rcases ho.pc with e | e <;> rw [e] at hl <;> cases hl
      have := ho.inv.B.busyEq h' (ho.inv.L.cloPc h' r (.inr e)).2
      rw [rem_zero_countP hh] at this; exact hb this
    have hst := owedC_step .loop trivial ho
    simp only [step, hs, Option.getD_some] at hst ⊢
    refine hst.2.imp id fun ⟨h1, _⟩ => ⟨h1, ?_⟩
    rcases (step?_loop hs).inClose ho.pc with ⟨hl', hl⟩ | ⟨hl', -⟩
    · rw [nu, nu, hl', hl]; exact Nat.add_lt_add_of_le_of_lt hst.1 (Nat.lt_succ_self 1)
    · rcases h1.pc with e | e <;> rw [hl'] at e <;> exact absurd e (by simp)
  · obtain ⟨x, hx, hxh, hxp⟩ := hh
    refine (owedC_step (.snd t) trivial ho).2.imp id fun ⟨h1, _⟩ => ⟨h1, ?_⟩
    rw [nu, nu, (Frame.of_step s (.snd t) trivial nofun).lpc]
    exact Nat.add_lt_add_right (snd_rem_dec hx hxh hxp) _

theorem helpfulC_persist {h c0 h' : Nat} {r : LRet} {a b : Act} (ho : OwedC s h c0 h' r)
    (hh : HelpfulC s h' a) (hb : notClose b) (hne : b ≠ a) : HelpfulC (step s b) h' a := by
  rcases hh.cases with rfl | ⟨t, rfl⟩
  · exact Nat.eq_zero_of_le_zero ((show rem s h' = 0 from hh) ▸ (owedC_step b hb ho).1)
  · obtain ⟨x, hx, hxh, hxp⟩ := hh
    refine ⟨x, ?_, hxh, hxp⟩
    by_cases hbl : b = .loop
    · exact hbl ▸ step_elim (P := fun s' => s'.snd[t]? = some x) hx fun _ hs => (step?_loop hs).snd_eq ▸ hx
    · exact (Frame.of_step s b hb hbl).snd t hne x hx hxp

theorem spin_ends (σ : Nat → Act) (hσ : ∀ n, notClose (σ n)) (s0 : State) (h c0 h' : Nat) (r : LRet)
    (fairL : ∀ n, ∃ m, m ≥ n ∧ σ m = .loop)
    (fairS : ∀ n t, t < s0.snd.length → ∃ m, m ≥ n ∧ σ m = .snd t) :
    ∀ (k n : Nat), nu (runN σ n s0) h' ≤ k → OwedC (runN σ n s0) h c0 h' r → ∃ j, Owed (runN σ j s0) h c0 :=
  fair_reach (O := (OwedC · h c0 h' r)) (G := (Owed · h c0)) (m := (nu · h')) (H := (HelpfulC · h')) σ s0
    (fun s _ => exists_helpfulC s h') (fun _ _ => helpfulC_dec) (fun _ n ho => (owedC_step (σ n) (hσ n) ho).2)
    (fun _ _ n ho hh hne => .inl (helpfulC_persist ho hh (hσ n) hne)) fairL fairS

theorem liveness_of_inv (σ : Nat → Act) (hσ : ∀ n, notClose (σ n)) (s : State) (h : Nat) (hI : Inv s)
    (hp : (s.hs h).pending ≠ 0) (hop : (s.hs h).closing = false)
    (fairL : ∀ n, ∃ m, m ≥ n ∧ σ m = .loop)
    (fairS : ∀ n t, t < s.snd.length → ∃ m, m ≥ n ∧ σ m = .snd t) :
    ∃ n, ((runN σ n s).hs h).cbs > (s.hs h).cbs := by
  have hfin : ∀ j, Owed (runN σ j s) h (s.hs h).cbs → ∃ n, ((runN σ n s).hs h).cbs > (s.hs h).cbs :=
    fun j ho => liveness_aux σ hσ s h _ fairL fairS (mu (runN σ j s) h) j (Nat.le_refl _) ho
  have hclose : ∀ h' r, InClose s h' r → ∃ n, ((runN σ n s).hs h).cbs > (s.hs h).cbs := by
    intro h' r hpc
    obtain ⟨j, hj⟩ := spin_ends σ hσ s h (s.hs h).cbs h' r fairL fairS (nu s h') 0 (Nat.le_refl _)
      ⟨hI, hp, hop, rfl, hpc⟩
    exact hfin j hj
  cases hl : s.lpc with
  | closeStore h' r => exact hclose h' r (Or.inl hl)
  | closeSpin h' r => exact hclose h' r (Or.inr hl)
  | _ => exact hfin 0 ⟨hI, hp, hop, rfl, fun h2 r2 => by rw [show (runN σ 0 s).lpc = _ from hl]; exact ⟨nofun, nofun⟩⟩

end UvModel.Async
