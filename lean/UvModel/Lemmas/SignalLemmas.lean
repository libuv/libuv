import UvModel.Lemmas.SignalTree
/-! C13.  Each call of the signal API is described once, as an equation for the state it leaves (`sigStop_started`,
`sigStart_cases`, `dispatchMsg_eq_finishMsg_afterCb`).  `Inv`: the tree holds the keys of the started handles and
the kernel's dispositions are `expectedDisp` of it.  `AuxG`: pipe contents against the counters, closed handles, freshness of
callbacks.  `Good` = both, kept by every event. -/
namespace UvModel.Signal

theorem upd_proj {α β : Type} (g : α → β) {f : Nat → α} {i : Nat} {v : α} (hg : g v = g (f i)) (j : Nat) :
    g (upd f i v j) = g (f j) := by
  rw [upd_apply]; split
  · rename_i e; rw [hg, e]
  · rfl

theorem sigStop_noop {s : S} {h : Nat} (h0 : (s.hs h).signum = 0) : sigStop s h = s := by
  simp [sigStop, h0]

theorem sigStop_started {s : S} {h : Nat} (h0 : (s.hs h).signum ≠ 0) : sigStop s h =
    { s with hs := upd s.hs h { s.hs h with signum := 0 }, tree := s.tree.erase (keyOf h (s.hs h)),
             disp := (afterStop (s.tree.erase (keyOf h (s.hs h))) (s.hs h).signum (s.hs h).oneshot
               s.disp s.delivered).1,
             delivered := (afterStop (s.tree.erase (keyOf h (s.hs h))) (s.hs h).signum (s.hs h).oneshot
               s.disp s.delivered).2 } := by
  simp only [sigStop, h0, ↓reduceIte, afterStop]
  generalize firstHandle _ _ = o
  cases o
  · rfl
  · simp only; split <;> rfl

theorem sigStop_proj {β : Type} (g : Handle → β) (hg : ∀ H, g { H with signum := 0 } = g H) (s : S) (h j : Nat) :
    g ((sigStop s h).hs j) = g (s.hs j) := by
  by_cases h0 : (s.hs h).signum = 0
  · rw [sigStop_noop h0]
  · rw [sigStop_started h0]; exact upd_proj g (hg _) j

theorem sigStop_signum (s : S) (h : Nat) : ((sigStop s h).hs h).signum = 0 := by
  by_cases h0 : (s.hs h).signum = 0
  · rw [sigStop_noop h0]; exact h0
  · rw [sigStop_started h0]; exact congrArg Handle.signum (upd_same ..)

/-- API calls run no callback and leave the pipes alone -/
structure Quiet (s s' : S) : Prop where
  trace : s'.trace = s.trace
  pipes : s'.pipes = s.pipes
  cbLog : s'.cbLog = s.cbLog

theorem Quiet.refl {s : S} : Quiet s s := ⟨rfl, rfl, rfl⟩

theorem Quiet.trans {s s1 s2 : S} (h1 : Quiet s s1) (h2 : Quiet s1 s2) : Quiet s s2 :=
  ⟨h2.trace.trans h1.trace, h2.pipes.trans h1.pipes, h2.cbLog.trans h1.cbLog⟩

theorem sigStop_quiet_stale (s : S) (h : Nat) :
    Quiet s (sigStop s h) ∧ (sigStop s h).stale = s.stale := by
  by_cases h0 : (s.hs h).signum = 0
  · rw [sigStop_noop h0]; exact ⟨.refl, rfl⟩
  · rw [sigStop_started h0]; exact ⟨⟨rfl, rfl, rfl⟩, rfl⟩

/-- signal.c:418-428 on a stopped handle: signum, mode and callback as asked, the next incarnation, and the handle
enters the tree; `p` = the dispositions left by the registration decision before it -/
def restarted (s : S) (h sig : Nat) (os : Bool) (cb : Nat) (p : (Nat → Disp) × (Nat → Bool)) : S :=
  let H' := { s.hs h with signum := sig, oneshot := os, gen := (s.hs h).gen + 1, cb := cb }
  { s with hs := upd s.hs h H', tree := treeInsert (keyOf h H') s.tree, disp := p.1, delivered := p.2,
           stale := s.stale || pendingSame s h sig }

/-- the four ways through `uv__signal_start`: EINVAL for signum 0, the same-signum short-circuit, EINVAL from
`sigaction` with the handle already stopped, and the stopped handle restarted -/
theorem sigStart_cases (s : S) (h sig : Nat) (os : Bool) (cb : Nat) :
    sigStart s h sig os cb = (s, -22) ∨
    (sig ≠ 0 ∧ sig = (s.hs h).signum ∧ sigStart s h sig os cb = (setCb s h cb, 0)) ∨
    sigStart s h sig os cb = (sigStop s h, -22) ∨
    (sig ≠ 0 ∧ sigStart s h sig os cb = (restarted (sigStop s h) h sig os cb
      (afterStart (sigStop s h).tree sig os (sigStop s h).disp (sigStop s h).delivered), 0)) := by
  by_cases hsig : sig = 0
  · exact Or.inl (by unfold sigStart; exact if_pos hsig)
  by_cases hsame : sig = (s.hs h).signum
  · exact Or.inr (Or.inl ⟨hsig, hsame, by unfold sigStart; rw [if_neg hsig, if_pos hsame]⟩)
  refine Or.inr (Or.inr ?_)
  unfold sigStart
  rw [if_neg hsig, if_neg hsame]
  generalize sigStop s h = s1
  -- `b` is the model's `needReg`: tie `afterStart` to it, then forget what it is
  extract_lets +onlyGivenNames s2 b
  have e : s2 = s1 := rfl
  have hb : afterStart s1.tree sig os s1.disp s1.delivered =
      if b then (upd s1.disp sig (.uv os), upd s1.delivered sig false) else (s1.disp, s1.delivered) := rfl
  clear_value b s2
  subst e
  rw [hb]
  cases b
  · exact Or.inr ⟨hsig, rfl⟩
  · cases hv : sigValid sig
    · exact Or.inl rfl
    · exact Or.inr ⟨hsig, rfl⟩

theorem sigStart_quiet (s : S) (h sig : Nat) (os : Bool) (cb : Nat) : Quiet s (sigStart s h sig os cb).1 := by
  rcases sigStart_cases s h sig os cb with e | ⟨_, _, e⟩ | e | ⟨_, e⟩ <;> rw [e]
  · exact .refl
  · exact ⟨rfl, rfl, rfl⟩
  · exact (sigStop_quiet_stale s h).1
  · exact (sigStop_quiet_stale s h).1.trans ⟨rfl, rfl, rfl⟩

theorem applyOp_ind {P : S → Prop} (s : S) (o : Op) (h0 : P s)
    (hstart : ∀ h sig os cb, (s.hs h).closing = false → P (sigStart s h sig os cb).1)
    (hstop : ∀ h, P (sigStop s h)) (hclose : ∀ h, P (uvClose s h)) (href : ∀ h r, P (setRef s h r)) :
    P (applyOp s o).1 := by
  cases o <;> simp only [applyOp] <;> split <;> (try exact h0)
  · exact hstart _ _ false _ (Bool.eq_false_iff.2 ‹_›)
  · exact hstart _ _ true _ (Bool.eq_false_iff.2 ‹_›)
  · exact hstop _
  · exact hclose _
  · exact href _ _
  · exact href _ _

theorem applyOp_quiet (s : S) (o : Op) : Quiet s (applyOp s o).1 :=
  applyOp_ind s o (.refl) (fun _ _ _ _ _ => sigStart_quiet ..) (fun _ => (sigStop_quiet_stale ..).1)
    (fun _ => (sigStop_quiet_stale ..).1.trans ⟨rfl, rfl, rfl⟩) fun _ _ => ⟨rfl, rfl, rfl⟩

theorem runOps_quiet (s : S) (os : List Op) : Quiet s (runOps s os) := by
  induction os generalizing s with
  | nil => exact .refl
  | cons o os ih => exact (applyOp_quiet s o).trans (ih _)

structure Inv (s : S) : Prop where
  sorted : Sorted s.tree
  key : ∀ k ∈ s.tree, k = keyOf k.id (s.hs k.id) ∧ k.sig ≠ 0
  started : ∀ h, (s.hs h).signum ≠ 0 → keyOf h (s.hs h) ∈ s.tree
  closing : ∀ h, (s.hs h).closing = true → (s.hs h).signum = 0
  disp : ∀ sig, s.disp sig = expectedDisp s.tree s.delivered sig

theorem inv_init (loopOf : Nat → Nat) : Inv (init loopOf) :=
  ⟨List.Pairwise.nil, nofun, fun _ h => absurd rfl h, fun _ _ => rfl, fun _ => rfl⟩

theorem inv_frame {s s' : S} (hi : Inv s) (ht : s'.tree = s.tree)
    (hd : ∀ sig, s'.disp sig = expectedDisp s.tree s'.delivered sig)
    (hk : ∀ h, keyOf h (s'.hs h) = keyOf h (s.hs h))
    (hc : ∀ h, (s'.hs h).closing = true → (s.hs h).closing = true ∨ (s.hs h).signum = 0) : Inv s' := by
  have hsg : ∀ h, (s'.hs h).signum = (s.hs h).signum := fun h => congrArg Key.sig (hk h)
  refine ⟨ht ▸ hi.sorted, ?_, ?_, ?_, ht ▸ hd⟩
  · intro k hk'; rw [ht] at hk'; rw [hk]; exact hi.key k hk'
  · intro h hh; rw [ht, hk]; rw [hsg] at hh; exact hi.started h hh
  · intro h hh; rw [hsg]; exact (hc h hh).elim (hi.closing h) id

theorem inv_upd {s s' : S} (hi : Inv s) {h : Nat} {H' : Handle} (hhs : s'.hs = upd s.hs h H')
    (ht : s'.tree = s.tree) (hd : ∀ sig, s'.disp sig = expectedDisp s.tree s'.delivered sig)
    (hk : ∀ j, keyOf j H' = keyOf j (s.hs h))
    (hc : H'.closing = true → (s.hs h).closing = true ∨ (s.hs h).signum = 0) : Inv s' := by
  refine inv_frame hi ht hd (fun j => ?_) (fun j hj => ?_)
  · rw [hhs]; exact upd_proj (keyOf j) (hk j) j
  · rw [hhs, upd_apply] at hj; split at hj
    · rename_i e; rw [e]; exact hc hj
    · exact Or.inl hj

theorem inv_change {s s' : S} (hi : Inv s) {h : Nat} {H' : Handle} (hhs : s'.hs = upd s.hs h H')
    (hsorted : Sorted s'.tree)
    (hmem : ∀ k, k ∈ s'.tree ↔ k.id ≠ h ∧ k ∈ s.tree ∨ H'.signum ≠ 0 ∧ k = keyOf h H')
    (hc : H'.closing = true → H'.signum = 0)
    (hd : ∀ sig, s'.disp sig = expectedDisp s'.tree s'.delivered sig) : Inv s' := by
  refine ⟨hsorted, fun k hk => ?_, fun j hj => ?_, fun j hj => ?_, hd⟩
  · rw [hhs]
    rcases (hmem k).1 hk with ⟨e, hk⟩ | ⟨h0, rfl⟩
    · rw [upd_other _ _ _ _ e]; exact hi.key k hk
    · exact ⟨congrArg (keyOf h) (upd_same ..).symm, h0⟩
  · rw [hhs] at hj ⊢
    by_cases e : j = h
    · subst e; rw [upd_same] at hj ⊢; exact (hmem _).2 (Or.inr ⟨hj, rfl⟩)
    · rw [upd_other _ _ _ _ e] at hj ⊢; exact (hmem _).2 (Or.inl ⟨e, hi.started j hj⟩)
  · rw [hhs] at hj ⊢
    by_cases e : j = h
    · subst e; rw [upd_same] at hj ⊢; exact hc hj
    · rw [upd_other _ _ _ _ e] at hj ⊢; exact hi.closing j hj

theorem inv_sigStop {s : S} (h : Nat) (hi : Inv s) : Inv (sigStop s h) := by
  by_cases h0 : (s.hs h).signum = 0
  · rw [sigStop_noop h0]; exact hi
  rw [sigStop_started h0]
  refine inv_change hi rfl (sorted_erase _ hi.sorted) (fun k => ?_) (fun _ => rfl)
    (afterStop_spec (K := keyOf h (s.hs h)) hi.sorted hi.disp)
  -- the only node with id `h` is the one erased
  refine (mem_erase_sorted hi.sorted).trans
    ((and_congr_left fun hk => not_congr ⟨fun e => e ▸ rfl, fun e => ?_⟩).trans (or_iff_left fun c => c.1 rfl).symm)
  rw [(hi.key k hk).1, e]

theorem inv_restarted {s : S} (hi : Inv s) {h sig : Nat} (os : Bool) (cb : Nat) (h0 : (s.hs h).signum = 0)
    (hc : (s.hs h).closing = false) (hsig : sig ≠ 0) {p : (Nat → Disp) × (Nat → Bool)}
    (hd : ∀ K : Key, K.sig = sig → K.os = os → ∀ sig', p.1 sig' = expectedDisp (treeInsert K s.tree) p.2 sig') :
    Inv (restarted s h sig os cb p) := by
  have hnoid : ∀ k ∈ s.tree, k.id ≠ h := fun k hk e =>
    (hi.key k hk).2 (by rw [(hi.key k hk).1, e]; exact h0)
  refine inv_change hi rfl (sorted_treeInsert hi.sorted fun hin => hnoid _ hin rfl) (fun k => ?_)
    (fun hcl => absurd (hc.symm.trans hcl) Bool.false_ne_true) (hd _ rfl rfl)
  exact mem_treeInsert.trans ⟨fun c => c.elim (fun e => Or.inr ⟨hsig, e⟩) fun hk => Or.inl ⟨hnoid k hk, hk⟩,
    fun c => c.elim (fun c => Or.inr c.2) fun c => Or.inl c.2⟩

theorem inv_deliver {s : S} (sig : Nat) (hi : Inv s) : Inv (deliver s sig) := by
  unfold deliver
  split
  · exact hi
  rename_i reset hd
  have hexp := expectedDisp_delivered ((hi.disp sig).symm.trans hd)
  refine List.foldlRecOn _ _ ?_ fun s hs k _ => by
    unfold enqueueCap; split
    · exact hs
    · exact inv_upd hs rfl rfl hs.disp (fun _ => rfl) Or.inl
  cases reset <;>
    refine inv_frame hi rfl (disp_step (sig0 := sig) hi.disp (fun _ _ => Iff.rfl) ?_ ?_) (fun _ => rfl) fun _ => Or.inl
  · exact fun _ e => ⟨rfl, upd_other _ _ _ _ e⟩
  · exact hd.trans hexp.symm
  · exact fun _ e => ⟨upd_other _ _ _ _ e, upd_other _ _ _ _ e⟩
  · exact (upd_same ..).trans hexp.symm

/-- up to the return of the user's callback (signal.c:474-479) -/
def afterCb (sc : Script) (s : S) (L : Nat) (m : Msg) : S :=
  if m.sig = (s.hs m.h).signum then
    runOps { s with trace := .signal m.h m.sig L m.gen (s.hs m.h).gen :: s.trace, ncb := s.ncb + 1,
                    cbLog := (s.hs m.h).cb :: s.cbLog } (sc s.ncb)
  else s

/-- `handle->dispatched_signals++` -/
def counted (s : S) (h : Nat) : S :=
  { s with hs := upd s.hs h { s.hs h with dispatched := (s.hs h).dispatched + 1 } }

/-- the rest of the loop body (signal.c:481-485): count the message, stop a one-shot handle -/
def finishMsg (s : S) (h : Nat) : S :=
  if ((counted s h).hs h).oneshot then sigStop (counted s h) h else counted s h

theorem dispatchMsg_eq_finishMsg_afterCb (sc : Script) (s : S) (L : Nat) (m : Msg) :
    dispatchMsg sc s L m = finishMsg (afterCb sc s L m) m.h := rfl

theorem counted_proj {β : Type} (g : Handle → β) (hg : ∀ H n, g { H with dispatched := n } = g H) (s : S)
    (h j : Nat) : g ((counted s h).hs j) = g (s.hs j) :=
  upd_proj g (hg _ _) j

theorem finishMsg_quiet (s : S) (h : Nat) : Quiet s (finishMsg s h) := by
  unfold finishMsg; split
  · exact Quiet.trans (s1 := counted s h) ⟨rfl, rfl, rfl⟩ (sigStop_quiet_stale ..).1
  · exact ⟨rfl, rfl, rfl⟩

theorem finishMsg_oneshot (s : S) (h : Nat) : ((finishMsg s h).hs h).oneshot = (s.hs h).oneshot := by
  unfold finishMsg; split
  · exact (sigStop_proj Handle.oneshot (fun _ => rfl) ..).trans (counted_proj Handle.oneshot (fun _ _ => rfl) ..)
  · exact counted_proj Handle.oneshot (fun _ _ => rfl) ..

theorem finishMsg_signum (s : S) (h : Nat) :
    ((finishMsg s h).hs h).signum = if (s.hs h).oneshot then 0 else (s.hs h).signum := by
  unfold finishMsg
  rw [counted_proj Handle.oneshot fun _ _ => rfl]
  split
  · exact sigStop_signum ..
  · exact counted_proj Handle.signum (fun _ _ => rfl) ..

def cntFor (s : S) (L h : Nat) : Nat := (s.pipes L).countP (fun m => m.h = h)

/-- the counters of a handle that has `n` messages still to be counted as dispatched; the close callback has run
only if there is none.  That a closed handle is closing is kept here too: with `Inv.closing` it says that a closed
handle is stopped, which `aux_deliver` needs to know that the handler never visits one. -/
def Bal (H : Handle) (n : Nat) : Prop :=
  H.caught = H.dispatched + n ∧ (H.closed = true → n = 0 ∧ H.closing = true)

theorem Bal.caught {H : Handle} {n : Nat} (hb : Bal H n) (hc : H.closed = false) :
    Bal { H with caught := H.caught + 1 } (n + 1) :=
  ⟨congrArg Nat.succ hb.1, fun h => absurd (hc.symm.trans h) Bool.false_ne_true⟩

theorem Bal.dispatched {H : Handle} {n : Nat} (hb : Bal H (n + 1)) :
    Bal { H with dispatched := H.dispatched + 1 } n :=
  ⟨hb.1.trans (Nat.succ_add ..).symm, fun h => absurd (hb.2 h).1 (Nat.succ_ne_zero n)⟩

theorem Bal.closed {H : Handle} {n : Nat} (hb : Bal H n) (hle : ¬ H.caught > H.dispatched) (hc : H.closing = true) :
    Bal { H with closed := true } n :=
  ⟨hb.1, fun _ => ⟨Nat.eq_zero_of_not_pos fun hn => hle (hb.1 ▸ Nat.lt_add_of_pos_right hn), hc⟩⟩

/-- the auxiliary (ghost) invariant, generalised by a debt: `d h` = messages for `h` already taken out of the pipe but not
yet counted in `dispatched` (non-zero only in the middle of `dispatchMsg`, see `debt`); `Aux` is the case of no debt. -/
structure AuxG (d : Nat → Nat) (s : S) : Prop where
  own : ∀ L, ∀ m ∈ s.pipes L, (s.hs m.h).loop = L ∧ m.sig ≠ 0
  bal : ∀ h, Bal (s.hs h) (cntFor s (s.hs h).loop h + d h)
  cq : ∀ L, ∀ h ∈ s.closingQ L, (s.hs h).closing = true
  fresh : s.stale = false →
    (∀ L, ∀ m ∈ s.pipes L, m.sig = (s.hs m.h).signum → m.gen = (s.hs m.h).gen) ∧
    (∀ h sig L mg hg, Cb.signal h sig L mg hg ∈ s.trace → mg = hg)

abbrev Aux (s : S) : Prop := AuxG (fun _ => 0) s

/-- the debt while the message just read for `h` is being processed -/
def debt (h : Nat) : Nat → Nat := upd (fun _ => 0) h 1

theorem aux_init (loopOf : Nat → Nat) : Aux (init loopOf) :=
  ⟨nofun, fun _ => ⟨rfl, nofun⟩, nofun, fun _ => ⟨nofun, nofun⟩⟩

theorem aux_frame {d : Nat → Nat} {s s' : S} (ha : AuxG d s) (hhs : s'.hs = s.hs) (hp : s'.pipes = s.pipes)
    (hq : ∀ L, ∀ h ∈ s'.closingQ L, (s.hs h).closing = true) (hst : s'.stale = false → s.stale = false)
    (htr : ∀ h sig L mg hg, Cb.signal h sig L mg hg ∈ s'.trace →
      Cb.signal h sig L mg hg ∈ s.trace ∨ (s.stale = false → mg = hg)) : AuxG d s' := by
  refine ⟨fun L m hm => ?_, fun h => ?_, hhs ▸ hq, fun h => ?_⟩
  · rw [hhs]; exact ha.own L m (hp ▸ hm)
  · have := ha.bal h; unfold cntFor at this ⊢; rw [hhs, hp]; exact this
  · obtain ⟨f1, f2⟩ := ha.fresh (hst h)
    rw [hhs, hp]
    exact ⟨f1, fun h' sig L mg hg hc => (htr _ _ _ _ _ hc).elim (f2 _ _ _ _ _) fun g => g (hst h)⟩

theorem aux_upd {d d' : Nat → Nat} {s s' : S} (ha : AuxG d s) {h : Nat} {H' : Handle}
    (hhs : s'.hs = upd s.hs h H') (hp : s'.pipes = s.pipes) (hd : ∀ j, j ≠ h → d' j = d j)
    (hl : H'.loop = (s.hs h).loop) (hbal : ∀ n, Bal (s.hs h) (n + d h) → Bal H' (n + d' h))
    (hq : ∀ L, ∀ k ∈ s'.closingQ L, k ∈ s.closingQ L ∨ (k = h ∧ H'.closing = true))
    (hcl : (s.hs h).closing = true → H'.closing = true)
    (hfr : s'.stale = false → s.stale = false ∧ ((H'.signum = (s.hs h).signum ∧ H'.gen = (s.hs h).gen) ∨
      ∀ m ∈ s.pipes (s.hs h).loop, m.h = h → m.sig ≠ H'.signum))
    (htr : ∀ h sig L mg hg, Cb.signal h sig L mg hg ∈ s'.trace → Cb.signal h sig L mg hg ∈ s.trace) :
    AuxG d' s' := by
  have hloop : ∀ j, (s'.hs j).loop = (s.hs j).loop := fun j => by rw [hhs]; exact upd_proj Handle.loop hl j
  refine ⟨fun L m hm => ?_, fun j => ?_, fun L k hk => ?_, fun hst => ?_⟩
  · rw [hloop]; exact ha.own L m (hp ▸ hm)
  · have := ha.bal j
    unfold cntFor at this ⊢
    rw [hp, hloop, hhs]
    by_cases e : j = h
    · subst e; rw [upd_same]; exact hbal _ this
    · rw [upd_other _ _ _ _ e, hd j e]; exact this
  · rw [hhs, upd_apply]
    rcases hq L k hk with hk | ⟨rfl, hc⟩
    · split
      · rename_i e; exact hcl (e ▸ ha.cq L k hk)
      · exact ha.cq L k hk
    · rw [if_pos rfl]; exact hc
  · obtain ⟨hs0, hsg⟩ := hfr hst
    obtain ⟨f1, f2⟩ := ha.fresh hs0
    refine ⟨fun L m hm => ?_, fun h' sig L mg hg hc => f2 _ _ _ _ _ (htr _ _ _ _ _ hc)⟩
    rw [hp] at hm
    rw [hhs, upd_apply]; split
    · rename_i e
      rcases hsg with ⟨e1, e2⟩ | hno
      · rw [e1, e2, ← e]; exact f1 L m hm
      · intro e3
        have hL := (ha.own L m hm).1
        rw [e] at hL; subst hL
        exact absurd e3 (hno m hm e)
    · exact f1 L m hm

theorem aux_sigStop {d : Nat → Nat} {s : S} (h : Nat) (ha : AuxG d s) : AuxG d (sigStop s h) := by
  by_cases h0 : (s.hs h).signum = 0
  · rw [sigStop_noop h0]; exact ha
  rw [sigStop_started h0]
  -- messages never carry signum 0
  exact aux_upd ha rfl rfl (fun _ _ => rfl) rfl (fun _ => id) (fun _ _ => Or.inl) id
    (hfr := fun hst => ⟨hst, Or.inr fun m hm _ => (ha.own _ m hm).2⟩) fun _ _ _ _ _ => id

theorem aux_restarted {d : Nat → Nat} {s : S} (h sig : Nat) (os : Bool) (cb : Nat)
    (p : (Nat → Disp) × (Nat → Bool)) (ha : AuxG d s) : AuxG d (restarted s h sig os cb p) := by
  refine aux_upd ha rfl rfl (fun _ _ => rfl) rfl (fun _ => id) (fun _ _ => Or.inl) id (hfr := fun hst => ?_)
    fun _ _ _ _ _ => id
  obtain ⟨h1, h2⟩ := Bool.or_eq_false_iff.1 hst
  refine ⟨h1, Or.inr fun m hm e e2 => ?_⟩
  have := List.any_eq_false.1 h2 m hm
  simp [e, e2] at this

theorem mem_upd_cons {q : Nat → List Nat} {i L k h : Nat} (hk : k ∈ upd q i (h :: q i) L) : k ∈ q L ∨ k = h := by
  rw [upd_apply] at hk; split at hk
  · rename_i e; rw [e]; exact (List.mem_cons.1 hk).symm
  · exact Or.inl hk

theorem enqueue_proj {β : Type} (g : Handle → β) (hg : ∀ H c, g { H with caught := c } = g H) (sig : Nat) (s : S)
    (k : Key) (j : Nat) : g ((enqueue sig s k).hs j) = g (s.hs j) :=
  upd_proj g (hg _ _) j

theorem enqueue_pipes (sig : Nat) (s : S) (k : Key) (L : Nat) : (enqueue sig s k).pipes L =
    s.pipes L ++ if L = (s.hs k.id).loop then [⟨k.id, sig, (s.hs k.id).gen⟩] else [] := by
  show upd _ _ _ L = _
  rw [upd_apply]; split
  · rename_i e; rw [e]
  · exact (List.append_nil _).symm

theorem cntFor_enqueue (sig : Nat) (s : S) (k : Key) (L j : Nat) : cntFor (enqueue sig s k) L j =
    cntFor s L j + if L = (s.hs k.id).loop ∧ j = k.id then 1 else 0 := by
  unfold cntFor
  rw [enqueue_pipes, List.countP_append]
  by_cases e : L = (s.hs k.id).loop
  · by_cases ej : j = k.id
    · rw [if_pos e, if_pos ⟨e, ej⟩, List.countP_singleton, if_pos (decide_eq_true ej.symm)]
    · rw [if_pos e, if_neg fun c => ej c.2, List.countP_singleton, if_neg fun h => ej (of_decide_eq_true h).symm]
  · rw [if_neg e, if_neg fun c => e c.1]; rfl

theorem foldl_enqueue_caught (sig : Nat) (ks : List Key) (s : S) (j : Nat) :
    ((ks.foldl (enqueue sig) s).hs j).caught = (s.hs j).caught + ks.countP (fun k => k.id = j) := by
  induction ks generalizing s with
  | nil => rfl
  | cons k ks ih =>
    rw [List.foldl_cons, ih, List.countP_cons]
    show Handle.caught (upd _ _ _ j) + _ = _
    by_cases e : j = k.id
    · subst e; rw [upd_same, if_pos (decide_eq_true rfl)]; exact Nat.add_right_comm ..
    · rw [upd_other _ _ _ _ e, if_neg fun h => e (of_decide_eq_true h).symm]; rfl

theorem foldl_enqueue_pipes (sig : Nat) (ks : List Key) (s : S) (L : Nat) :
    (ks.foldl (enqueue sig) s).pipes L =
      s.pipes L ++ (ks.filter (fun k => (s.hs k.id).loop = L)).map (fun k => ⟨k.id, sig, (s.hs k.id).gen⟩) := by
  induction ks generalizing s with
  | nil => exact (List.append_nil _).symm
  | cons k ks ih =>
    rw [List.foldl_cons, ih, enqueue_pipes, List.filter_cons, List.append_assoc]
    simp only [enqueue_proj Handle.loop fun _ _ => rfl, enqueue_proj Handle.gen fun _ _ => rfl]
    by_cases e : L = (s.hs k.id).loop
    · rw [if_pos e, if_pos (by simpa using e.symm)]; rfl
    · rw [if_neg e, if_neg (by simpa using Ne.symm e)]; rfl

/-- inside the property's envelope (room for one message per visited node in every pipe) the handler
never sees EAGAIN -/
theorem foldl_enqueueCap_eq (sig : Nat) (ks : List Key) (s : S)
    (hroom : ∀ L, (s.pipes L).length + ks.length ≤ pipeCap) :
    ks.foldl (enqueueCap sig) s = ks.foldl (enqueue sig) s := by
  induction ks generalizing s with
  | nil => rfl
  | cons k ks ih =>
    have h1 : enqueueCap sig s k = enqueue sig s k :=
      if_neg (Nat.not_le.2 (Nat.lt_of_lt_of_le (Nat.lt_add_of_pos_right (Nat.succ_pos _)) (hroom _)))
    rw [List.foldl_cons, List.foldl_cons, h1]
    refine ih _ fun L => Nat.le_trans ?_ (hroom L)
    rw [enqueue_pipes, List.length_append, List.length_cons, Nat.add_right_comm]
    refine Nat.add_le_add_left (m := 1) ?_ _
    split
    · exact Nat.le_refl 1
    · exact Nat.zero_le 1

theorem countP_id_of_unique (l : List Key) (hn : l.Nodup) (a : Key) (huniq : ∀ k ∈ l, k.id = a.id → k = a) :
    l.countP (fun k => k.id = a.id) = if a ∈ l then 1 else 0 := by
  rw [← hn.count, List.count_eq_countP]
  refine List.countP_congr fun k hk => ⟨fun e => beq_iff_eq.2 (huniq k hk (of_decide_eq_true e)), fun e => ?_⟩
  rw [beq_iff_eq.1 e]; exact decide_eq_true rfl

theorem aux_enqueue {s : S} (sig : Nat) (k : Key) (ha : Aux s) (hsig : sig ≠ 0)
    (hncl : (s.hs k.id).closed = false) : Aux (enqueue sig s k) := by
  refine ⟨fun L m hm => ?_, fun j => ?_, fun L j hq => ?_, fun hst => ?_⟩
  · rw [enqueue_proj Handle.loop fun _ _ => rfl]
    rw [enqueue_pipes] at hm
    rcases List.mem_append.1 hm with hm | hm
    · exact ha.own L m hm
    · split at hm
      · rename_i e; cases List.mem_singleton.1 hm; exact ⟨e.symm, hsig⟩
      · cases hm
  · rw [enqueue_proj Handle.loop fun _ _ => rfl, cntFor_enqueue]
    show Bal (upd _ _ _ j) _
    by_cases e : j = k.id
    · subst e; rw [upd_same, if_pos ⟨rfl, rfl⟩]; exact (ha.bal _).caught hncl
    · rw [upd_other _ _ _ _ e, if_neg fun c => e c.2]; exact ha.bal j
  · rw [enqueue_proj Handle.closing fun _ _ => rfl]; exact ha.cq L j hq
  · obtain ⟨f1, f2⟩ := ha.fresh hst
    refine ⟨fun L m hm => ?_, f2⟩
    rw [enqueue_proj Handle.signum fun _ _ => rfl, enqueue_proj Handle.gen fun _ _ => rfl]
    rw [enqueue_pipes] at hm
    rcases List.mem_append.1 hm with hm | hm
    · exact f1 L m hm
    · split at hm
      · cases List.mem_singleton.1 hm; exact fun _ => rfl
      · cases hm

theorem aux_foldl_enqueue {s : S} (sig : Nat) (ks : List Key) (ha : Aux s)
    (hk : ∀ k ∈ ks, sig ≠ 0 ∧ (s.hs k.id).closed = false) : Aux (ks.foldl (enqueueCap sig) s) := by
  induction ks generalizing s with
  | nil => exact ha
  | cons k ks ih =>
    have hk0 := hk k List.mem_cons_self
    unfold enqueueCap at ih ⊢
    rw [List.foldl_cons]; split
    · exact ih ha fun k' hk' => hk k' (List.mem_cons_of_mem _ hk')
    · refine ih (aux_enqueue sig k ha hk0.1 hk0.2) fun k' hk' => ?_
      rw [enqueue_proj Handle.closed fun _ _ => rfl]; exact hk k' (List.mem_cons_of_mem _ hk')

theorem aux_deliver {s : S} (sig : Nat) (hi : Inv s) (ha : Aux s) : Aux (deliver s sig) := by
  unfold deliver
  split
  · exact ha
  rename_i reset hd
  have hsub : ∀ k ∈ handlerTargets s.tree sig, sig ≠ 0 ∧ (s.hs k.id).closed = false := by
    intro k hk
    rw [handlerTargets_eq_filter sig hi.sorted] at hk
    obtain ⟨hk, hks⟩ := List.mem_filter.1 hk
    obtain ⟨hkey, hk0⟩ := hi.key k hk
    -- a closed handle is closing, hence stopped, hence not in the tree
    refine ⟨of_decide_eq_true hks ▸ hk0, Bool.eq_false_iff.2 fun hc => hk0 ?_⟩
    rw [hkey]; exact hi.closing k.id ((ha.bal k.id).2 hc).2
  cases reset <;> exact aux_foldl_enqueue sig _ (aux_frame ha rfl rfl ha.cq id fun _ _ _ _ _ => Or.inl) hsub

theorem aux_pop {s : S} {L : Nat} {m : Msg} {rest : List Msg} (ha : Aux s) (hp : s.pipes L = m :: rest) :
    AuxG (debt m.h) { s with pipes := upd s.pipes L rest } := by
  have hown := ha.own L m (hp ▸ List.mem_cons_self)
  have hsub : ∀ L' x, x ∈ upd s.pipes L rest L' → x ∈ s.pipes L' := by
    intro L' x hx; rw [upd_apply] at hx; split at hx
    · rename_i e; rw [e, hp]; exact List.mem_cons_of_mem _ hx
    · exact hx
  refine ⟨fun L' x hx => ha.own L' x (hsub L' x hx), fun j => ?_, ha.cq,
    fun hst => ⟨fun L' x hx => (ha.fresh hst).1 L' x (hsub L' x hx), (ha.fresh hst).2⟩⟩
  have hb := ha.bal j
  unfold cntFor at hb ⊢
  unfold debt
  show Bal _ ((upd s.pipes L rest _).countP _ + _)
  rw [upd_apply (i := L)]; split
  · rename_i e
    rw [e, hp, List.countP_cons] at hb
    by_cases ej : j = m.h
    · subst ej; rw [if_pos (decide_eq_true rfl)] at hb; rw [upd_same]; exact hb
    · rw [if_neg fun h => ej (of_decide_eq_true h).symm] at hb; rw [upd_other _ _ _ _ ej]; exact hb
  · have ej : j ≠ m.h := fun ej => ‹¬_› (ej ▸ hown.1)
    rw [upd_other _ _ _ _ ej]; exact hb

/-- both invariants, the second against the debt `d` -/
abbrev Good (s : S) (d : Nat → Nat := fun _ => 0) : Prop := Inv s ∧ AuxG d s

/-- a handle field that neither invariant reads -/
theorem good_set_cb_ref {d : Nat → Nat} {s : S} (j c : Nat) (r : Bool) (h : Good s d) :
    Good { s with hs := upd s.hs j { s.hs j with cb := c, ref := r } } d :=
  ⟨inv_upd h.1 rfl rfl h.1.disp (fun _ => rfl) Or.inl,
    aux_upd h.2 rfl rfl (fun _ _ => rfl) rfl (fun _ => id) (fun _ _ => Or.inl) id
      (fun hst => ⟨hst, Or.inl ⟨rfl, rfl⟩⟩) fun _ _ _ _ _ => id⟩

theorem good_sigStop {d : Nat → Nat} {s : S} (j : Nat) (h : Good s d) : Good (sigStop s j) d :=
  ⟨inv_sigStop j h.1, aux_sigStop j h.2⟩

theorem good_sigStart {d : Nat → Nat} {s : S} (j sig : Nat) (os : Bool) (cb : Nat) (h : Good s d)
    (hc : (s.hs j).closing = false) : Good (sigStart s j sig os cb).1 d := by
  have h1 := good_sigStop j h
  rcases sigStart_cases s j sig os cb with e | ⟨_, _, e⟩ | e | ⟨hsig, e⟩ <;> rw [e]
  · exact h
  · exact good_set_cb_ref j cb _ h
  · exact h1
  · exact ⟨inv_restarted h1.1 os cb (sigStop_signum s j)
      ((sigStop_proj Handle.closing (fun _ => rfl) s j j).trans hc) hsig
      fun _ e1 e2 => afterStart_spec h1.1.sorted e1 e2 h1.1.disp, aux_restarted j sig os cb _ h1.2⟩

theorem good_uvClose {d : Nat → Nat} {s : S} (j : Nat) (h : Good s d) : Good (uvClose s j) d :=
  have h1 := good_sigStop j h
  ⟨inv_upd h1.1 rfl rfl h1.1.disp (fun _ => rfl) fun _ => Or.inr (sigStop_signum s j),
    aux_upd h1.2 rfl rfl (fun _ _ => rfl) rfl (hbal := fun _ hb => ⟨hb.1, fun hc => ⟨(hb.2 hc).1, rfl⟩⟩)
      (hq := fun _ _ hk => (mem_upd_cons hk).imp_right fun e => ⟨e, rfl⟩) (hcl := fun _ => rfl)
      (fun hst => ⟨hst, Or.inl ⟨rfl, rfl⟩⟩) fun _ _ _ _ _ => id⟩

theorem good_applyOp {d : Nat → Nat} {s : S} (o : Op) (h : Good s d) : Good (applyOp s o).1 d :=
  applyOp_ind (P := (Good · d)) s o h (fun j sig os cb => good_sigStart j sig os cb h) (good_sigStop · h)
    (good_uvClose · h) fun j r => good_set_cb_ref j _ r h

theorem good_runOps {d : Nat → Nat} {s : S} (os : List Op) (h : Good s d) : Good (runOps s os) d := by
  induction os generalizing s with
  | nil => exact h
  | cons o os ih => exact ih (good_applyOp o h)

theorem good_afterCb {d : Nat → Nat} {s : S} (sc : Script) (L : Nat) (m : Msg) (h : Good s d)
    (hm : s.stale = false → m.sig = (s.hs m.h).signum → m.gen = (s.hs m.h).gen) :
    Good (afterCb sc s L m) d := by
  unfold afterCb; split
  · refine good_runOps _ ⟨inv_frame h.1 rfl h.1.disp (fun _ => rfl) fun _ => Or.inl,
      aux_frame h.2 rfl rfl h.2.cq id fun _ _ _ _ _ hc => ?_⟩
    rcases List.mem_cons.1 hc with e | hc
    · cases e; exact Or.inr fun hst => hm hst ‹_›
    · exact Or.inl hc
  · exact h

theorem good_finishMsg {s : S} {j : Nat} (h : Good s (debt j)) : Good (finishMsg s j) := by
  have h2 : Good (counted s j) :=
    ⟨inv_upd h.1 rfl rfl h.1.disp (fun _ => rfl) Or.inl,
      aux_upd h.2 rfl rfl (hd := fun _ e => (upd_other (fun _ => 0) _ _ 1 e).symm) rfl
        (hbal := fun n hb => Bal.dispatched (by rwa [debt, upd_same] at hb)) (fun _ _ => Or.inl) id
        (fun hst => ⟨hst, Or.inl ⟨rfl, rfl⟩⟩) fun _ _ _ _ _ => id⟩
  unfold finishMsg; split
  · exact good_sigStop j h2
  · exact h2

theorem good_dispatchN {s : S} (sc : Script) (n L : Nat) (h : Good s) : Good (dispatchN sc n s L) := by
  induction n generalizing s with
  | zero => exact h
  | succ n ih =>
    unfold dispatchN
    split
    · exact h
    · rename_i m rest hp
      have hcb := good_afterCb (s := { s with pipes := upd s.pipes L rest }) sc L m
        ⟨inv_frame h.1 rfl h.1.disp (fun _ => rfl) fun _ => Or.inl, aux_pop h.2 hp⟩
        fun hst => (h.2.fresh hst).1 L m (hp ▸ List.mem_cons_self)
      exact ih (good_finishMsg hcb)

theorem good_finishClose {s : S} (j : Nat) (h : Good s) (hc : (s.hs j).closing = true) :
    Good (finishClose s j) := by
  unfold finishClose
  simp only
  split
  · exact ⟨inv_frame h.1 rfl h.1.disp (fun _ => rfl) fun _ => Or.inl,
      aux_frame h.2 rfl rfl (fun L k hk => (mem_upd_cons hk).elim (h.2.cq L k) fun e => e ▸ hc) id
        fun _ _ _ _ _ => Or.inl⟩
  · rename_i hle
    exact ⟨inv_upd h.1 rfl rfl h.1.disp (fun _ => rfl) Or.inl,
      aux_upd h.2 rfl rfl (fun _ _ => rfl) rfl (hbal := fun _ hb => hb.closed hle hc) (fun _ _ => Or.inl) id
        (fun hst => ⟨hst, Or.inl ⟨rfl, rfl⟩⟩)
        (htr := fun _ _ _ _ _ hc => (List.mem_cons.1 hc).resolve_left nofun)⟩

theorem finishClose_closing (s : S) (h j : Nat) : ((finishClose s h).hs j).closing = (s.hs j).closing := by
  unfold finishClose; simp only; split
  · rfl
  · exact upd_proj Handle.closing (by rfl) j

theorem good_runClosing {s : S} (L : Nat) (h : Good s) : Good (runClosing s L) := by
  have key : ∀ (q : List Nat) (s : S), Good s → (∀ j ∈ q, (s.hs j).closing = true) →
      Good (q.foldl finishClose s) := by
    intro q
    induction q with
    | nil => exact fun _ h _ => h
    | cons k ks ih =>
      intro s h hq
      refine ih _ (good_finishClose k h (hq k List.mem_cons_self)) fun j hj => ?_
      rw [finishClose_closing]; exact hq j (List.mem_cons_of_mem _ hj)
  refine key _ _ ⟨inv_frame h.1 rfl h.1.disp (fun _ => rfl) fun _ => Or.inl,
    aux_frame h.2 rfl rfl (fun L' k hk => ?_) id fun _ _ _ _ _ => Or.inl⟩ (h.2.cq L)
  change k ∈ upd _ _ _ L' at hk
  rw [upd_apply] at hk; split at hk
  · cases hk
  · exact h.2.cq L' k hk

theorem good_step {s : S} (sc : Script) (e : Ev) (h : Good s) : Good (step sc s e) := by
  cases e with
  | op o => exact good_applyOp o h
  | deliver sig => exact ⟨inv_deliver sig h.1, aux_deliver sig h.1 h.2⟩
  | dispatch L => exact good_dispatchN sc _ L h
  | runClosing L => exact good_runClosing L h
  | run L =>
    simp only [step, runLoop]; split
    · exact good_runClosing L (good_dispatchN sc _ L h)
    · exact h

theorem good_runEvs {s : S} (sc : Script) (evs : List Ev) (h : Good s) : Good (runEvs sc s evs) :=
  List.foldlRecOn (motive := (Good ·)) _ _ h fun _ hs e _ => good_step sc e hs

end UvModel.Signal
