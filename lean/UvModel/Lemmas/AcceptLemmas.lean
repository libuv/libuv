import UvModel.Accept
import UvModel.Lemmas.IfLeaves
/-! C07, accept side (uv__server_io, uv_accept, the IPC descriptor queue, uv_close).  Each operation is a nest of `if`s whose leaves update a few fields of the state, so `Inv`
is carried leaf by leaf: after a leaf it is the invariant before (`{ h with … }`) except for the conjuncts that
speak of an updated field.  The queue arithmetic is proved on `Queue` alone. -/
namespace UvModel.Accept

theorem perm_mid {α} {l a r : List α} (t : List α) (h : l.Perm (a ++ r)) : (l ++ t).Perm (a ++ t ++ r) :=
  (h.append_right t).trans <| by
    rw [List.append_assoc, List.append_assoc]
    exact List.perm_append_comm.append_left a

theorem perm_snoc_a {l a b c : List Fd} (x : Fd) (h : l.Perm (a ++ b ++ c)) :
    (l ++ [x]).Perm (a ++ [x] ++ b ++ c) := by
  rw [List.append_assoc] at h ⊢
  exact perm_mid [x] h

theorem perm_snoc_b {l a b c : List Fd} (x : Fd) (h : l.Perm (a ++ b ++ c)) :
    (l ++ [x]).Perm (a ++ (b ++ [x]) ++ c) := by
  rw [← List.append_assoc]
  exact perm_mid [x] h

macro "perm_count" h:ident : tactic => `(tactic| (
  rw [List.perm_iff_count] at $h:ident ⊢; intro y; have := $h:ident y;
  simp only [List.count_append, List.count_cons, List.count_nil, List.append_assoc, Option.toList] at *;
  (try split) <;> omega))

structure QInv (q : Queue) : Prop where
  pos : 0 < q.offset
  le : q.offset ≤ q.fds.length
  sz : q.size = q.fds.length

/-- The invariant of `step`: the queue is well-formed and only an IPC pipe has one (`nofault`–`listenQ`); the
ghost history accounts for every descriptor (`fifo`, `cons`, `openB`); POLLIN of a listener is armed inside the
connection callback and, outside it, paused exactly while a connection is held (`pollCb`, `pollOut`) — except
after a deferred `uv_accept` whose client failed to open, which leaves it paused with nothing held: that state
is what the ghost flag `stuck` marks, and `pollOut` claims re-arming only for `stuck = false`. -/
structure Inv (s : St) : Prop where
  nofault : s.fault = false
  accNone : s.acceptedFd = none → s.queued = none
  qinv : ∀ q, s.queued = some q → QInv q
  listenQ : s.role = .listen → s.queued = none
  fifo : s.stored = s.taken.map (·.1) ++ pending s ++ s.byClose
  cons : List.Perm s.arrived (s.stored ++ s.dropped ++ s.shed)
  closedP : s.closed = true → s.acceptedFd = none ∧ s.pollin = false
  openB : s.closed = false → s.byClose = []
  ipcCb : s.role = .ipc → s.inCb = false
  pollCb : s.role = .listen → s.closed = false → s.inCb = true → s.pollin = true
  pollOut : s.role = .listen → s.closed = false → s.inCb = false →
    (s.acceptedFd.isSome → s.pollin = false) ∧ (s.acceptedFd = none → s.stuck = false → s.pollin = true)

@[simp] theorem qlist_none : qlist none = [] := rfl

theorem inv_init (role : Role) (ipc pollin : Bool) (h : role = .listen → pollin = true) :
    Inv (init role ipc pollin) :=
  ⟨rfl, fun _ => rfl, nofun, fun _ => rfl, rfl, .refl _, nofun, fun _ => rfl, fun _ => rfl,
    fun hl _ _ => h hl, fun hl _ _ => ⟨nofun, fun _ _ => h hl⟩⟩

/-- a descriptor arrives at a stream that holds none: by `accept4` in `uv__server_io`, which then enters the
callback (`cb = true`), or as the first of a message on an IPC pipe (`cb = s.inCb`) -/
theorem inv_store {s : St} (h : Inv s) (hc : s.closed = false) (ha : s.acceptedFd = none) {fd : Fd} {cb : Bool}
    (hl : s.role = .listen → cb = true ∧ s.pollin = true) (hi : s.role = .ipc → cb = false) :
    Inv { s with acceptedFd := some fd, arrived := s.arrived ++ [fd], stored := s.stored ++ [fd], inCb := cb } :=
  { h with
    accNone := nofun
    fifo := by simpa [pending, ha, h.accNone ha, h.openB hc] using h.fifo
    cons := perm_snoc_a fd h.cons
    closedP := fun hc' => absurd hc' (Bool.eq_false_iff.mp hc)
    ipcCb := hi
    pollCb := fun l _ _ => (hl l).2
    pollOut := fun l _ i => nomatch (hl l).1.symm.trans i }

theorem inv_ioBegin (s : St) (r : AcceptRes) (t : Trick) (h : Inv s) : Inv (ioBegin s r t) :=
  iteInduction (fun _ => h) fun hg => by
    obtain ⟨⟨⟨hl, hc⟩, hp⟩, hi⟩ :
        ((s.role = .listen ∧ s.closed = false) ∧ s.pollin = true) ∧ s.inCb = false := by simpa using hg
    -- POLLIN is armed outside the callback, so nothing is held and the assert cannot fire
    have ha : s.acceptedFd.isSome = false := by
      cases hs : s.acceptedFd.isSome
      · rfl
      · exact absurd ((h.pollOut hl hc hi).1 hs) (by simp [hp])
    rw [ha]
    cases r with
    | ok fd => exact inv_store h hc (by simpa using ha) (fun _ => ⟨rfl, hp⟩) fun hr => nomatch hl.symm.trans hr
    | err e =>
      exact iteInduction (fun _ => iteInduction (fun _ => h) fun _ => { h with cons := List.append_assoc .. ▸ h.cons.append_right t.shedFds })
        fun _ => h

theorem inv_ioEnd (s : St) (h : Inv s) : Inv (ioEnd s) :=
  iteInduction (fun _ => h) fun hi =>
  have hi : s.inCb = true := by simpa using hi
  iteInduction
    (fun ha => { h with
      closedP := fun hc => ⟨(h.closedP hc).1, rfl⟩
      ipcCb := fun _ => rfl
      pollCb := nofun
      pollOut := fun _ _ _ => ⟨fun _ => rfl, fun hn => absurd hn (Option.isSome_iff_ne_none.mp ha)⟩ })
    fun ha => { h with
      ipcCb := fun _ => rfl
      pollCb := nofun
      pollOut := fun hl hc _ => ⟨fun hs => absurd hs ha, fun _ _ => h.pollCb hl hc hi⟩ }

theorem inv_close (s : St) (h : Inv s) : Inv (close s) :=
  iteInduction (fun _ => h) fun hc =>
  { h with
    accNone := fun _ => rfl
    qinv := nofun
    listenQ := fun _ => rfl
    fifo := by simpa [pending, h.openB (by simpa using hc)] using h.fifo
    closedP := fun _ => ⟨rfl, rfl⟩
    openB := nofun
    pollCb := fun _ => nofun
    pollOut := fun _ => nofun }

/-- the memmove of `uv_accept`: the head followed by the shifted prefix is the logical prefix before it -/
theorem qlist_pop (q : Queue) (h : QInv q) :
    q.fds.headD default :: qlist (some { q with offset := q.offset - 1,
                                                fds := (q.fds.drop 1).take (q.offset - 1) ++ q.fds.drop (q.offset - 1) }) =
      qlist (some q) := by
  obtain ⟨hpos, hle, -⟩ := h
  obtain ⟨sz, off, fds⟩ := q
  cases fds with
  | nil => exact absurd hpos (Nat.not_lt.mpr hle)
  | cons a t =>
    cases off with
    | zero => cases hpos
    | succ k =>
      have hle : k ≤ t.length := Nat.le_of_succ_le_succ hle
      simp [qlist, List.length_take, Nat.min_eq_left hle]

theorem qinv_pop (q : Queue) (h : QInv q) (h1 : 1 < q.offset) :
    QInv { q with offset := q.offset - 1,
                  fds := (q.fds.drop 1).take (q.offset - 1) ++ q.fds.drop (q.offset - 1) } := by
  have hle : q.offset - 1 + 1 ≤ q.fds.length := Nat.sub_add_cancel h.pos ▸ h.le
  have hlen : ((q.fds.drop 1).take (q.offset - 1) ++ q.fds.drop (q.offset - 1)).length = q.fds.length := by
    rw [List.length_append, List.length_take, List.length_drop, List.length_drop,
      Nat.min_eq_left (Nat.le_sub_of_add_le hle), Nat.add_sub_of_le (Nat.le_of_succ_le hle)]
  exact ⟨Nat.sub_pos_of_lt h1, hlen ▸ Nat.le_trans (Nat.sub_le ..) h.le, hlen ▸ h.sz⟩

/-- the state after `uv_accept` took the held descriptor and moved the head `fds[0]` of the queue up -/
theorem inv_pop {s : St} (h : Inv s) {fd : Fd} (ha : s.acceptedFd = some fd) {q : Queue} (hq : s.queued = some q)
    (ok : Bool) (q' : Option Queue) (hq' : ∀ x, q' = some x → QInv x)
    (hp : q.fds.headD default :: qlist q' = qlist (some q)) :
    Inv { s with taken := s.taken ++ [(fd, ok)], acceptedFd := some (q.fds.headD default), queued := q',
                 fault := false } :=
  have hl : s.role = .listen → False := fun hl => nomatch (h.listenQ hl).symm.trans hq
  { h with
    nofault := rfl
    accNone := nofun
    qinv := hq'
    listenQ := fun hl' => (hl hl').elim
    fifo := by rw [h.fifo, pending, ha, hq, ← hp]; simp [pending]
    closedP := fun hc => nomatch ha.symm.trans (h.closedP hc).1
    pollOut := fun hl' => (hl hl').elim }

theorem inv_uvAccept (s : St) (c : ClientTy) (e : Int) (h : Inv s) : Inv (uvAccept s c e).1 := by
  unfold uvAccept
  cases ha : s.acceptedFd with
  | none => exact h
  | some fd =>
    refine of_ite_fst (fun _ => h) fun _ => ?_
    dsimp only
    cases hq : s.queued with
    | none =>
      dsimp only
      exact { h with
        accNone := fun _ => rfl
        qinv := nofun
        listenQ := fun _ => rfl
        fifo := by rw [h.fifo, pending, ha, hq]; simp [pending]
        closedP := fun hc => nomatch ha.symm.trans (h.closedP hc).1
        pollCb := fun hl hc hi => by simp [h.pollCb hl hc hi]
        -- `stuck` not raised outside the callback means the client opened, and that re-arms POLLIN
        pollOut := fun (hl : s.role = .listen) _ (hi : s.inCb = false) => ⟨nofun, fun _ hs => by
          have : s.stuck = false ∧ e = 0 := by simpa [hl, hi] using hs
          simp [this.2]⟩ }
    | some q =>
      have hqi := h.qinv q hq
      have hp := qlist_pop q hqi
      have hne : q.fds ≠ [] := fun hn => Nat.not_lt.mpr (hn ▸ hqi.le : q.offset ≤ ([] : List Fd).length) hqi.pos
      dsimp only
      -- neither assert fires and the memmove stays inside the allocation
      rw [show (s.fault || q.offset == 0 || q.fds.isEmpty) = false by simp [h.nofault, hne, Nat.ne_of_gt hqi.pos],
        show decide (q.offset - 1 + 1 ≤ q.fds.length) = true by simp [Nat.sub_add_cancel hqi.pos, hqi.le]]
      refine of_ite_fst (fun h1 => ?_) fun h1 => ?_
      · rw [show q.offset - 1 = 0 by simpa using h1] at hp
        exact inv_pop h ha hq _ none nofun hp
      · exact inv_pop h ha hq _ _ (fun _ hx => Option.some.inj hx ▸ qinv_pop q hqi (by simp at h1; omega)) hp

theorem Inv.head_pending {s : St} (h : Inv s) : (pending s).head? = s.acceptedFd := by
  rw [pending]
  cases ha : s.acceptedFd with
  | none => rw [h.accNone ha]; rfl
  | some fd => rfl

theorem Inv.pending_nil {s : St} (h : Inv s) : pending s = [] ↔ s.acceptedFd = none := by
  rw [← h.head_pending, List.head?_eq_none_iff]

theorem uvAccept_none {s : St} (ha : s.acceptedFd = none) (c : ClientTy) (e : Int) :
    uvAccept s c e = (s, EAGAIN) := by
  rw [uvAccept, ha]

theorem uvAccept_some {s : St} {fd : Fd} (ha : s.acceptedFd = some fd) {c : ClientTy} (hc : c ≠ .other)
    (e : Int) :
    (uvAccept s c e).2 = e ∧ (uvAccept s c e).1.taken = s.taken ++ [(fd, e == 0)] ∧
    (uvAccept s c e).1.stored = s.stored ∧ (uvAccept s c e).1.byClose = s.byClose := by
  rw [uvAccept, ha]
  dsimp only
  rw [if_neg (by simpa using hc)]
  cases s.queued with
  | none => exact ⟨rfl, rfl, rfl, rfl⟩
  | some q => dsimp only; cases q.offset - 1 == 0 <;> exact ⟨rfl, rfl, rfl, rfl⟩

theorem uvAccept_result {s : St} {fd : Fd} (ha : s.acceptedFd = some fd) (c : ClientTy) (e : Int) :
    (uvAccept s c e).2 = if c = .other then EINVAL else e := by
  split
  · next hc => rw [uvAccept, ha, hc]; rfl
  · next hc => exact (uvAccept_some ha hc e).1

theorem uvAccept_last {s : St} {fd : Fd} (ha : s.acceptedFd = some fd) (hq : s.queued = none)
    {c : ClientTy} (hc : c ≠ .other) (e : Int) :
    (uvAccept s c e).1 = { s with taken := s.taken ++ [(fd, e == 0)], acceptedFd := none,
                                  pollin := s.pollin || e == 0,
                                  stuck := s.stuck || (e != 0 && !s.inCb && s.role == .listen) } := by
  rw [uvAccept, ha]
  dsimp only
  rw [if_neg (by simpa using hc), hq]

theorem slotsOf_allocBytes {k : Nat} (hk : 0 < k) : slotsOf (allocBytes k) = k := by
  unfold slotsOf allocBytes; omega

theorem putFd_spec (s : St) (q : Queue) (fd : Fd) (hsz : q.size = q.fds.length) (hlt : q.offset < q.fds.length)
    {l : List Fd} (hl : q.fds.take q.offset = l) :
    ∃ q', QInv q' ∧ putFd s q fd = { s with queued := some q' } ∧ qlist (some q') = l ++ [fd] :=
  ⟨_, ⟨Nat.succ_pos _, by rw [List.length_set]; exact hlt, by simpa using hsz⟩, if_pos hlt, by
    show (q.fds.set q.offset fd).take (q.offset + 1) = _
    rw [← hl, List.take_succ_eq_append_getElem (by simpa using hlt), List.take_set_of_le (Nat.le_refl _),
      List.getElem_set_self]⟩

theorem queueFd_spec (s : St) (fd : Fd) (ok : Bool)
    (hq : ∀ q, s.queued = some q → QInv q) :
    ((queueFd s fd ok).2.1 = 0 ∧ ∃ q', QInv q' ∧ (queueFd s fd ok).1 = { s with queued := some q' } ∧
        qlist (some q') = qlist s.queued ++ [fd]) ∨
    ((queueFd s fd ok).1 = s ∧ (queueFd s fd ok).2.1 = ENOMEM) := by
  unfold queueFd
  cases hs : s.queued with
  | none =>
    cases ok with
    | false => exact .inr ⟨rfl, rfl⟩
    | true =>
      exact .inl ⟨rfl, putFd_spec s ⟨8, 0, List.replicate (slotsOf (allocBytes 8)) default⟩ fd (by decide) (by decide) rfl⟩
  | some q =>
    obtain ⟨hpos, hle, hsz⟩ := hq q hs
    dsimp only
    cases hf : q.size == q.offset
    · have : q.size ≠ q.offset := by simpa using hf
      exact .inl ⟨rfl, putFd_spec s q fd hsz (by omega) rfl⟩
    · cases ok with
      | false => exact .inr ⟨rfl, rfl⟩
      | true =>
        have hf : q.offset = q.fds.length := by rw [← hsz]; exact (by simpa using hf : q.size = q.offset).symm
        -- realloc to `size + 8` slots keeps the whole array: it is full
        rw [slotsOf_allocBytes (k := q.size + 8) (by omega), hsz, List.take_of_length_le (Nat.le_add_right ..),
          Nat.add_sub_cancel_left]
        exact .inl ⟨rfl, putFd_spec s _ fd (by simp) (by simp; omega) (by simp [qlist, hf])⟩

theorem inv_enqueue (s : St) (fd : Fd) (q' : Queue) (h : Inv s) (hr : s.role = .ipc) (hc : s.closed = false)
    (ha : s.acceptedFd.isSome = true) (hq : QInv q') (hl : qlist (some q') = qlist s.queued ++ [fd]) :
    Inv { s with arrived := s.arrived ++ [fd], queued := some q', stored := s.stored ++ [fd] } :=
  { h with
    accNone := fun hn => absurd hn (Option.isSome_iff_ne_none.mp ha)
    qinv := fun _ e => Option.some.inj e ▸ hq
    listenQ := fun hl => absurd hl (by simp [hr])
    fifo := by rw [h.fifo, h.openB hc]; simp [pending, hl]
    cons := perm_snoc_a fd h.cons }

theorem inv_drop (s : St) (fd : Fd) (h : Inv s) :
    Inv { s with arrived := s.arrived ++ [fd], dropped := s.dropped ++ [fd] } :=
  { h with cons := perm_snoc_b fd h.cons }

theorem inv_recvLoop (f : Option Nat) (fds : List Fd) : ∀ (s : St) (err : Int) (n : Nat),
    Inv s → s.role = .ipc → s.closed = false → Inv (recvLoop s err n f fds).1 := by
  induction fds with
  | nil => intro s err n h _ _; exact h
  | cons fd rest ih =>
    intro s err n h hr hc
    simp only [recvLoop]
    have spec := queueFd_spec { s with arrived := s.arrived ++ [fd] } fd (f != some n) h.qinv
    generalize queueFd { s with arrived := s.arrived ++ [fd] } fd (f != some n) = res at spec ⊢
    obtain ⟨s', e, al⟩ := res
    refine of_ite_fst (fun _ => ?_) fun _ => ih _ _ _ (inv_drop s fd h) hr hc
    cases ha : s.acceptedFd with
    | none => exact ih _ _ _ (inv_store h hc ha (fun l => nomatch hr.symm.trans l) h.ipcCb) hr hc
    | some a =>
      rcases spec with ⟨rfl, q', hq', rfl, e3⟩ | ⟨rfl, rfl⟩
      · exact ih _ _ _ (inv_enqueue s fd q' h hr hc (by simp [ha]) hq' e3) hr hc
      · exact ih _ _ _ (inv_drop s fd h) hr hc

theorem inv_step (s : St) (op : Op) (h : Inv s) : Inv (step s op) := by
  cases op with
  | streamInit ok => exact { h with }
  | ioBegin r t => exact inv_ioBegin s r t h
  | ioEnd => exact inv_ioEnd s h
  | accept c e => exact inv_uvAccept s c e h
  | recv fds f =>
    refine of_ite_fst (fun _ => h) fun hg => ?_
    have hg : s.role = .ipc ∧ s.closed = false := by simpa using hg
    exact inv_recvLoop f fds s 0 0 h hg.1 hg.2
  | close => exact inv_close s h

theorem inv_run (ops : List Op) : ∀ s, Inv s → Inv (run s ops) := by
  induction ops with
  | nil => intro s h; exact h
  | cons op rest ih => intro s h; exact ih _ (inv_step s op h)

/-- `x` has the ghost flag `stuck` of `s`: true of every leaf of every operation except the `uv_accept`
whose client fails to open.  A name of its own lets `iteInduction` find the predicate. -/
def SameStuck (s x : St) : Prop := x.stuck = s.stuck

theorem stuck_putFd (s : St) (q : Queue) (fd : Fd) : SameStuck s (putFd s q fd) :=
  iteInduction (fun _ => rfl) fun _ => rfl

theorem stuck_queueFd (s : St) (fd : Fd) (ok : Bool) : SameStuck s (queueFd s fd ok).1 := by
  unfold queueFd
  cases s.queued with
  | none => exact of_ite_fst (fun _ => rfl) fun _ => stuck_putFd ..
  | some q =>
    exact of_ite_fst (fun _ => of_ite_fst (fun _ => rfl) fun _ => stuck_putFd ..) fun _ => stuck_putFd ..

theorem stuck_recvLoop (f : Option Nat) (fds : List Fd) : ∀ (s : St) (err : Int) (n : Nat),
    SameStuck s (recvLoop s err n f fds).1 := by
  induction fds with
  | nil => intro s err n; rfl
  | cons fd rest ih =>
    intro s err n
    simp only [recvLoop]
    have hq := stuck_queueFd { s with arrived := s.arrived ++ [fd] } fd (f != some n)
    generalize queueFd { s with arrived := s.arrived ++ [fd] } fd (f != some n) = res at hq ⊢
    refine of_ite_fst (fun _ => ?_) fun _ => ih ..
    cases s.acceptedFd with
    | none => exact ih ..
    | some a => exact of_ite_fst (fun _ => (ih ..).trans hq) fun _ => (ih ..).trans hq

theorem stuck_step (s : St) (op : Op) (hok : ∀ c e, op = .accept c e → e = 0) : SameStuck s (step s op) := by
  cases op with
  | streamInit ok => rfl
  | ioBegin r t =>
    refine iteInduction (fun _ => rfl) fun _ => ?_
    cases s.acceptedFd.isSome <;> cases r with
    | ok fd => rfl
    | err e => exact iteInduction (fun _ => iteInduction (fun _ => rfl) fun _ => rfl) fun _ => rfl
  | ioEnd => exact iteInduction (fun _ => rfl) fun _ => iteInduction (fun _ => rfl) fun _ => rfl
  | accept c e =>
    rw [hok c e rfl, step, uvAccept]
    cases s.acceptedFd with
    | none => rfl
    | some fd =>
      refine of_ite_fst (fun _ => rfl) fun _ => ?_
      cases s.queued with
      | none => exact Bool.or_false _
      | some q => exact of_ite_fst (fun _ => rfl) fun _ => rfl
  | recv fds f => exact of_ite_fst (fun _ => rfl) fun _ => stuck_recvLoop f fds s 0 0
  | close => exact iteInduction (fun _ => rfl) fun _ => rfl

end UvModel.Accept
