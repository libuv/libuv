import UvModel.ProcFd
/-! Lemmas for `Props/C12`.  Each loop of `uv__process_child_init` is described by a postcondition on the
pair it returns, which the recursion over the column carries; a SIGCHLD round by what it does to each
component of the state, under the invariant `Inv` of histories.  At the end: the wait-status macros in
arithmetic (`decode_eq`) and the equation of `fillTable` that `parent_table_init` uses. -/
namespace UvModel.ProcFd

@[simp] theorem get_set (t : Tab) (fd : Nat) (e : Option Ent) (k : Nat) :
    (t.set fd e).get k = if k = fd then e else t.get k := rfl

variable {cnt fd n k : Nat} {t t' tf : Tab} {u u' v : Int} {p : List Int}

theorem wf_set (h : t.WF) (fd : Nat) (e : Option Ent) : (t.set fd e).WF := fun k hk => by
  have hk' : max t.bound (fd + 1) ≤ k := hk
  rw [get_set, if_neg (by omega)]
  exact h k (by omega)

theorem lowestFreeAux_spec (g : Nat → Option Ent) : ∀ fuel n,
    n ≤ lowestFreeAux g n fuel ∧ lowestFreeAux g n fuel ≤ n + fuel ∧
    (lowestFreeAux g n fuel < n + fuel → g (lowestFreeAux g n fuel) = none) ∧
    ∀ k, n ≤ k → k < lowestFreeAux g n fuel → g k ≠ none
  | 0, n => ⟨Nat.le_refl n, Nat.le_refl n, fun h => absurd h (Nat.lt_irrefl n),
      fun _ h1 h2 => absurd h1 (Nat.not_le_of_lt h2)⟩
  | f + 1, n => by
    unfold lowestFreeAux
    split
    · next hn =>
      exact ⟨Nat.le_refl n, Nat.le_add_right n _, fun _ => Option.isNone_iff_eq_none.mp hn,
        fun _ h1 h2 => absurd h1 (Nat.not_le_of_lt h2)⟩
    · next hn =>
      obtain ⟨h1, h2, h3, h4⟩ := lowestFreeAux_spec g f (n + 1)
      refine ⟨by omega, by omega, fun h => h3 (by omega), fun k hk1 hk2 => ?_⟩
      by_cases hk : k = n
      · subst hk
        exact fun h0 => hn (by rw [h0]; rfl)
      · exact h4 k (by omega) hk2

theorem lowestFree_ge (t : Tab) (n : Nat) : n ≤ t.lowestFree n := (lowestFreeAux_spec _ _ _).1

theorem lowestFree_closed (h : t.WF) (n : Nat) : t.get (t.lowestFree n) = none := by
  obtain ⟨_, h2, h3, _⟩ := lowestFreeAux_spec t.get (t.bound - n) n
  by_cases hlt : t.lowestFree n < n + (t.bound - n)
  · exact h3 hlt
  · exact h _ (by unfold Tab.lowestFree at hlt ⊢; omega)

theorem open_below_lowestFree (t : Tab) (h1 : n ≤ k) (h2 : k < t.lowestFree n) : t.get k ≠ none :=
  (lowestFreeAux_spec _ _ _).2.2.2 k h1 h2

theorem lowestFree_eq (h : t.WF) (hnk : n ≤ k) (hopen : ∀ i, n ≤ i → i < k → t.get i ≠ none)
    (hk : t.get k = none) : t.lowestFree n = k :=
  Nat.le_antisymm (Nat.le_of_not_lt fun h2 => open_below_lowestFree t hnk h2 hk)
    (Nat.le_of_not_lt fun h1 => hopen _ (lowestFree_ge t n) h1 (lowestFree_closed h n))

theorem dupfd_none {fd : Nat} (h : t.get fd = none) (n : Nat) (cx : Bool) :
    dupfd t fd n cx = (t, none) := by
  simp only [dupfd, h]

theorem dupfd_some {fd : Nat} {e : Ent} (h : t.get fd = some e) (n : Nat) (cx : Bool) :
    dupfd t fd n cx = (t.set (t.lowestFree n) (some ⟨e.file, cx⟩), some (t.lowestFree n)) := by
  simp only [dupfd, h]

/-- every open descriptor is close-on-exec (what C15 guarantees of the parent at fork time) -/
def AllCx (t : Tab) : Prop := ∀ k e, t.get k = some e → e.cloexec = true

/-- `t'` is `t` after some `F_DUPFD_CLOEXEC` calls -/
structure Ext (t t' : Tab) : Prop where
  wf : t'.WF
  cx : AllCx t'
  keep : ∀ k e, t.get k = some e → t'.get k = some e

theorem Ext.refl (hw : t.WF) (hc : AllCx t) : Ext t t :=
  ⟨hw, hc, fun _ _ h => h⟩

theorem Ext.trans {a b c : Tab} (h1 : Ext a b) (h2 : Ext b c) : Ext a c :=
  ⟨h2.wf, h2.cx, fun k e h => h2.keep k e (h1.keep k e h)⟩

theorem Ext.ne_none (x : Ext t t') (h : t.get k ≠ none) : t'.get k ≠ none := by
  cases he : t.get k with
  | none => exact absurd he h
  | some e => rw [x.keep k e he]; nofun

theorem Ext.set (hw : t.WF) (hc : AllCx t) (hfree : t.get k = none) (f : File) :
    Ext t (t.set k (some ⟨f, true⟩)) where
  wf := wf_set hw _ _
  cx i e h := by
    rw [get_set] at h
    split at h
    · cases h; rfl
    · exact hc i e h
  keep i e h := by
    rw [get_set, if_neg, h]
    intro hik
    rw [hik, hfree] at h
    cases h

/-- The file that the column entry `u` names in `t` is, in the later table `tf`, named by `u'`
(close-on-exec or not); an ignored entry stays as it is.  `u' = u` until the first loop moves a source
to a temporary. -/
def Src (t tf : Tab) (u u' : Int) : Prop :=
  (u < 0 → u' = u) ∧
  (0 ≤ u → 0 ≤ u' ∧ ∀ e, t.get u.toNat = some e → ∃ c, tf.get u'.toNat = some ⟨e.file, c⟩)

theorem Src.refl (t : Tab) (u : Int) : Src t t u u :=
  ⟨fun _ => rfl, fun h0 => ⟨h0, fun e he => ⟨e.cloexec, he⟩⟩⟩

theorem Src.after (h : Src t tf u u') (x : Ext tf t') : Src t t' u u' :=
  ⟨h.1, fun h0 => ⟨(h.2 h0).1, fun e he => ((h.2 h0).2 e he).imp fun _ hc => x.keep _ _ hc⟩⟩

theorem Src.before {t0 : Tab} (h : Src t tf u u') (x : Ext t0 t) : Src t0 tf u u' :=
  ⟨h.1, fun h0 => ⟨(h.2 h0).1, fun e he => (h.2 h0).2 e (x.keep _ e he)⟩⟩

theorem Src.sign (h : Src t tf u u') : 0 ≤ u' ↔ 0 ≤ u :=
  ⟨fun h0 => Int.not_lt.mp fun hn => Int.not_lt.mpr h0 (h.1 hn ▸ hn), fun h0 => (h.2 h0).1⟩

theorem Src.ne_none (h : Src t tf u u') (h0 : 0 ≤ u) (ho : t.get u.toNat ≠ none) :
    tf.get u'.toNat ≠ none := by
  obtain ⟨e, he⟩ := Option.ne_none_iff_exists'.mp ho
  obtain ⟨c, hc⟩ := (h.2 h0).2 e he
  rw [hc]
  nofun

/-- every source in the column `p` is open in `t` (otherwise `fcntl` / `dup2` fail with EBADF) -/
def SrcOpen (t : Tab) (p : List Int) : Prop :=
  ∀ (j : Nat) (u : Int), p[j]? = some u → 0 ≤ u → t.get u.toNat ≠ none

/-- no source in the column `p`, whose first entry is for slot `fd`, is below its slot -/
def Above (fd : Nat) (p : List Int) : Prop :=
  ∀ (j : Nat) (u : Int), p[j]? = some u → 0 ≤ u → fd + j ≤ u.toNat

theorem Above.cons (hu : 0 ≤ u → fd ≤ u.toNat) (h : Above (fd + 1) p) : Above fd (u :: p)
  | 0, _, rfl, h0 => hu h0
  | j + 1, a, ha, h0 => Nat.add_right_comm fd 1 j ▸ h j a ha h0

theorem Above.tail (h : Above fd (u :: p)) : Above (fd + 1) p :=
  fun j a ha h0 => Nat.add_right_comm fd j 1 ▸ h (j + 1) a ha h0

theorem Above.ne (h : Above (fd + 1) p) {j : Nat} {a : Int} (ha : p[j]? = some a) (h0 : 0 ≤ a) :
    a.toNat ≠ fd := by
  have := h j a ha h0
  omega

structure Pass1Post (t : Tab) (fd : Nat) (p : List Int) (r : Tab × Option (List Int)) :
    Prop where
  ext : Ext t r.1
  ok : SrcOpen t p → r.2 ≠ none
  rel : ∀ p', r.2 = some p' → p'.length = p.length ∧ Above fd p' ∧
    ∀ (j : Nat) u', p'[j]? = some u' → ∃ u, p[j]? = some u ∧ Src t r.1 u u'

/-- An iteration that leaves `v` in the column and the table `t'`, in front of the rest of the loop.
The result is written with the `match` that `pass1` unfolds to, so that every branch of `pass1_spec`
is an instance. -/
theorem Pass1Post.cons {r : Tab × Option (List Int)} (x : Ext t t') (hs : Src t t' u v)
    (hv : 0 ≤ v → fd ≤ v.toNat) (ih : Pass1Post t' (fd + 1) p r) :
    Pass1Post t fd (u :: p) (match (generalizing := false) r with
      | (tf, some r) => (tf, some (v :: r))
      | (tf, none) => (tf, none)) := by
  obtain ⟨tf, _ | r'⟩ := r
  · exact ⟨x.trans ih.ext,
      fun h => absurd rfl (ih.ok fun j a ha h0 => x.ne_none (h (j + 1) a ha h0)), nofun⟩
  · refine ⟨x.trans ih.ext, fun _ => nofun, fun p' hp' => ?_⟩
    cases hp'
    obtain ⟨hlen, habove, hrel⟩ := ih.rel r' rfl
    refine ⟨congrArg (· + 1) hlen, habove.cons hv, fun j a' ha' => ?_⟩
    cases j with
    | zero =>
      cases ha'
      exact ⟨u, rfl, hs.after ih.ext⟩
    | succ j => exact (hrel j a' ha').imp fun _ h => ⟨h.1, h.2.before x⟩

theorem pass1_spec (cnt : Nat) : ∀ (p : List Int) (t : Tab) (fd : Nat), fd + p.length ≤ cnt →
    t.WF → AllCx t → Pass1Post t fd p (pass1 cnt t fd p)
  | [], t, fd, _, hw, hc =>
    ⟨.refl hw hc, fun _ => nofun, fun p' hp' => by cases hp'; exact ⟨rfl, nofun, nofun⟩⟩
  | u :: rest, t, fd, hfc, hw, hc => by
    have hfc' : fd + 1 + rest.length ≤ cnt := Nat.le_trans (Nat.le_of_eq (Nat.add_right_comm fd 1 _)) hfc
    by_cases hcond : u < 0 ∨ u ≥ fd
    · simp only [pass1, if_pos hcond]
      exact .cons (.refl hw hc) (.refl t u) (by omega)
        (pass1_spec cnt rest t _ hfc' hw hc)
    · cases he : t.get u.toNat with
      | none =>
        simp only [pass1, if_neg hcond, dupfd_none he]
        exact ⟨.refl hw hc, fun h => absurd he (h 0 u rfl (by omega)), nofun⟩
      | some e =>
        have x := Ext.set hw hc (lowestFree_closed hw cnt) e.file
        simp only [pass1, if_neg hcond, dupfd_some he]
        refine .cons x
          ⟨fun h => by omega, fun _ => ⟨Int.natCast_nonneg _, fun e' he' => ⟨true, ?_⟩⟩⟩
          (fun _ => by have := lowestFree_ge t cnt; omega)
          (pass1_spec cnt rest _ _ hfc' x.wf x.cx)
        rw [he] at he'
        cases he'
        rw [Int.toNat_natCast, get_set, if_pos rfl]

/-- slots 0..2 below `fd` are open (this is why `open("/dev/null")` returns exactly the slot) -/
def LowOpen (t : Tab) (fd : Nat) : Prop := ∀ i, i < fd → i < 3 → t.get i ≠ none

/-- What the second loop leaves in slot `i` for the source `u` read in `t`.  It is `expected` for one
entry, except that an ignored slot `≥ 3` keeps `t.get i`, where `expected` says closed: the two agree
after `execClose` because the table after the first loop is all close-on-exec (`childInit_spec`). -/
def slot2 (t : Tab) (i : Nat) (u : Int) : Option Ent :=
  if 0 ≤ u then (t.get u.toNat).map fun e => ⟨e.file, false⟩
  else if i < 3 then some ⟨.devNull (i != 0), false⟩
  else t.get i

theorem slot2_congr {i : Nat} (hu : 0 ≤ u → t'.get u.toNat = t.get u.toNat) (hi : t'.get i = t.get i) :
    slot2 t' i u = slot2 t i u := by
  unfold slot2
  split
  · rw [hu ‹_›]
  · rw [hi]

theorem get_close (t : Tab) (fd k : Nat) : (close t fd).get k = if k = fd then none else t.get k := rfl

/-- a used slot: `uv__cloexec(fd, 0)` when the source is the slot itself and `dup2` otherwise come
to the same table -/
theorem step2_src (h0 : 0 ≤ u) :
    step2 cnt t fd u = match t.get u.toNat with
      | none => (t, false)
      | some e => (t.set fd (some ⟨e.file, false⟩), true) := by
  have hneg : ¬u < 0 := Int.not_lt.mpr h0
  by_cases heq : fd = u.toNat
  · simp only [step2, hneg, if_false, ← heq, if_true, setCloexec]
    cases t.get fd <;> rfl
  · have hne : ¬u.toNat = fd := fun h => heq h.symm
    simp only [step2, hneg, if_false, heq, dup2, hne]
    cases t.get u.toNat <;> rfl

theorem step2_skip (hneg : u < 0) (h3 : fd ≥ 3) : step2 cnt t fd u = (t, true) := by
  simp only [step2, hneg, h3, if_true]

/-- an ignored slot below 3: the slot is closed, `open` returns it, nothing is left to `dup2` or close -/
theorem step2_null (hneg : u < 0) (h3 : fd < 3) (hfd : fd < cnt) (hw : t.WF) (hlo : LowOpen t fd) :
    step2 cnt t fd u = ((close t fd).set fd (some ⟨.devNull (fd != 0), false⟩), true) := by
  have hlf : (close t fd).lowestFree 0 = fd :=
    lowestFree_eq (wf_set hw _ _) (Nat.zero_le _)
      (fun i _ hi => by
        rw [get_close, if_neg (Nat.ne_of_lt hi)]
        exact hlo i hi (Nat.lt_trans hi h3))
      (by rw [get_close, if_pos rfl])
  simp only [step2, hneg, if_true, if_neg (Nat.not_le_of_lt h3), openNull, hlf, if_neg (Nat.not_le_of_lt hfd)]

structure Step2Post (t : Tab) (fd : Nat) (u : Int) (r : Tab × Bool) : Prop where
  wf : r.1.WF
  frame : ∀ k, k ≠ fd → r.1.get k = t.get k
  ok : (0 ≤ u → t.get u.toNat ≠ none) → r.2 = true
  slot : r.2 = true → r.1.get fd = slot2 t fd u ∧ (fd < 3 → r.1.get fd ≠ none)

theorem Step2Post.put (hw : t'.WF) (x : Ent) (hg : ∀ k, t'.get k = if k = fd then some x else t.get k)
    (hx : slot2 t fd u = some x) : Step2Post t fd u (t', true) :=
  ⟨hw, fun k hk => by rw [hg, if_neg hk], fun _ => rfl,
    fun _ => by rw [hg, if_pos rfl, hx]; exact ⟨rfl, fun _ => nofun⟩⟩

theorem step2_spec (u : Int) (hfd : fd < cnt) (hw : t.WF) (hlo : LowOpen t fd) :
    Step2Post t fd u (step2 cnt t fd u) := by
  by_cases h0 : 0 ≤ u
  · rw [step2_src h0]
    cases he : t.get u.toNat with
    | none => exact ⟨hw, fun _ _ => rfl, fun h => absurd he (h h0), nofun⟩
    | some e =>
      exact .put (wf_set hw _ _) _ (get_set t fd _) (by rw [slot2, if_pos h0, he]; rfl)
  · by_cases h3 : fd ≥ 3
    · rw [step2_skip (Int.not_le.mp h0) h3]
      exact ⟨hw, fun _ _ => rfl, fun _ => rfl,
        fun _ => ⟨by rw [slot2, if_neg h0, if_neg (Nat.not_lt.mpr h3)],
          fun h => absurd h3 (Nat.not_le_of_lt h)⟩⟩
    · rw [step2_null (Int.not_le.mp h0) (Nat.lt_of_not_le h3) hfd hw hlo]
      exact .put (wf_set (wf_set hw _ _) _ _) _
        (fun k => by rw [get_set, get_close]; split <;> rfl)
        (by rw [slot2, if_neg h0, if_pos (Nat.lt_of_not_le h3)])

structure Pass2Post (t : Tab) (fd : Nat) (p : List Int) (r : Tab × Bool) : Prop where
  wf : r.1.WF
  frame : ∀ k, k < fd ∨ fd + p.length ≤ k → r.1.get k = t.get k
  ok : SrcOpen t p → r.2 = true
  slot : r.2 = true → ∀ (j : Nat) (u : Int), p[j]? = some u → r.1.get (fd + j) = slot2 t (fd + j) u

/-- No source is below its slot, so an iteration never overwrites what a later one reads. -/
theorem pass2_spec (cnt : Nat) : ∀ (p : List Int) (t : Tab) (fd : Nat), fd + p.length ≤ cnt → t.WF →
    LowOpen t fd → Above fd p → Pass2Post t fd p (pass2 cnt t fd p)
  | [], t, fd, _, hw, _, _ => ⟨hw, fun _ _ => rfl, fun _ => rfl, fun _ _ _ h => nomatch h⟩
  | u :: rest, t, fd, hfc, hw, hlo, hab => by
    have hlen : (u :: rest).length = rest.length + 1 := rfl
    have s := step2_spec (cnt := cnt) u (by omega) hw hlo
    rw [pass2]
    generalize step2 cnt t fd u = r at s
    obtain ⟨t1, _ | _⟩ := r
    · exact ⟨s.wf, fun k hk => s.frame k (by omega),
        fun h => absurd (s.ok (h 0 u rfl)) nofun, nofun⟩
    · obtain ⟨sslot, s3⟩ := s.slot rfl
      have hlo1 : LowOpen t1 (fd + 1) := fun i hi h3 => by
        by_cases h : i = fd
        · exact h ▸ s3 (h ▸ h3)
        · rw [s.frame i h]
          exact hlo i (Nat.lt_of_le_of_ne (Nat.le_of_lt_succ hi) h) h3
      have ih := pass2_spec cnt rest t1 (fd + 1) (by omega) s.wf hlo1 hab.tail
      refine ⟨ih.wf, fun k hk => ?_, fun h => ih.ok fun j a ha h0 => ?_, fun hok j a ha => ?_⟩
      · rw [ih.frame k (by omega), s.frame k (by omega)]
      · rw [s.frame _ (hab.tail.ne ha h0)]
        exact h (j + 1) a ha h0
      · cases j with
        | zero =>
          cases ha
          exact (ih.frame fd (.inl (Nat.lt_succ_self fd))).trans sslot
        | succ j =>
          rw [show fd + (j + 1) = fd + 1 + j by omega, ih.slot hok j a ha]
          exact slot2_congr (fun h0 => s.frame _ (hab.tail.ne ha h0))
            (s.frame _ (by omega))

theorem moveErr_spec (hw : t.WF) (hc : AllCx t) (cnt : Nat) {efd : Nat} {ef : Ent}
    (herr : t.get efd = some ef) :
    ∃ t1 e1, moveErr t cnt efd = (t1, some e1) ∧ Ext t t1 ∧ cnt ≤ e1 ∧
      t1.get e1 = some ⟨ef.file, true⟩ := by
  unfold moveErr
  split
  · exact ⟨_, _, dupfd_some herr cnt true, .set hw hc (lowestFree_closed hw cnt) _, lowestFree_ge t cnt,
      by rw [get_set, if_pos rfl]⟩
  · exact ⟨t, efd, rfl, .refl hw hc, Nat.le_of_not_lt ‹_›, by rw [herr, ← hc efd ef herr]⟩

theorem get_execClose (t : Tab) (k : Nat) :
    (execClose t).get k = (t.get k).bind fun e => if e.cloexec then none else some e := by
  show (match t.get k with | some e => _ | none => none) = _
  cases t.get k <;> rfl

theorem execClose_cx (hc : AllCx t) (k : Nat) : (execClose t).get k = none := by
  rw [get_execClose]
  cases h : t.get k with
  | none => rfl
  | some e => rw [Option.bind_some, hc k e h]; rfl

theorem childInit_spec (hw : t.WF) (hc : AllCx t) (pipes : List Int) (efd : Nat) (ef : Ent)
    (herr : t.get efd = some ef) :
    (childInit t pipes efd).tab.get (childInit t pipes efd).efd = some ⟨ef.file, true⟩ ∧
    (SrcOpen t pipes →
      (childInit t pipes efd).isOk = true ∧
      ∀ fd, (execClose (childInit t pipes efd).tab).get fd = expected t pipes fd) := by
  -- `moveErr` and the first loop only extend the table (`Ext`), so the error pipe stays where `moveErr`
  -- put it, at `e1 ≥ stdio_count`, and the second loop does not reach that far (`Pass2Post.frame`).
  -- For the mapping: the first loop hands over a column that is `Above` its slots and names the same
  -- files (`Src`), the second loop then leaves `slot2` in each slot, and `execClose` makes `slot2`
  -- into `expected`: a used slot and `/dev/null` are inheritable and stay, everything else is still
  -- close-on-exec from the parent (`AllCx`) and goes.
  obtain ⟨t1, e1, hm, x1, he1, hg1⟩ := moveErr_spec hw hc pipes.length herr
  have h1 := pass1_spec pipes.length pipes t1 0 (Nat.le_of_eq (Nat.zero_add _)) x1.wf x1.cx
  simp only [childInit, hm]
  generalize pass1 pipes.length t1 0 pipes = r1 at h1
  obtain ⟨t2, _ | p'⟩ := r1
  · exact ⟨h1.ext.keep _ _ hg1,
      fun hsrc => absurd rfl (h1.ok fun j u hj h0 => x1.ne_none (hsrc j u hj h0))⟩
  · dsimp only
    obtain ⟨hlen, habove, hrel⟩ := h1.rel p' rfl
    have key : ∀ (j : Nat) (u' : Int), p'[j]? = some u' → ∃ u, pipes[j]? = some u ∧ Src t t2 u u' :=
      fun j u' hj => (hrel j u' hj).imp fun _ h => ⟨h.1, h.2.before x1⟩
    have h2 := pass2_spec pipes.length p' t2 0 (Nat.le_of_eq (hlen ▸ Nat.zero_add _)) h1.ext.wf
      (fun i hi => absurd hi (Nat.not_lt_zero i)) habove
    have hefd : (pass2 pipes.length t2 0 p').1.get e1 = some ⟨ef.file, true⟩ := by
      rw [h2.frame e1 (.inr (by omega))]
      exact h1.ext.keep _ _ hg1
    generalize pass2 pipes.length t2 0 p' = r2 at h2 hefd
    obtain ⟨t3, _ | _⟩ := r2
    · refine ⟨hefd, fun hsrc => absurd (h2.ok fun j u' hj h0 => ?_) nofun⟩
      obtain ⟨u, hu, hs⟩ := key j u' hj
      exact hs.ne_none (hs.sign.mp h0) (hsrc j u hu (hs.sign.mp h0))
    · refine ⟨hefd, fun hsrc => ⟨rfl, fun fd => ?_⟩⟩
      rw [show (Res.ok t3 e1).tab = t3 from rfl, get_execClose, expected]
      by_cases hfd : fd < pipes.length
      · have hj := List.getElem?_eq_getElem (hlen ▸ hfd : fd < p'.length)
        obtain ⟨u, hu, hs⟩ := key fd _ hj
        have h3 := h2.slot rfl fd _ hj
        rw [Nat.zero_add] at h3
        rw [hu, h3, slot2]
        by_cases h0 : 0 ≤ u
        · obtain ⟨e, he⟩ := Option.ne_none_iff_exists'.mp (hsrc fd u hu h0)
          obtain ⟨c, hc'⟩ := (hs.2 h0).2 e he
          simp [if_pos (hs.sign.mpr h0), hc', he, h0]
        · rw [if_neg (fun h => h0 (hs.sign.mp h))]
          by_cases h3 : fd < 3
          · simp [h3, h0]
          · simp only [if_neg h3, if_neg h0]
            rw [← get_execClose]
            exact execClose_cx h1.ext.cx fd
      · rw [h2.frame fd (.inr (by omega)), ← get_execClose, execClose_cx h1.ext.cx,
          List.getElem?_eq_none (Nat.le_of_not_lt hfd)]

def isReaped : WaitRes → Bool
  | .reaped _ => true
  | _ => false

theorem pollAll_split (res : Nat → WaitRes) (l : List Nat) :
    (pollAll res l).1 = (l.filter fun c => !isReaped (res c)) ∧
    (pollAll res l).2.map Prod.fst = l.filter fun c => isReaped (res c) := by
  induction l with
  | nil => exact ⟨rfl, rfl⟩
  | cons c rest ih =>
    simp only [pollAll, List.filter_cons]
    cases h : res c <;> simp [isReaped, ih]

theorem pollAll_mem (res : Nat → WaitRes) (l : List Nat) (c st : Nat) :
    (c, st) ∈ (pollAll res l).2 ↔ c ∈ l ∧ res c = .reaped st := by
  induction l with
  | nil => simp [pollAll]
  | cons a rest ih =>
    simp only [pollAll]
    cases h : res a <;> grind

theorem waitCount_pos {l : List Log} {id : Nat} (h : 0 < waitCount l id) :
    ∃ st, Log.waited id st ∈ l := by
  obtain ⟨x, hx⟩ := List.exists_mem_of_length_pos h
  obtain ⟨hx, hw⟩ := List.mem_filter.mp hx
  cases x with
  | cb e => cases hw
  | waited c st => exact ⟨st, beq_iff_eq.mp hw ▸ hx⟩

/-- Invariant of the states `runP` reaches.
`once`: a child is tracked or has been waited for, once in all; a SIGCHLD round moves it from the second
count to the first.  With `cbw` (one `exit_cb` per reap) it gives `exit_at_most_once`; with `alive` (a
tracked child has not been reaped behind libuv's back) it gives `exit_reported`.
`truth`, `zomb`: a status `waitpid` returned, or a zombie holds, is one the kernel really produced;
`dec`: the arguments of an `exit_cb` are a reaped status decoded — together `exit_cb_true_status`.
`okT`, `okW`, `okLt`: tracked and reaped children are successful spawns, and those have ids already
handed out — a failed spawn's id stays outside all three (`spawn_failure_clean`). -/
structure Inv (s : PS) : Prop where
  once : ∀ id, waitCount s.log id + s.tracked.count id ≤ 1
  alive : ∀ id, id ∈ s.tracked → s.kern id ≠ .gone
  cbw : ∀ id, cbCount s.log id = waitCount s.log id
  truth : ∀ id st, Log.waited id st ∈ s.log → (id, st) ∈ s.exits
  dec : ∀ e, Log.cb e ∈ s.log → ∃ st, Log.waited e.id st ∈ s.log ∧
          e.exitStatus = (decode st).1 ∧ e.termSignal = (decode st).2
  zomb : ∀ id st, s.kern id = .zombie st → (id, st) ∈ s.exits
  okT : ∀ id, id ∈ s.tracked → id ∈ s.okIds
  okW : ∀ id st, Log.waited id st ∈ s.log → id ∈ s.okIds
  okLt : ∀ id, id ∈ s.okIds → id < s.nspawned

theorem inv_init : Inv {} :=
  ⟨fun _ => Nat.zero_le 1, nofun, fun _ => rfl, nofun, nofun, nofun, nofun, nofun, nofun⟩

theorem Inv.not_waited {s : PS} (h : Inv s) {id : Nat} (hn : id ∉ s.okIds) : waitCount s.log id = 0 :=
  Nat.eq_zero_of_not_pos fun hp => (waitCount_pos hp).elim fun st hst => hn (h.okW id st hst)

theorem kernWait_reaped {s : PS} {id st : Nat} : kernWait s id = .reaped st ↔ s.kern id = .zombie st := by
  unfold kernWait
  cases h : s.kern id <;> simp

def reapedIds (s : PS) : List Nat := s.tracked.filter fun c => isReaped (kernWait s c)

theorem mem_reapedIds {s : PS} {c : Nat} :
    c ∈ reapedIds s ↔ c ∈ s.tracked ∧ ∃ st, s.kern c = .zombie st :=
  List.mem_filter.trans (and_congr_right fun _ => by unfold kernWait; cases s.kern c <;> simp [isReaped])

theorem sigchld_tracked {s : PS} {id : Nat} :
    id ∈ (stepP s .sigchld).tracked ↔ id ∈ s.tracked ∧ id ∉ reapedIds s := by
  show id ∈ (pollAll (kernWait s) s.tracked).1 ↔ _
  rw [(pollAll_split _ _).1, List.mem_filter, reapedIds, List.mem_filter, Bool.not_eq_true']
  exact and_congr_right fun ht => by simp [ht]

theorem sigchld_kern (s : PS) (i : Nat) :
    (stepP s .sigchld).kern i = if i ∈ reapedIds s then .gone else s.kern i := by
  have : (pollAll (kernWait s) s.tracked).2.any (·.1 == i) = true ↔ i ∈ reapedIds s := by
    rw [reapedIds, ← (pollAll_split _ _).2, List.mem_map, List.any_eq_true]
    simp only [beq_iff_eq]
  simp only [stepP, this]

theorem waited_mem_sigchld {s : PS} {c st : Nat} : Log.waited c st ∈ (stepP s .sigchld).log ↔
    Log.waited c st ∈ s.log ∨ c ∈ s.tracked ∧ s.kern c = .zombie st := by
  simp [stepP, report, pollAll_mem, kernWait_reaped]

theorem cb_mem_sigchld {s : PS} {e : ExitEv} : Log.cb e ∈ (stepP s .sigchld).log ↔
    Log.cb e ∈ s.log ∨ ∃ c st, (c ∈ s.tracked ∧ s.kern c = .zombie st) ∧
      ⟨c, (decode st).1, (decode st).2⟩ = e := by
  simp [stepP, report, pollAll_mem, kernWait_reaped]

theorem sigchld_waitCount (s : PS) (id : Nat) :
    waitCount (stepP s .sigchld).log id = waitCount s.log id + (reapedIds s).count id := by
  rw [reapedIds, ← (pollAll_split _ _).2]
  simp only [stepP, waitCount, report, ← List.countP_eq_length_filter, List.countP_append,
    List.countP_map, List.count_eq_countP]
  exact congrArg _ (List.countP_eq_zero.mpr fun _ _ => Bool.false_ne_true)

theorem sigchld_cbCount (s : PS) (id : Nat) :
    cbCount (stepP s .sigchld).log id = cbCount s.log id + (reapedIds s).count id := by
  rw [reapedIds, ← (pollAll_split _ _).2]
  simp only [stepP, cbCount, report, ← List.countP_eq_length_filter, List.countP_append,
    List.countP_map, List.count_eq_countP]
  have h0 : (pollAll (kernWait s) s.tracked).2.countP (Log.isCb id ∘ fun x => Log.waited x.1 x.2) = 0 :=
    List.countP_eq_zero.mpr fun _ _ => Bool.false_ne_true
  rw [h0]
  rfl

theorem inv_sigchld {s : PS} (h : Inv s) : Inv (stepP s .sigchld) := by
  constructor
  · intro id
    have hsplit : s.tracked.count id = (reapedIds s).count id + (stepP s .sigchld).tracked.count id := by
      show _ = _ + (pollAll (kernWait s) s.tracked).1.count id
      rw [(pollAll_split _ _).1]
      exact List.countP_eq_countP_filter_add _ _ _
    have := h.once id
    rw [sigchld_waitCount]
    omega
  · intro id hid
    obtain ⟨h1, h2⟩ := sigchld_tracked.mp hid
    rw [sigchld_kern, if_neg h2]
    exact h.alive id h1
  · intro id
    rw [sigchld_waitCount, sigchld_cbCount, h.cbw]
  · intro id st hx
    rcases waited_mem_sigchld.mp hx with h1 | ⟨_, h2⟩
    · exact h.truth id st h1
    · exact h.zomb id st h2
  · intro e hx
    rcases cb_mem_sigchld.mp hx with h1 | ⟨c, st, hp, rfl⟩
    · obtain ⟨st, h2, h3⟩ := h.dec e h1
      exact ⟨st, waited_mem_sigchld.mpr (.inl h2), h3⟩
    · exact ⟨st, waited_mem_sigchld.mpr (.inr hp), rfl, rfl⟩
  · intro id st hz
    rw [sigchld_kern] at hz
    split at hz
    · cases hz
    · exact h.zomb id st hz
  · exact fun id hid => h.okT id (sigchld_tracked.mp hid).1
  · intro id st hx
    rcases waited_mem_sigchld.mp hx with h1 | ⟨h2, _⟩
    · exact h.okW id st h1
    · exact h.okT id h2
  · exact h.okLt

theorem inv_step {s : PS} (h : Inv s) : ∀ op, Inv (stepP s op)
  | .sigchld => inv_sigchld h
  | .spawnFail => { h with okLt := fun id hid => Nat.lt_succ_of_lt (h.okLt id hid) }
  | .closeHandle c =>
    have hsub : ∀ id, id ∈ s.tracked.filter (· ≠ c) → id ∈ s.tracked :=
      fun id hid => (List.mem_filter.mp hid).1
    { h with
      once := fun id => Nat.le_trans
        (Nat.add_le_add_left (List.filter_sublist.count_le id) _) (h.once id)
      alive := fun id hid => h.alive id (hsub id hid)
      okT := fun id hid => h.okT id (hsub id hid) }
  | .childExit c st0 => by
    by_cases hr : s.kern c = .running
    · rw [show stepP s (.childExit c st0) = _ from if_pos hr]
      exact { h with
        alive := fun id hid => by
          show (if id = c then KState.zombie st0 else s.kern id) ≠ .gone
          split
          · nofun
          · exact h.alive id hid
        truth := fun id st hx => List.mem_append_left _ (h.truth id st hx)
        zomb := fun id st hz => by
          change (if id = c then KState.zombie st0 else s.kern id) = _ at hz
          split at hz
          · cases hz; exact List.mem_append_right _ (by rw [‹id = c›]; exact .head _)
          · exact List.mem_append_left _ (h.zomb id st hz) }
    · rw [show stepP s (.childExit c st0) = s from if_neg hr]
      exact h
  | .spawnOk =>
    have hmem : ∀ {l : List Nat} {id}, id ∈ l ++ [s.nspawned] → id ∈ l ∨ id = s.nspawned :=
      fun hid => (List.mem_append.mp hid).imp_right List.mem_singleton.mp
    { h with
      once := fun id => by
        show waitCount s.log id + (s.tracked ++ [s.nspawned]).count id ≤ 1
        rw [List.count_append, List.count_singleton]
        split
        · next e =>
          have hn : s.nspawned ∉ s.okIds := fun hm => Nat.lt_irrefl _ (h.okLt _ hm)
          rw [← beq_iff_eq.mp e, h.not_waited hn, List.count_eq_zero_of_not_mem fun hm => hn (h.okT _ hm)]
          exact Nat.le_refl 1
        · exact h.once id
      alive := fun id hid => by
        show (if id = s.nspawned then KState.running else s.kern id) ≠ .gone
        split
        · nofun
        · exact h.alive id ((hmem hid).resolve_right ‹_›)
      zomb := fun id st hz => by
        change (if id = s.nspawned then KState.running else s.kern id) = _ at hz
        split at hz
        · cases hz
        · exact h.zomb id st hz
      okT := fun id hid => (hmem hid).elim (fun hm => List.mem_append_left _ (h.okT id hm))
        fun e => List.mem_append_right _ (List.mem_singleton.mpr e)
      okW := fun id st hx => List.mem_append_left _ (h.okW id st hx)
      okLt := fun id hid => (hmem hid).elim (fun hm => Nat.lt_succ_of_lt (h.okLt id hm))
        fun e => e ▸ Nat.lt_succ_self _ }

theorem inv_run {s : PS} (h : Inv s) (ops : List Op) : Inv (runP s ops) := by
  induction ops generalizing s with
  | nil => exact h
  | cons op rest ih => exact ih (inv_step h op)

/-- ids are handed out in increasing order, so one that has been passed over is never recorded as
successfully spawned later -/
theorem not_mem_okIds_runP {n : Nat} : ∀ (l : List Op) (s : PS), n < s.nspawned → n ∉ s.okIds →
    n ∉ (runP s l).okIds
  | [], _, _, hn => hn
  | op :: l, s, hlt, hn => by
    refine not_mem_okIds_runP l (stepP s op) ?_ ?_
    · cases op with
      | spawnOk => exact Nat.lt_succ_of_lt hlt
      | spawnFail => exact Nat.lt_succ_of_lt hlt
      | childExit c st => simp only [stepP]; split <;> exact hlt
      | sigchld => exact hlt
      | closeHandle c => exact hlt
    · cases op with
      | spawnOk =>
        exact fun h => (List.mem_append.mp h).elim hn fun h => Nat.ne_of_lt hlt (List.mem_singleton.mp h)
      | spawnFail => exact hn
      | childExit c st => simp only [stepP]; split <;> exact hn
      | sigchld => exact hn
      | closeHandle c => exact hn

theorem wTermSig_eq (w : Nat) : wTermSig w = w % 128 := Nat.and_two_pow_sub_one_eq_mod w 7

theorem wExitStatus_eq (w : Nat) : wExitStatus w = w / 256 % 256 := by
  unfold wExitStatus
  rw [Nat.shiftRight_and_distrib, Nat.shiftRight_eq_div_pow]
  exact Nat.and_two_pow_sub_one_eq_mod _ 8

/-- the signed-char trick: `x = (w & 0x7f) + 1` is 128, read as -128, exactly for a stopped child -/
theorem wIfSignaled_eq (w : Nat) : wIfSignaled w = decide (0 < w % 128 ∧ w % 128 < 127) := by
  have hx : w &&& 0x7f = w % 128 := wTermSig_eq w
  simp only [wIfSignaled, hx, Int.shiftRight_eq_div_pow, decide_eq_decide]
  split <;> omega

theorem decode_eq (w : Nat) : decode w =
    (if w % 128 = 0 then w / 256 % 256 else 0, if 0 < w % 128 ∧ w % 128 < 127 then w % 128 else 0) := by
  simp only [decode, wIfExited, wTermSig_eq, wExitStatus_eq, wIfSignaled_eq, beq_iff_eq, decide_eq_true_eq]

theorem fillTable_cons (c : Stdio) (cs : List Stdio) (n : Nat) :
    fillTable (c :: cs) (initTable (n + 1)) =
      (match c with
        | .inheritFd fd => .fd fd
        | .createPipe => .pipeEnd
        | .ignore => .fd (-1)) :: fillTable cs (initTable n) := by
  cases c <;> rfl

end UvModel.ProcFd
