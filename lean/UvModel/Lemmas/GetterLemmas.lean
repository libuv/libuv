import UvModel.Getter
/-! What a write list leaves in the buffer (`get`, `HoldsString`, `Bounded`) for the copy primitives of the
getters, `bytesOf` on ASCII literals, and the `*size` protocol (`Proto`) for every getter of `Sized`. -/
namespace UvModel.Getter

/-- every store lands below offset `n` -/
def Bounded (ws : Writes) (n : Nat) : Prop := ∀ p ∈ ws, p.1 < n

theorem Bounded.mono {ws : Writes} {n m : Nat} (h : Bounded ws n) (hnm : n ≤ m) : Bounded ws m :=
  fun p hp => Nat.lt_of_lt_of_le (h p hp) hnm

theorem bounded_nil (n : Nat) : Bounded [] n := fun _ hp => nomatch hp

theorem bounded_append {a b : Writes} {n : Nat} : Bounded (a ++ b) n ↔ Bounded a n ∧ Bounded b n := by
  simp only [Bounded, List.mem_append]
  exact ⟨fun h => ⟨fun p hp => h p (.inl hp), fun p hp => h p (.inr hp)⟩, fun h p hp => hp.elim (h.1 p) (h.2 p)⟩

theorem bounded_single {o : Nat} {b : Byte} {n : Nat} : Bounded [(o, b)] n ↔ o < n := by
  simp only [Bounded, List.mem_singleton, forall_eq]

theorem bounded_memcpyW (off : Nat) (src : List Byte) : Bounded (memcpyW off src) (off + src.length) := by
  induction src generalizing off with
  | nil => exact bounded_nil _
  | cons b bs ih =>
    intro p hp
    rcases List.mem_cons.1 hp with rfl | hp
    · exact Nat.lt_add_of_pos_right (Nat.succ_pos _)
    · exact Nat.lt_of_lt_of_eq (ih (off + 1) p hp) (Nat.succ_add_eq_add_succ off bs.length)

theorem bounded_memcpyW0 {src : List Byte} {n : Nat} (hs : src.length ≤ n) : Bounded (memcpyW 0 src) n :=
  (bounded_memcpyW 0 src).mono (Nat.le_trans (Nat.le_of_eq (Nat.zero_add _)) hs)

theorem bounded_store {src : List Byte} {k n : Nat} {b : Byte} (hs : src.length ≤ n) (hk : k < n) :
    Bounded (memcpyW 0 src ++ [(k, b)]) n :=
  bounded_append.2 ⟨bounded_memcpyW0 hs, bounded_single.2 hk⟩

theorem get_cons (o : Nat) (b : Byte) (ws : Writes) (i : Nat) :
    get ((o, b) :: ws) i = (get ws i).or (if o = i then some b else none) := by
  rw [get]; cases get ws i <;> rfl

theorem get_append (a b : Writes) (i : Nat) : get (a ++ b) i = (get b i).or (get a i) := by
  induction a with
  | nil => exact Option.or_none.symm
  | cons p a ih => rw [List.cons_append, get_cons, get_cons, ih, Option.or_assoc]

theorem get_single (o : Nat) (b : Byte) (i : Nat) : get [(o, b)] i = if o = i then some b else none :=
  get_cons o b [] i

theorem get_memcpyW (off : Nat) (src : List Byte) (i : Nat) :
    get (memcpyW off src) i = if off ≤ i then src[i - off]? else none := by
  induction src generalizing off with
  | nil => rw [List.getElem?_nil, ite_self]; rfl
  | cons b bs ih =>
    rw [memcpyW, get_cons, ih]
    rcases Nat.lt_trichotomy off i with h | rfl | h
    · rw [if_pos (show off + 1 ≤ i from h), if_pos (Nat.le_of_lt h), if_neg (Nat.ne_of_lt h), Option.or_none,
        show i - off = i - (off + 1) + 1 by omega, List.getElem?_cons_succ]
    · rw [if_neg (Nat.not_succ_le_self _), if_pos rfl, if_pos (Nat.le_refl _), Nat.sub_self]; rfl
    · rw [if_neg (Nat.not_le_of_lt (Nat.lt_succ_of_lt h)), if_neg (Nat.ne_of_gt h), if_neg (Nat.not_le_of_lt h)]; rfl

theorem get_memcpyW0 (src : List Byte) (i : Nat) : get (memcpyW 0 src) i = src[i]? :=
  get_memcpyW 0 src i

theorem holds_memcpy {s src : List Byte} (hp : s ++ [0] <+: src) : HoldsString (memcpyW 0 src) s := by
  obtain ⟨t, rfl⟩ := hp
  refine ⟨fun i hi => ?_, ?_⟩
  · rw [get_memcpyW0, List.append_assoc, List.getElem?_append_left hi]
  · rw [get_memcpyW0, List.append_assoc, List.getElem?_append_right (Nat.le_refl _), Nat.sub_self]; rfl

theorem holds_store {s src : List Byte} {k : Nat} (hp : s <+: src) (hk : s.length = k) :
    HoldsString (memcpyW 0 src ++ [(k, 0)]) s := by
  subst hk
  obtain ⟨t, rfl⟩ := hp
  refine ⟨fun i hi => ?_, ?_⟩
  · rw [get_append, get_single, if_neg (by omega), get_memcpyW0, List.getElem?_append_left hi]; rfl
  · rw [get_append, get_single, if_pos rfl]; rfl

theorem holds_store_beyond {ws : Writes} {s : List Byte} {k : Nat} (h : HoldsString ws s) (hk : s.length < k)
    (b : Byte) : HoldsString (ws ++ [(k, b)]) s := by
  refine ⟨fun i hi => ?_, ?_⟩
  · rw [get_append, get_single, if_neg (Nat.ne_of_gt (Nat.lt_trans hi hk))]; exact h.1 i hi
  · rw [get_append, get_single, if_neg (Nat.ne_of_gt hk)]; exact h.2

theorem holds_after (a : Writes) {b : Writes} {s : List Byte} (h : HoldsString b s) : HoldsString (a ++ b) s := by
  refine ⟨fun i hi => ?_, ?_⟩
  · rw [get_append, h.1 i hi, List.getElem?_eq_getElem hi]; rfl
  · rw [get_append, h.2]; rfl

theorem holds_copy (c : Copy) (v : List Byte) :
    HoldsString (c.writes v) v ∧ Bounded (c.writes v) (v.length + 1) := by
  cases c
  · exact ⟨holds_memcpy List.prefix_rfl, bounded_memcpyW0 (Nat.le_of_eq List.length_append)⟩
  · exact ⟨holds_store List.prefix_rfl rfl, bounded_store (Nat.le_succ _) (Nat.lt_succ_self _)⟩

/-- `memcpy` of a prefix, then a terminator right behind it (readlink / snprintf shape) -/
theorem holds_take (v : List Byte) {n m : Nat} (h : n < m) :
    HoldsString (memcpyW 0 (v.take n) ++ [(min v.length n, 0)]) (v.take n) ∧
    Bounded (memcpyW 0 (v.take n) ++ [(min v.length n, 0)]) m :=
  ⟨holds_store List.prefix_rfl (by rw [List.length_take, Nat.min_comm]),
    bounded_store (Nat.le_trans (List.length_take_le _ _) (Nat.le_of_lt h))
      (Nat.lt_of_le_of_lt (Nat.min_le_right _ _) h)⟩

/-- all three comparisons used in the tree mean "no room for the terminator" -/
theorem tooSmall_iff (c : Cmp) (len size : Nat) : c.tooSmall len size = true ↔ size ≤ len := by
  cases c <;> simp only [Cmp.tooSmall, decide_eq_true_eq, ge_iff_le, gt_iff_lt, Nat.lt_succ_iff]

/-- the loop over a terminator-free `v` and its terminator, with room for `m` more bytes -/
theorem strscpyLoop_nulfree (v : List Byte) (hv : NulFree v) (i m : Nat) :
    strscpyLoop (v ++ [0]) i (i + m) =
      if v.length < m then (memcpyW i (v ++ [0]), true) else (memcpyW i (v.take m), false) := by
  induction v generalizing i m with
  | nil =>
    cases m <;> simp [strscpyLoop, memcpyW]
  | cons c cs ih =>
    have hc : c ≠ 0 := hv c List.mem_cons_self
    cases m with
    | zero => rw [List.cons_append, strscpyLoop, if_neg (by omega)]; rfl
    | succ m =>
      rw [List.cons_append, strscpyLoop, if_pos (by omega), if_neg hc,
        show i + (m + 1) = i + 1 + m by omega, ih (fun x hx => hv x (List.mem_cons_of_mem _ hx)),
        List.length_cons, List.take_succ_cons]
      by_cases h : cs.length < m
      · rw [if_pos h, if_pos (Nat.succ_lt_succ h)]; rfl
      · rw [if_neg h, if_neg (by omega)]; rfl

theorem strscpyW_nulfree (v : List Byte) (hv : NulFree v) (n : Nat) :
    strscpyW v n =
      if v.length < n then memcpyW 0 (v ++ [0])
      else if n = 0 then [] else memcpyW 0 (v.take n) ++ [(n - 1, 0)] := by
  have := strscpyLoop_nulfree v hv 0 n
  rw [Nat.zero_add] at this
  rw [strscpyW, this]
  by_cases h : v.length < n
  · rw [if_pos h, if_pos h]; rfl
  · rw [if_neg h, if_neg h]
    by_cases h0 : n = 0
    · rw [if_pos h0, h0]; rfl
    · rw [if_neg h0]; exact if_neg h0

theorem holds_snprintf (v : List Byte) (n : Nat) (hn : 0 < n) :
    HoldsString (snprintfW v n) (v.take (n - 1)) ∧ Bounded (snprintfW v n) n := by
  rw [snprintfW, if_neg (Nat.ne_of_gt hn)]
  exact holds_take v (Nat.sub_one_lt (Nat.ne_of_gt hn))

theorem strscpyLoop_bounded (s : List Byte) (i n : Nat) : Bounded (strscpyLoop s i n).1 n := by
  induction s generalizing i with
  | nil => exact bounded_nil n
  | cons c cs ih =>
    rw [strscpyLoop]
    split
    · next h =>
      split
      · exact bounded_single.2 h
      · intro p hp
        rcases List.mem_cons.1 hp with rfl | hp
        · exact h
        · exact ih (i + 1) p hp
    · exact bounded_nil n

/-- uv__strscpy never stores at or beyond `n`, whatever the source holds (no NulFree needed) -/
theorem strscpyW_bounded (v : List Byte) (n : Nat) : Bounded (strscpyW v n) n := by
  have hb := strscpyLoop_bounded (v ++ [0]) 0 n
  rw [strscpyW]
  generalize strscpyLoop (v ++ [0]) 0 n = r at hb
  obtain ⟨w, d⟩ := r
  show Bounded (if d = true then w else if n = 0 then w else w ++ [(n - 1, 0)]) n
  split
  · exact hb
  · split
    · exact hb
    · exact bounded_append.2 ⟨hb, bounded_single.2 (by omega)⟩

theorem holds_strscpy (v : List Byte) (hv : NulFree v) (n : Nat) (hn : 0 < n) :
    HoldsString (strscpyW v n) (v.take (n - 1)) ∧ Bounded (strscpyW v n) n := by
  refine ⟨?_, strscpyW_bounded v n⟩
  rw [strscpyW_nulfree v hv]
  by_cases h : v.length < n
  · rw [if_pos h, List.take_of_length_le (Nat.le_sub_one_of_lt h)]
    exact holds_memcpy List.prefix_rfl
  · rw [if_neg h, if_neg (Nat.ne_of_gt hn)]
    exact holds_store (List.take_prefix_take_left (Nat.sub_le n 1))
      (List.length_take_of_le (Nat.le_trans (Nat.sub_le n 1) (Nat.le_of_not_lt h)))

theorem snprintfW_bounded (v : List Byte) (n : Nat) : Bounded (snprintfW v n) n := by
  cases n with
  | zero => exact bounded_nil 0
  | succ n => exact (holds_snprintf v _ (Nat.succ_pos n)).2

theorem nulFree_cons {c : Byte} {cs : List Byte} (hc : c ≠ 0) (h : NulFree cs) : NulFree (c :: cs) :=
  fun x hx => (List.mem_cons.1 hx).elim (fun e => e ▸ hc) (h x)

/-- a character whose UTF-8 encoding has no byte ≥ 128 is encoded as itself (lead bytes of longer encodings are ≥ 192) -/
theorem utf8EncodeChar_ascii {c : Char} (h : ∀ b ∈ String.utf8EncodeChar c, b < 128) :
    String.utf8EncodeChar c = [c.toNat.toUInt8] := by
  have lead : ∀ x d m tl, 0 < d → d + m ≤ 256 → 128 ≤ m →
      ¬ ∀ b ∈ UInt8.ofNat (x % d + m) :: tl, b < 128 := by
    intro x d m tl hd hm hm' hlt
    have := UInt8.lt_iff_toNat_lt.1 (hlt _ List.mem_cons_self)
    have hx := Nat.mod_lt x hd
    rw [UInt8.toNat_ofNat', show (128 : UInt8).toNat = 128 from rfl, Nat.mod_eq_of_lt (by omega)] at this
    omega
  unfold String.utf8EncodeChar at h ⊢
  by_cases hv : c.val.toNat ≤ 127
  · exact if_pos hv
  · simp only [if_neg hv] at h
    split at h
    · exact absurd h (lead _ 32 192 _ (by decide) (by decide) (by decide))
    · split at h
      · exact absurd h (lead _ 16 224 _ (by decide) (by decide) (by decide))
      · exact absurd h (lead _ 8 240 _ (by decide) (by decide) (by decide))

/-- on an ASCII string `bytesOf` is the UTF-8 encoding.  The kernel computes the right side of this at a
cost linear in the length; the left side makes it decode the encoding again, which is quadratic. -/
theorem bytesOf_ascii (s : String) (h : ∀ b ∈ s.toByteArray.data.toList, b < 128) :
    bytesOf s = s.toByteArray.data.toList := by
  rw [← String.utf8Encode_toList, List.utf8Encode, List.toList_data_toByteArray] at *
  rw [bytesOf]
  generalize s.toList = l at h ⊢
  induction l with
  | nil => rfl
  | cons c l ih =>
    rw [List.flatMap_cons] at h ⊢
    rw [List.map_cons, ih fun b hb => h b (List.mem_append_right _ hb),
      utf8EncodeChar_ascii fun b hb => h b (List.mem_append_left _ hb)]
    rfl

def AsciiNulFree (s : String) : Prop := ∀ b ∈ s.toByteArray.data.toList, b ≠ 0 ∧ b < 128
instance (s : String) : Decidable (AsciiNulFree s) := by unfold AsciiNulFree; infer_instance

theorem nulFree_bytesOf {s : String} (h : AsciiNulFree s) : NulFree (bytesOf s) := by
  rw [bytesOf_ascii s fun b hb => (h b hb).2]
  exact fun b hb => (h b hb).1

theorem digit_ne_zero (n : Nat) : (48 + n % 10).toUInt8 ≠ 0 := by
  intro h
  have := congrArg UInt8.toNat h
  rw [Nat.toUInt8_eq, UInt8.toNat_ofNat'] at this
  have e : (0 : UInt8).toNat = 0 := rfl
  omega

theorem decDigits_nulfree (fuel n : Nat) (acc : List Byte) (ha : NulFree acc) : NulFree (decDigits fuel n acc) := by
  induction fuel generalizing n acc with
  | zero => exact ha
  | succ f ih =>
    have hacc := nulFree_cons (digit_ne_zero n) ha
    rw [decDigits]
    split
    · exact hacc
    · exact ih _ _ hacc

theorem decInt_nulfree (i : Int) : NulFree (decInt i) := by
  have h := decDigits_nulfree (i.natAbs + 1) i.natAbs [] (fun _ hx => nomatch hx)
  rw [decInt]
  split
  · exact nulFree_cons (by decide) h
  · exact h

theorem unknownMsg_nulfree (code : Int) : NulFree (unknownMsg code) :=
  fun x hx => (List.mem_append.1 hx).elim (nulFree_bytesOf (by decide +kernel) x) (decInt_nulfree code x)

theorem lookup_code {t : List ErrEntry} {code : Int} {e : ErrEntry} (h : lookup t code = some e) :
    e ∈ t ∧ e.code = code := by
  rw [lookup] at h
  exact ⟨List.mem_of_find?_eq_some h, by simpa using List.find?_some h⟩

theorem lookup_mem {t : List ErrEntry} (hd : (t.map (·.code)).Nodup) {e : ErrEntry} (he : e ∈ t) :
    lookup t e.code = some e := by
  induction t with
  | nil => cases he
  | cons a t ih =>
    rw [List.map_cons, List.nodup_cons] at hd
    rw [lookup, List.find?_cons]
    rcases List.mem_cons.1 he with rfl | he
    · rw [decide_eq_true rfl]
    · have : a.code ≠ e.code := fun hae => hd.1 (hae ▸ List.mem_map_of_mem he)
      rw [decide_eq_false this]
      exact ih hd.2 he

/-- `run` follows the `*size` protocol for the OS value `v`, returning `exp`.  `small` (UV_ENOBUFS with a
size that fits) is what uv_cwd gives only for a canonical getcwd answer, hence the guard `canon`; every
other getter has it for any `canon`. -/
structure Proto (run : Nat → Result) (v exp : List Byte) (canon : Prop) : Prop where
  einval : (run 0).rc = EINVAL
  fail : ∀ size, size ≤ v.length → (run size).rc ≠ 0 ∧ (run size).writes = []
  ok : ∀ size, v.length < size →
    (run size).rc = 0 ∧ (run size).size = exp.length ∧ HoldsString (run size).writes exp ∧
    Bounded (run size).writes (v.length + 1)
  small : canon → ∀ size, 0 < size → size ≤ v.length → (run size).rc = ENOBUFS ∧ v.length < (run size).size

theorem Proto.fits {run : Nat → Result} {v exp : List Byte} {canon : Prop} {size : Nat}
    (p : Proto run v exp canon) (hrc : (run size).rc = 0) : v.length < size :=
  Nat.lt_of_not_le fun hs => (p.fail size hs).1 hrc

theorem checkCopy_proto (cmp : Cmp) (c : Copy) (v : List Byte) (canon : Prop) :
    Proto (checkCopy cmp c v) v v canon where
  einval := by rw [checkCopy, if_pos rfl]
  fail size h := by
    rw [checkCopy]
    split
    · exact ⟨(by decide : EINVAL ≠ 0), rfl⟩
    · rw [if_pos ((tooSmall_iff cmp _ _).2 h)]; exact ⟨(by decide : ENOBUFS ≠ 0), rfl⟩
  ok size h := by
    rw [checkCopy, if_neg (Nat.ne_of_gt (Nat.zero_lt_of_lt h)),
      if_neg (mt (tooSmall_iff cmp _ _).1 (Nat.not_le_of_lt h))]
    exact ⟨rfl, rfl, holds_copy c v⟩
  small _ size h0 h := by
    rw [checkCopy, if_neg (Nat.ne_of_gt h0), if_pos ((tooSmall_iff cmp _ _).2 h)]
    exact ⟨rfl, Nat.lt_succ_self _⟩

theorem stripSlash_length_le (v : List Byte) : (stripSlash v).length ≤ v.length := by
  rw [stripSlash]; split
  · exact (List.take_prefix _ v).length_le
  · exact Nat.le_refl _

theorem tmpdir_proto (v : List Byte) (canon : Prop) : Proto (osTmpdir v) v (stripSlash v) canon where
  einval := by rw [osTmpdir, if_pos rfl]
  fail size h := by
    by_cases h0 : size = 0
    · rw [osTmpdir, if_pos h0]; exact ⟨(by decide : EINVAL ≠ 0), rfl⟩
    · rw [osTmpdir, if_neg h0]; dsimp only; rw [if_pos h]; exact ⟨(by decide : ENOBUFS ≠ 0), rfl⟩
  ok size h := by
    -- `k`: the length after stripping, in both cases a prefix of `v`
    have hs : stripSlash v = v.take
        (if v.length > 1 ∧ v[v.length - 1]? = some slash then v.length - 1 else v.length) := by
      rw [stripSlash]; split
      · rfl
      · exact List.take_length.symm
    obtain ⟨k, hk, e⟩ : ∃ k, k ≤ v.length ∧
        (if v.length > 1 ∧ v[v.length - 1]? = some slash then v.length - 1 else v.length) = k :=
      ⟨_, by split; exact Nat.sub_le _ _; exact Nat.le_refl _, rfl⟩
    rw [osTmpdir, if_neg (Nat.ne_of_gt (Nat.zero_lt_of_lt h))]
    dsimp only
    rw [if_neg (Nat.not_le_of_lt h), hs, e]
    have hl : (v.take k).length = k := List.length_take_of_le hk
    refine ⟨rfl, hl.symm, holds_store ?_ hl,
      bounded_store (Nat.le_trans (List.length_take_le _ _) (Nat.succ_le_succ hk)) (Nat.lt_succ_of_le hk)⟩
    rw [← List.take_append_of_le_length (l₂ := [0]) hk]
    exact List.take_prefix_take_left (Nat.le_succ k)
  small _ size h0 h := by
    rw [osTmpdir, if_neg (Nat.ne_of_gt h0)]; dsimp only; rw [if_pos h]
    exact ⟨rfl, Nat.lt_succ_self _⟩

theorem cwd_proto (v : List Byte) {canon : Prop} (f : canon → CwdCanonical v) :
    Proto (cwd v) v (stripSlash v) canon where
  einval := by rw [cwd, cwdR, if_pos rfl]
  fail size h := by
    by_cases h0 : size = 0
    · rw [cwd, cwdR, if_pos h0]; exact ⟨(by decide : EINVAL ≠ 0), rfl⟩
    · rw [cwd, cwdR, if_neg h0]; dsimp only; rw [if_neg (Nat.not_le_of_lt (Nat.lt_succ_of_le h))]
      split
      · exact ⟨(by decide : ENOBUFS ≠ 0), rfl⟩
      · exact ⟨(by decide : ERANGE ≠ 0), rfl⟩
  ok size h := by
    rw [cwd, cwdR, if_neg (Nat.ne_of_gt (Nat.zero_lt_of_lt h))]; dsimp only
    rw [if_pos (Nat.succ_le_of_lt h), stripSlash]
    by_cases hs : v.length > 1 ∧ v[v.length - 1]? = some slash
    · have hl : (v.take (v.length - 1)).length = v.length - 1 := List.length_take_of_le (Nat.sub_le _ _)
      rw [if_pos (decide_eq_true hs), if_pos hs]
      exact ⟨rfl, hl.symm, holds_store ((List.take_prefix _ v).trans (List.prefix_append v [0])) hl,
        bounded_store (by rw [List.length_append]; exact Nat.le_refl _) (Nat.lt_succ_of_le (Nat.sub_le _ _))⟩
    · rw [if_neg (by rw [decide_eq_true_eq]; exact hs), if_neg hs]
      exact ⟨rfl, rfl, holds_copy .withNul v⟩
  small hc size h0 h := by
    obtain ⟨hstrip, hcap⟩ := f hc
    have hs : ¬ (v.length > 1 ∧ v[v.length - 1]? = some slash) := by
      intro hs
      have := congrArg List.length hstrip
      rw [stripSlash, if_pos hs, List.length_take] at this
      omega
    rw [cwd, cwdR, if_neg (Nat.ne_of_gt h0)]; dsimp only
    rw [if_neg (Nat.not_le_of_lt (Nat.lt_succ_of_le h)), if_pos hcap, if_neg (by rw [decide_eq_true_eq]; exact hs)]
    exact ⟨rfl, Nat.lt_succ_self _⟩

theorem homedirPw_eq (v : List Byte) (size : Nat) :
    osHomedir none v size = checkCopy .lenGeSize .withNul v size := by
  unfold osHomedir osGetenv checkCopy
  by_cases h0 : size = 0
  · simp [h0, EINVAL, ENOENT]
  · by_cases h1 : v.length ≥ size <;> simp [h0, h1, Cmp.tooSmall, Copy.writes, ENOENT]

theorem getenv_eq (v : List Byte) (size : Nat) :
    osGetenv (some v) size = checkCopy .lenGeSize .withNul v size := by
  unfold osGetenv checkCopy
  by_cases h0 : size = 0 <;> simp [h0]

theorem takeWhile_nulfree (v : List Byte) (hv : NulFree v) : v.takeWhile (· ≠ 0) = v := by
  induction v with
  | nil => rfl
  | cons c cs ih =>
    have hc : c ≠ 0 := hv c List.mem_cons_self
    rw [List.takeWhile_cons, if_pos (decide_eq_true hc), ih fun x hx => hv x (List.mem_cons_of_mem _ hx)]

theorem pipePath_eq (v : List Byte) (hne : v ≠ []) (hlen : v.length ≤ 108) (hv : NulFree v) (old0 : Byte) (size : Nat) :
    pipeGetname v old0 size = checkCopy .lenSlopGt .thenStore v size := by
  have htake : v.take sunPathLen = v := List.take_of_length_le hlen
  obtain ⟨c, cs, rfl⟩ := List.exists_cons_of_ne_nil hne
  have hc : c ≠ 0 := hv c List.mem_cons_self
  unfold pipeGetname pipeCopy checkCopy
  by_cases h0 : size = 0
  · simp [h0]
  · simp only [h0, if_false, htake, takeWhile_nulfree _ hv]
    simp [hc, Cmp.tooSmall, Copy.writes]

theorem sized_checkCopy (g : Sized) (v : List Byte) (h : g.osOk v) (hc : g ≠ .cwd) (ht : g ≠ .tmpdir) :
    g.expected v = v ∧ ∃ cmp c, g.run v = checkCopy cmp c v := by
  cases g
  · exact absurd rfl hc
  · exact ⟨rfl, _, _, funext (getenv_eq v)⟩
  · exact ⟨rfl, _, _, funext (homedirPw_eq v)⟩
  · exact absurd rfl ht
  · exact ⟨rfl, _, _, funext fun n => by
      show checkCopy _ _ (v.take 64) n = _; rw [List.take_of_length_le h]⟩
  · exact ⟨rfl, _, _, rfl⟩
  · exact ⟨rfl, _, _, rfl⟩
  · exact ⟨rfl, _, _, funext fun n => by
      show checkCopy _ _ (v.take 16) n = _; rw [List.take_of_length_le (Nat.le_succ_of_le h)]⟩
  · exact ⟨rfl, _, _, funext (pipePath_eq v h.1 h.2.1 h.2.2 0)⟩

theorem sized_proto (g : Sized) (v : List Byte) (h : g.osOk v) :
    Proto (g.run v) v (g.expected v) (g = .cwd → CwdCanonical v) := by
  by_cases hc : g = .cwd
  · subst hc; exact cwd_proto v fun f => f rfl
  by_cases ht : g = .tmpdir
  · subst ht; exact tmpdir_proto v _
  obtain ⟨he, cmp, c, hr⟩ := sized_checkCopy g v h hc ht
  rw [he, hr]; exact checkCopy_proto cmp c v _

/-- result shape of a truncating getter: success, the longest prefix that leaves room for the terminator -/
def Truncated (r : Result) (v : List Byte) (size : Nat) : Prop :=
  r.rc = 0 ∧ HoldsString r.writes (v.take (size - 1)) ∧ Bounded r.writes size

theorem proctitle_ok (v : List Byte) (size : Nat) (h : v.length < size) :
    (getProcessTitle v size).rc = 0 ∧ HoldsString (getProcessTitle v size).writes v ∧
    Bounded (getProcessTitle v size).writes (v.length + 1) := by
  rw [getProcessTitle, if_neg (by omega), if_neg (by omega)]
  refine ⟨rfl, ?_, ?_⟩
  · split
    · exact holds_store (List.prefix_append v [0]) rfl
    · next h0 =>
      obtain rfl : v = [] := List.eq_nil_of_length_eq_zero (Decidable.not_not.1 h0)
      exact holds_store (src := []) List.prefix_rfl rfl
  · split
    · exact bounded_store (by rw [List.length_append]; exact Nat.le_refl _) (Nat.lt_succ_self _)
    · exact bounded_store (src := []) (Nat.zero_le _) (Nat.lt_succ_self _)

theorem proctitle_small (v : List Byte) (size : Nat) (h0 : 0 < size) (h : size ≤ v.length) :
    getProcessTitle v size = ⟨ENOBUFS, [], size⟩ := by
  rw [getProcessTitle, if_neg (by omega), if_pos h]

/-- the terminator is stored only where there is room for it: behind a path name (`addrlen + 1 ≤ size`) or
behind an empty name (`0 < size`); a non-empty abstract name begins with a zero byte and gets none -/
theorem pipeCopy_bounded (path : List Byte) (abstract : Bool) (addrlen : Nat) (old0 : Byte) (size : Nat)
    (h0 : 0 < size) (h : abstract = true → addrlen ≠ 0 → path.getD 0 0 = 0) :
    Bounded (pipeCopy path abstract addrlen old0 size).writes size := by
  rw [pipeCopy]
  dsimp only
  by_cases h1 : addrlen + (if abstract = true then 0 else 1) > size
  · rw [if_pos h1]; exact bounded_nil _
  · rw [if_neg h1]
    have hm : Bounded (memcpyW 0 (path.take addrlen)) size :=
      bounded_memcpyW0 (Nat.le_trans (List.length_take_le _ _)
        (Nat.le_trans (Nat.le_add_right _ _) (Nat.le_of_not_gt h1)))
    by_cases hb : (if addrlen = 0 then old0 else path.getD 0 0) ≠ 0
    · rw [if_pos hb]
      refine bounded_append.2 ⟨hm, bounded_single.2 ?_⟩
      cases abstract
      · exact Nat.lt_of_succ_le (Nat.le_of_not_gt h1)
      · by_cases hl : addrlen = 0
        · exact hl ▸ h0
        · rw [if_neg hl] at hb; exact absurd (h rfl hl) hb
    · rw [if_neg hb]; exact hm

theorem pipe_abstract (rest : List Byte) (hlen : rest.length + 1 ≤ 108) (old0 : Byte) (size : Nat) (h0 : 0 < size) :
    pipeGetname (0 :: rest) old0 size =
      if size < rest.length + 1 then ⟨ENOBUFS, [], rest.length + 1⟩
      else ⟨0, memcpyW 0 (0 :: rest), rest.length + 1⟩ := by
  have h0' : ¬ size = 0 := by omega
  have htake : (0 :: rest).take sunPathLen = 0 :: rest := List.take_of_length_le hlen
  unfold pipeGetname pipeCopy
  simp only [h0', if_false, htake]
  by_cases h1 : size < rest.length + 1 <;> simp [h1]

theorem holdsBytes_memcpy (s : List Byte) : HoldsBytes (memcpyW 0 s) s :=
  ⟨fun i _ => get_memcpyW0 s i, by rw [get_memcpyW0]; exact List.getElem?_eq_none (Nat.le_refl _)⟩

/-- unbound socket: getsockname stores no path byte; libuv reports the empty name -/
theorem pipe_unbound (old0 : Byte) (size : Nat) (h0 : 0 < size) :
    pipeGetname [] old0 size = ⟨0, if old0 ≠ 0 then [(0, 0)] else [], 0⟩ := by
  have h0' : ¬ size = 0 := by omega
  simp [pipeGetname, pipeCopy, h0', memcpyW]

theorem cwdR_eq (v : List Byte) (size : Nat) (residue : Writes) (hpos : 0 < size) :
    cwdR v size residue = { cwd v size with writes := residue ++ (cwd v size).writes } := by
  have h0 : ¬ size = 0 := Nat.ne_of_gt hpos
  rw [cwd, cwdR, cwdR, if_neg h0, if_neg h0]
  dsimp only
  by_cases h1 : v.length + 1 ≤ size
  · rw [if_pos h1, if_pos h1]
    split <;> simp only [List.nil_append, List.append_assoc]
  · rw [if_neg h1, if_neg h1]
    split <;> simp only [List.append_nil]

end UvModel.Getter
