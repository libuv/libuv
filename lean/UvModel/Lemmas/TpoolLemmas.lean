import UvModel.Lemmas.TpoolInv
/-! The invariants of C08 other than the location invariant.  Each is a `def`, not a structure, so that a transition
    that leaves alone the fields it reads preserves it by `exact`.  `run_ind` is the one induction over runs. -/
namespace UvModel.Tpool

theorem run_append (s : State) (as bs : List Act) : run s (as ++ bs) = run (run s as) bs := by
  induction as generalizing s with
  | nil => rfl
  | cons a as ih =>
    simp only [run, List.cons_append]
    split <;> exact ih _

theorem reach_run {n L : Nat} {s : State} (h : Reach n L s) (as : List Act) : Reach n L (run s as) := by
  obtain ⟨bs, rfl⟩ := h
  exact ⟨bs ++ as, (run_append _ bs as).symm⟩

theorem reach_step {n L : Nat} {s s' : State} {a : Act} {evs : List Ev} (h : Reach n L s)
    (e : step s a = some (s', evs)) : Reach n L s' := by
  have := reach_run h [a]
  simpa only [run, e] using this

theorem run_ind {P : State → Prop} {n L : Nat}
    (hs : ∀ s a s' evs, Reach n L s → P s → step s a = some (s', evs) → P s') {s : State} (hr : Reach n L s)
    (hp : P s) (as : List Act) : P (run s as) := by
  induction as generalizing s with
  | nil => exact hp
  | cons a as ih =>
    simp only [run]
    split
    · next s' evs e => exact ih (reach_step hr e) (hs s a s' evs hr hp e)
    · exact ih hr hp

theorem reach_ind {P : State → Prop} {n L : Nat} (h0 : P (State.init n L))
    (hs : ∀ s a s' evs, Reach n L s → P s → step s a = some (s', evs) → P s') {s : State} (h : Reach n L s) :
    P s := by
  obtain ⟨as, rfl⟩ := h
  exact run_ind hs ⟨[], rfl⟩ h0 as

theorem inv_reach {n L : Nat} {s : State} (h : Reach n L s) : Inv s :=
  reach_ind (inv_init n L) (fun _ _ _ _ _ hi e => inv_trans hi (trans_of_step hi.wqNd e)) h

theorem reach_trans {n L : Nat} {s s' : State} {a : Act} {evs : List Ev} (h : Reach n L s)
    (e : step s a = some (s', evs)) : Trans s a (s', evs) :=
  trans_of_step (inv_reach h).wqNd e

theorem trans_n {s s' : State} {a : Act} {evs : List Ev} (tr : Trans s a (s', evs)) : s'.n = s.n := by
  cases tr <;> rfl

theorem reach_n {n L : Nat} {s : State} (h : Reach n L s) : s.n = n :=
  reach_ind (P := fun s => s.n = n) rfl (fun _ _ _ _ hr hn e => (trans_n (reach_trans hr e)).trans hn) h

def cnt {α : Type} (p : α → Bool) (w : Nat → α) : Nat → Nat
  | 0 => 0
  | n + 1 => cnt p w n + (if p (w n) then 1 else 0)

theorem cnt_upd_ge {α : Type} (p : α → Bool) (w : Nat → α) (t : Nat) (x : α) (n : Nat) (h : n ≤ t) :
    cnt p (upd w t x) n = cnt p w n := by
  induction n with
  | zero => rfl
  | succ n ih =>
    simp only [cnt]
    rw [ih (by omega), upd_ne w t n x (by omega)]

theorem cnt_upd {α : Type} (p : α → Bool) (w : Nat → α) (t : Nat) (x : α) (n : Nat) (h : t < n) :
    (cnt p (upd w t x) n : Int) = cnt p w n - (if p (w t) then 1 else 0) + (if p x then 1 else 0) := by
  induction n with
  | zero => omega
  | succ n ih =>
    simp only [cnt]
    by_cases e : t = n
    · subst e
      rw [cnt_upd_ge p w t x t (Nat.le_refl t)]
      simp only [upd_same]
      split <;> split <;> omega
    · have := ih (by omega)
      rw [upd_ne w t n x (fun h => e h.symm)]
      push_cast
      omega

theorem cnt_upd_same {α : Type} (p : α → Bool) (w : Nat → α) (t : Nat) (x : α) (n : Nat) (h : p x = p (w t)) :
    cnt p (upd w t x) n = cnt p w n := by
  by_cases ht : t < n
  · have := cnt_upd p w t x n ht
    rw [h] at this
    omega
  · exact cnt_upd_ge p w t x n (by omega)

theorem cnt_le {α : Type} (p : α → Bool) (w : Nat → α) (n : Nat) : cnt p w n ≤ n := by
  induction n with
  | zero => simp [cnt]
  | succ n ih =>
    simp only [cnt]
    split <;> omega

theorem cnt_zero_all {α : Type} (p : α → Bool) (w : Nat → α) (n : Nat) (h : ∀ t, t < n → p (w t) = true) :
    cnt p w n = n := by
  induction n with
  | zero => rfl
  | succ n ih =>
    simp only [cnt]
    rw [ih (fun t ht => h t (by omega)), h n (by omega)]
    simp

theorem cnt_lt_exists {α : Type} (p : α → Bool) (w : Nat → α) (n : Nat) (h : cnt p w n < n) :
    ∃ t, t < n ∧ p (w t) = false :=
  Decidable.by_contra fun hne =>
    Nat.ne_of_lt h (cnt_zero_all p w n fun t ht => by simpa using fun hf => hne ⟨t, ht, hf⟩)

theorem cnt_eq_zero_iff {α : Type} (p : α → Bool) (w : Nat → α) (n : Nat) :
    cnt p w n = 0 ↔ ∀ t, t < n → p (w t) = false := by
  induction n with
  | zero => exact ⟨fun _ _ h => absurd h (Nat.not_lt_zero _), fun _ => rfl⟩
  | succ n ih =>
    simp only [cnt, Nat.add_eq_zero_iff, ih, Nat.lt_succ_iff_lt_or_eq]
    constructor
    · rintro ⟨h1, h2⟩ t (ht | rfl)
      · exact h1 t ht
      · simpa using h2
    · exact fun h => ⟨fun t ht => h t (.inl ht), by simp [h n (.inr rfl)]⟩

theorem cnt_pos {α : Type} (p : α → Bool) (w : Nat → α) (n t : Nat) (ht : t < n) (hp : p (w t) = true) :
    0 < cnt p w n :=
  Nat.pos_of_ne_zero fun h => by simp [(cnt_eq_zero_iff p w n).mp h t ht] at hp

/-- `r` = slow_io_work_running and `idle` = idle_threads count the workers `w` of a pool of `n` -/
def Counted (n : Nat) (r idle : Int) (w : Nat → WPhase) : Prop :=
  r = cnt isSlow w n ∧ r ≤ threshold n ∧ idle = cnt isIdle w n

def WorkersCounted (s : State) : Prop := Counted s.n s.slowRun s.idle s.workers

theorem workersCounted_init (n L : Nat) : WorkersCounted (State.init n L) := by
  refine ⟨?_, ?_, ?_⟩
  · exact congrArg Int.ofNat ((cnt_eq_zero_iff isSlow _ n).mpr fun _ _ => rfl).symm
  · exact Int.natCast_nonneg _
  · exact congrArg Int.ofNat ((cnt_eq_zero_iff isIdle _ n).mpr fun _ _ => rfl).symm

/-- worker `t` changes phase and adjusts the two counters by what it stops and starts being counted as -/
theorem Counted.upd {n t : Nat} {r idle r' idle' : Int} {w : Nat → WPhase} {ph : WPhase} (h : Counted n r idle w)
    (ht : t < n) (hr : r' = r - (if isSlow (w t) then 1 else 0) + (if isSlow ph then 1 else 0))
    (hi : idle' = idle - (if isIdle (w t) then 1 else 0) + (if isIdle ph then 1 else 0))
    (hle : r' ≤ threshold n) : Counted n r' idle' (upd w t ph) :=
  ⟨by rw [hr, h.1]; exact (cnt_upd isSlow w t ph n ht).symm, hle,
   by rw [hi, h.2.2]; exact (cnt_upd isIdle w t ph n ht).symm⟩

theorem Counted.signalled {g : Prop} {n : Nat} {r idle : Int} {w w' : Nat → WPhase} (h : Counted n r idle w)
    (hs : Signalled g n w w') : Counted n r idle w' := by
  rcases hs.eq with rfl | ⟨t, ht, hw, rfl⟩
  · exact h
  · exact h.upd ht (by simp [hw, isSlow]) (by simp [hw, isIdle]) h.2.1

theorem workersCounted_trans {s s' : State} {a : Act} {evs : List Ev} (hI : Inv s) (h : WorkersCounted s) (tr : Trans s a (s', evs)) :
    WorkersCounted s' := by
  have hle (b : Prop) [Decidable b] : s.slowRun - (if b then 1 else 0) ≤ threshold s.n := by
    have := h.2.1
    split <;> omega
  cases tr with
  | subFast _ hs | subSlow _ hs => exact h.signalled hs
  | wake ht hw => exact h.upd ht (by simp [hw, isSlow]) (by simp [hw, isIdle]) h.2.1
  | start ht hp | finish ht hp =>
    exact h.upd ht (by cases ‹Bool› <;> simp [hp, isSlow]) (by simp [hp, isIdle]) h.2.1
  | wait ht he hd =>
    exact h.upd ht (by simp [he.slowEq, isSlow]) (by simp [he.idleEq, isIdle]) (he.slowEq ▸ hle _)
  | @take _ _ _ _ _ slow _ _ _ _ _ ht he hd hs =>
    have sp := hI.dq hd
    refine Counted.signalled (h.upd ht ?_ (by simp [he.idleEq, isIdle]) ?_) hs
    · cases slow <;> simp [he.slowEq, isSlow]
    · cases slow
      · exact he.slowEq ▸ hle _
      · have := sp.2.1
        simp only [↓reduceIte]
        omega
  | _ => exact h

theorem workersCounted_reach {n L : Nat} {s : State} (h : Reach n L s) : WorkersCounted s :=
  reach_ind (workersCounted_init n L) (fun _ _ _ _ hr h2 e => workersCounted_trans (inv_reach hr) h2 (reach_trans hr e)) h

/-- pending slow requests have their marker in the global queue, and a loop with completions queued has its
    async pending -/
def NothingStranded (s : State) : Prop :=
  (s.sq ≠ [] → Ent.marker ∈ s.wq) ∧ ∀ l, (s.loops l).q ≠ [] → (s.loops l).async = true

theorem nothingStranded_trans {s s' : State} {a : Act} {evs : List Ev} (hI : Inv s) (h : NothingStranded s) (tr : Trans s a (s', evs)) :
    NothingStranded s' := by
  have keep (l : Nat) {ls : LoopSt} (hq : ls.q ≠ [] → ls.async = true) (l' : Nat) :
      (upd s.loops l ls l').q ≠ [] → (upd s.loops l ls l').async = true :=
    forall_upd (fun (ls : LoopSt) => ls.q ≠ [] → ls.async = true) h.2 hq l'
  cases tr with
  | subFast => exact ⟨fun p => List.mem_append_left _ (h.1 p), keep _ (h.2 _)⟩
  | subSlowM hm => exact ⟨fun _ => hm, keep _ (h.2 _)⟩
  | subSlow => exact ⟨fun _ => by simp, keep _ (h.2 _)⟩
  | can1Ok =>
    exact ⟨fun p => (List.mem_erase_of_ne (by simp)).mpr (h.1 fun e => p (by rw [e]; rfl)),
      keep _ fun p => h.2 _ fun e => p (by rw [e]; rfl)⟩
  | can1No | can2No | repNil | repCons => exact ⟨h.1, keep _ (h.2 _)⟩
  | can2Ok | finish => exact ⟨h.1, keep _ fun _ => rfl⟩
  | drain => exact ⟨h.1, keep _ fun p => absurd rfl p⟩
  | wait _ _ hd =>
    obtain ⟨rfl, -, -, -, -, e⟩ := hI.dq hd
    exact ⟨fun p => e p (h.1 p), h.2⟩
  | @take _ _ _ _ _ slow _ _ _ _ _ _ _ hd =>
    have sp := hI.dq hd
    cases slow
    · obtain ⟨rfl, -, -, -, -, -, e⟩ := sp
      exact ⟨fun p => e p (h.1 p), h.2⟩
    · exact ⟨sp.2.2.2.2.2.1.mpr, h.2⟩
  | _ => exact h

theorem nothingStranded_reach {n L : Nat} {s : State} (h : Reach n L s) : NothingStranded s :=
  reach_ind (P := NothingStranded) ⟨fun p => absurd rfl p, fun _ p => absurd rfl p⟩
    (fun _ _ _ _ hr h3 e => nothingStranded_trans (inv_reach hr) h3 (reach_trans hr e)) h

def Takeable (wq : List Ent) (r T : Int) : Prop := wq ≠ [] ∧ ¬(wq = [.marker] ∧ r ≥ T)
def Awake (n : Nat) (w : Nat → WPhase) : Prop := ∃ t, t < n ∧ w t ≠ .waiting
/-- no lost wake-up: if a worker may take work, some worker is not parked in uv_cond_wait -/
def NoLostWakeup (s : State) : Prop := Takeable s.wq s.slowRun (threshold s.n) → Awake s.n s.workers

theorem Signalled.stays_awake {g : Prop} {n : Nat} {w w' : Nat → WPhase} (hs : Signalled g n w w') (h : Awake n w) :
    Awake n w' := by
  obtain ⟨t, ht, hw⟩ := h
  rcases hs.eq with rfl | ⟨t', -, -, rfl⟩
  · exact ⟨t, ht, hw⟩
  · refine ⟨t, ht, ?_⟩
    unfold upd
    split
    · nofun
    · exact hw

theorem takeable_erase {wq : List Ent} {i : Nat} {r T : Int} (h : Takeable (wq.erase (.item i)) r T) :
    Takeable wq r T := by
  unfold Takeable at *
  grind

theorem noLostWakeup_trans {s s' : State} {a : Act} {evs : List Ev} (hI : Inv s) (h2 : WorkersCounted s) (h : NoLostWakeup s)
    (h1 : 0 < s.n) (tr : Trans s a (s', evs)) : NoLostWakeup s' := by
  -- after `if (idle_threads > 0) uv_cond_signal()`: a waiter was woken, or nobody waits
  have sub {w' : Nat → WPhase} (hs : Signalled (s.idle > 0) s.n s.workers w') : Awake s.n w' := by
    by_cases g : s.idle > 0
    · exact hs.awake g h1
    · have := (cnt_eq_zero_iff isIdle s.workers s.n).mp (by have := h2.2.2; omega) 0 h1
      exact hs.stays_awake ⟨0, h1, fun hw => by simp [hw, isIdle] at this⟩
  cases tr with
  | subFast _ hs | subSlow _ hs => exact fun _ => sub hs
  | can1Ok => exact fun tk => h (takeable_erase tk)
  | wait _ _ hd => exact fun tk => absurd (hI.dq hd).2.2.2.1 (fun o => o.elim tk.1 tk.2)
  | take ht _ _ hs => exact fun _ => hs.stays_awake ⟨_, ht, by simp⟩
  | start ht | finish ht | wake ht => exact fun _ => ⟨_, ht, by simp⟩
  | _ => exact h

theorem noLostWakeup_reach {n L : Nat} {s : State} (h1 : 1 ≤ n) (h : Reach n L s) : NoLostWakeup s :=
  reach_ind (P := NoLostWakeup) (fun tk => absurd rfl tk.1)
    (fun _ _ _ _ hr h5 e =>
      noLostWakeup_trans (inv_reach hr) (workersCounted_reach hr) h5 (by rw [reach_n hr]; exact h1) (reach_trans hr e)) h

def pend (l : Nat) (it : Item) : Bool := decide (it.loop = l) && decide (it.dones = 0)

/-- `active_reqs` of a loop counts its requests whose callback has not run -/
def ReqsCounted (s : State) : Prop := ∀ l, (s.loops l).reqs = cnt (pend l) s.items s.nItems

theorem reqsCounted_same {s : State} (h : ReqsCounted s) {loops : Nat → LoopSt} {items : Nat → Item}
    (hr : ∀ l, (loops l).reqs = (s.loops l).reqs)
    (hp : ∀ l, cnt (pend l) items s.nItems = cnt (pend l) s.items s.nItems) (l : Nat) :
    (loops l).reqs = cnt (pend l) items s.nItems := by
  rw [hr, hp]
  exact h l

theorem reqsCounted_trans {s s' : State} {a : Act} {evs : List Ev} (hI : Inv s) (h : ReqsCounted s) (tr : Trans s a (s', evs)) :
    ReqsCounted s' := by
  have sub {l : Nat} {it : Item} (h1 : it.loop = l) (h2 : it.dones = 0) (l' : Nat) :
      (upd s.loops l { s.loops l with reqs := (s.loops l).reqs + 1 } l').reqs =
        cnt (pend l') (upd s.items s.nItems it) (s.nItems + 1) := by
    simp only [cnt, upd_same]
    rw [cnt_upd_ge _ _ _ _ _ (Nat.le_refl _)]
    have := h l'
    by_cases e : l' = l
    · subst e
      simp [pend, h1, h2]
      omega
    · simp [upd_ne _ _ _ _ e, pend, h1, Ne.symm e]
      omega
  have loop {l : Nat} {ls : LoopSt} (hr : ls.reqs = (s.loops l).reqs) := apply_upd LoopSt.reqs hr
  have item {i : Nat} {it : Item} (hp : ∀ l, pend l it = pend l (s.items i)) (l : Nat) :=
    cnt_upd_same (pend l) s.items i it s.nItems (hp l)
  cases tr with
  | subFast | subSlowM | subSlow => exact sub rfl rfl
  | can1Ok | can2Ok | finish => exact reqsCounted_same h (loop rfl) (item fun _ => rfl)
  | can1No | can2No | repNil | drain => exact reqsCounted_same h (loop rfl) fun _ => rfl
  | take | start => exact reqsCounted_same h (fun _ => rfl) (item fun _ => rfl)
  | @repCons l i rest hl =>
    intro l'
    have hq := (hI.lq l i).mp (.inr (by simp [hl]))
    have a := hI.itemOk i hq.1
    simp only [ItemOk, hq.2.1] at a
    have := cnt_upd (pend l') s.items i { s.items i with
      dones := (s.items i).dones + 1, status := if (s.items i).work = .cancelled then ECANCELED else 0,
      loc := .reported } s.nItems hq.1
    have := h l'
    by_cases e : l' = l
    · simp_all [pend]
    · simp_all [upd_ne _ _ _ _ e, pend, Ne.symm e]
  | _ => exact h

theorem reqsCounted_reach {n L : Nat} {s : State} (h : Reach n L s) : ReqsCounted s :=
  reach_ind (P := ReqsCounted) (fun _ => rfl)
    (fun _ _ _ _ hr h4 e => reqsCounted_trans (inv_reach hr) h4 (reach_trans hr e)) h

theorem trans_cancelOk {s s' : State} {a : Act} {evs : List Ev} (tr : Trans s a (s', evs)) {i : Nat}
    (hi : i < s.nItems) (hc : (s.items i).cancelOk = true) :
    i < s'.nItems ∧ (s'.items i).cancelOk = true := by
  have keep {j : Nat} {it : Item} (h : i = j → it.cancelOk = true) : (upd s.items j it i).cancelOk = true := by
    unfold upd
    split
    · next e => exact h e
    · exact hc
  have same {j : Nat} (e : i = j) : (s.items j).cancelOk = true := e ▸ hc
  cases tr with
  | subFast | subSlowM | subSlow => exact ⟨Nat.lt_succ_of_lt hi, keep fun e => absurd e (Nat.ne_of_lt hi)⟩
  | can2Ok => exact ⟨hi, keep fun _ => rfl⟩
  | can1Ok | repCons | take | start | finish => exact ⟨hi, keep same⟩
  | _ => exact ⟨hi, hc⟩

theorem cancelOk_run {n L : Nat} {s : State} (hr : Reach n L s) (as : List Act) {i : Nat} (hi : i < s.nItems)
    (hc : (s.items i).cancelOk = true) : i < (run s as).nItems ∧ ((run s as).items i).cancelOk = true :=
  run_ind (P := fun s => i < s.nItems ∧ (s.items i).cancelOk = true)
    (fun _ _ _ _ hr hp e => trans_cancelOk (reach_trans hr e) hp.1 hp.2) hr ⟨hi, hc⟩ as

end UvModel.Tpool
