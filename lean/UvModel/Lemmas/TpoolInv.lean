import UvModel.Lemmas.TpoolTrans
/-! The location invariant of the thread pool: a place (`Place`) really holds a request (`holds`) exactly if the
    request's ghost fields name that place (`Item.inPlace`), and the request's real fields fit it (`ItemOk`).
    `InvC.place_move` is the one argument for a transition that moves a request; per transition only the places the code
    touches need a look. -/
namespace UvModel.Tpool

theorem nodup_snoc {α : Type} {a : List α} {x : α} (nd : a.Nodup) (hx : x ∉ a) : (a ++ [x]).Nodup := by
  simp [List.nodup_append, nd]
  grind

theorem nodup_insert {α : Type} {a b : List α} {x : α} (nd : (a ++ b).Nodup) (hx : ¬(x ∈ a ∨ x ∈ b)) :
    (a ++ [x] ++ b).Nodup := by
  simp [List.nodup_append] at nd hx ⊢
  grind

theorem nodup_remove {α : Type} {a b : List α} {x : α} (nd : (a ++ x :: b).Nodup) :
    (a ++ b).Nodup ∧ ¬(x ∈ a ∨ x ∈ b) := by
  simp [List.nodup_append] at nd ⊢
  grind

/-- what one pass through the locked loop of worker() does to the queues -/
def DqSpec (T r : Int) (wq : List Ent) (sq : List Nat) : DqOut → Prop
  | .fuel => True
  | .wait wq' sq' => sq' = sq ∧ (∀ j, Ent.item j ∈ wq' ↔ Ent.item j ∈ wq) ∧ wq'.Nodup ∧
      (wq' = [] ∨ (wq' = [.marker] ∧ r ≥ T)) ∧ (Ent.marker ∈ wq' → Ent.marker ∈ wq) ∧
      (sq ≠ [] → Ent.marker ∈ wq → Ent.marker ∈ wq')
  | .take i false wq' sq' sig => sq' = sq ∧ sig = false ∧ Ent.item i ∈ wq ∧ wq'.Nodup ∧
      (∀ j, Ent.item j ∈ wq' ↔ (Ent.item j ∈ wq ∧ j ≠ i)) ∧ (Ent.marker ∈ wq' → Ent.marker ∈ wq) ∧
      (sq ≠ [] → Ent.marker ∈ wq → Ent.marker ∈ wq')
  | .take i true wq' sq' sig => sq = i :: sq' ∧ r < T ∧ (∀ j, Ent.item j ∈ wq' ↔ Ent.item j ∈ wq) ∧
      wq'.Nodup ∧ (sig = true ↔ sq' ≠ []) ∧ (Ent.marker ∈ wq' ↔ sq' ≠ []) ∧ Ent.marker ∈ wq

/-- the spec of the queue behind the marker, or with the marker moved to the back, is a spec of the whole queue -/
theorem DqSpec.transfer {T r : Int} {wq wq1 : List Ent} {sq : List Nat} {o : DqOut} (h : DqSpec T r wq1 sq o)
    (hi : ∀ j, Ent.item j ∈ wq1 ↔ Ent.item j ∈ wq) (hm : Ent.marker ∈ wq) (hm1 : sq ≠ [] → Ent.marker ∈ wq1) :
    DqSpec T r wq sq o := by
  cases o with
  | fuel => trivial
  | wait a b =>
    simp only [DqSpec] at h ⊢
    simp_all
  | take i s a b c => cases s <;> simp only [DqSpec] at h ⊢ <;> simp_all

theorem dq_spec (T r : Int) (f : Nat) (wq : List Ent) (sq : List Nat) (h : wq.Nodup) :
    DqSpec T r wq sq (dqLoop T r f wq sq) := by
  induction f generalizing wq with
  | zero => trivial
  | succ f ih =>
    unfold dqLoop
    split
    · simp [DqSpec]
    · next i rest =>
      have nd := List.nodup_cons.mp h
      simp only [DqSpec, List.mem_cons, Ent.item.injEq, reduceCtorEq, false_or, true_and]
      exact ⟨.inl trivial, nd.2, fun j => ⟨fun p => ⟨.inr p, fun e => nd.1 (e ▸ p)⟩, fun p => p.1.resolve_left p.2⟩,
        id, fun _ => id⟩
    · next rest =>
      have nd := List.nodup_cons.mp h
      split
      · next hc => simp [DqSpec, hc.1, hc.2]
      · split
        · exact (ih _ (nodup_snoc nd.2 nd.1)).transfer (by simp) (by simp) (by simp)
        · split
          · exact (ih rest nd.2).transfer (by simp) (by simp) (by simp)
          · clear ih
            split <;> simp_all [DqSpec, Int.not_le, nodup_snoc]

/-- consistency of one item's real fields with its (ghost) location and counters -/
def ItemOk (it : Item) : Prop :=
  match it.loc with
  | .globalQ => it.work = .fn ∧ it.linked = true ∧ it.starts = 0 ∧ it.returned = false ∧ it.dones = 0 ∧
      it.cancelOk = false ∧ it.kind ≠ .slow
  | .slowQ => it.work = .fn ∧ it.linked = true ∧ it.starts = 0 ∧ it.returned = false ∧ it.dones = 0 ∧
      it.cancelOk = false ∧ it.kind = .slow
  | .got _ => it.work = .fn ∧ it.linked = false ∧ it.starts = 0 ∧ it.returned = false ∧ it.dones = 0 ∧
      it.cancelOk = false
  | .inwork _ => it.work = .fn ∧ it.linked = false ∧ it.starts = 1 ∧ it.returned = false ∧ it.dones = 0 ∧
      it.cancelOk = false
  | .loopQ => it.linked = true ∧ it.dones = 0 ∧
      ((it.work = .null ∧ it.starts = 1 ∧ it.returned = true ∧ it.cancelOk = false) ∨
       (it.work = .cancelled ∧ it.starts = 0 ∧ it.returned = false ∧ it.cancelOk = true))
  | .cmid => it.work ≠ .null ∧ it.linked = true ∧ it.starts = 0 ∧ it.returned = false ∧ it.dones = 0 ∧
      (it.cancelOk = true ↔ it.work = .cancelled)
  | .reported => it.dones = 1 ∧
      ((it.status = 0 ∧ it.starts = 1 ∧ it.returned = true ∧ it.cancelOk = false) ∨
       (it.status = ECANCELED ∧ it.starts = 0 ∧ it.returned = false ∧ it.cancelOk = true))

theorem ItemOk.counters {it : Item} (a : ItemOk it) :
    it.starts ≤ 1 ∧ it.dones ≤ 1 ∧ (it.cancelOk = true → it.starts = 0 ∧ it.returned = false) ∧
    (it.dones = 1 →
      (it.cancelOk = true ∧ it.status = ECANCELED ∧ it.starts = 0) ∨
      (it.cancelOk = false ∧ it.status = 0 ∧ it.starts = 1 ∧ it.returned = true)) := by
  simp only [ItemOk] at a
  split at a <;> grind

/-- the test of `uv__work_cancel` (:289) on a request without callback that is not in a cancel cell: it is passed
    exactly by the requests waiting in a queue, which have not started and may be moved into the cell -/
theorem ItemOk.cancel {it : Item} (a : ItemOk it) (hd : it.dones = 0) (hc : it.loc ≠ .cmid) :
    ((it.linked = true ∧ it.work ≠ .null) ↔
      (it.loc = .globalQ ∨ it.loc = .slowQ ∨ (it.loc = .loopQ ∧ it.work = .cancelled))) ∧
    (it.linked = true → it.work ≠ .null → it.starts = 0 ∧ ItemOk { it with loc := .cmid }) := by
  simp only [ItemOk] at a ⊢
  split at a <;> grind

/-- in the loop's completion queue, or in the local copy `uv__work_done` is walking through -/
def LoopSt.has (ls : LoopSt) (i : Nat) : Prop := i ∈ ls.q ∨ i ∈ ls.lq

/-- where a request can be: global queue, slow queue, a worker's hands before or inside the work function, a
    loop's queues, the cell between the two halves of `uv_cancel` -/
inductive Place
  | wq
  | sq
  | got (t : Nat)
  | inw (t : Nat)
  | lq (l : Nat)
  | cm (l : Nat)

/-- the place the ghost fields name -/
def Item.inPlace (it : Item) : Place → Prop
  | .wq => it.loc = .globalQ
  | .sq => it.loc = .slowQ
  | .got t => it.loc = .got t
  | .inw t => it.loc = .inwork t
  | .lq l => it.loc = .loopQ ∧ it.loop = l
  | .cm l => it.loc = .cmid ∧ it.loop = l

/-- what the place really holds -/
def holds (wq : List Ent) (sq : List Nat) (w : Nat → WPhase) (loops : Nat → LoopSt) : Place → Nat → Prop
  | .wq, i => Ent.item i ∈ wq
  | .sq, i => i ∈ sq
  | .got t, i => (w t).gotItem = some i
  | .inw t, i => (w t).inwItem = some i
  | .lq l, i => (loops l).has i
  | .cm l, i => (loops l).cmid = some (i, true)

theorem Item.inPlace.unique {it : Item} {p p' : Place} (h : it.inPlace p) (h' : it.inPlace p') : p = p' := by
  cases p <;> cases p' <;> simp_all [Item.inPlace]

/-- the location invariant, on the six fields of the state it reads -/
structure InvC (nItems : Nat) (wq : List Ent) (sq : List Nat) (w : Nat → WPhase) (loops : Nat → LoopSt)
    (items : Nat → Item) : Prop where
  itemOk : ∀ i, i < nItems → ItemOk (items i)
  place : ∀ p i, holds wq sq w loops p i ↔ i < nItems ∧ (items i).inPlace p
  wqNd : wq.Nodup
  sqNd : sq.Nodup
  lqNd : ∀ l, ((loops l).q ++ (loops l).lq).Nodup
  lqTop : ∀ l, (loops l).phase = .top → (loops l).lq = []

def Inv (s : State) : Prop := InvC s.nItems s.wq s.sq s.workers s.loops s.items

section
variable {nItems : Nat} {gq : List Ent} {slq : List Nat} {w : Nat → WPhase} {loops : Nat → LoopSt} {items : Nat → Item}
  (h : InvC nItems gq slq w loops items)
include h

theorem InvC.wq (i : Nat) : Ent.item i ∈ gq ↔ i < nItems ∧ (items i).loc = .globalQ :=
  h.place .wq i

theorem InvC.sq (i : Nat) : i ∈ slq ↔ i < nItems ∧ (items i).loc = .slowQ :=
  h.place .sq i

theorem InvC.got (t i : Nat) : (w t).gotItem = some i ↔ i < nItems ∧ (items i).loc = .got t :=
  h.place (.got t) i

theorem InvC.inw (t i : Nat) : (w t).inwItem = some i ↔ i < nItems ∧ (items i).loc = .inwork t :=
  h.place (.inw t) i

theorem InvC.lq (l i : Nat) : (loops l).has i ↔ i < nItems ∧ (items i).loc = .loopQ ∧ (items i).loop = l :=
  h.place (.lq l) i

theorem InvC.cm (l i : Nat) : (loops l).cmid = some (i, true) ↔ i < nItems ∧ (items i).loc = .cmid ∧ (items i).loop = l :=
  h.place (.cm l) i

theorem InvC.dq {T r : Int} {o : DqOut} (hd : dqLoop T r (dqFuel gq) gq slq = o) : DqSpec T r gq slq o :=
  hd ▸ dq_spec T r _ _ _ h.wqNd

end

theorem inv_init (n L : Nat) : Inv (State.init n L) := by
  refine ⟨nofun, fun p i => ?_, .nil, .nil, fun _ => .nil, fun _ _ => rfl⟩
  cases p <;> simp [holds, State.init, LoopSt.init, LoopSt.has, WPhase.gotItem, WPhase.inwItem]

theorem forall_lt_upd {R : Item → Prop} {n n' i : Nat} {items : Nat → Item} {it : Item}
    (h : ∀ j, j < n → R (items j)) (hi : R it) (hn : ∀ j, j ≠ i → (j < n' ↔ j < n) := by exact fun _ _ => .rfl)
    (j : Nat) (hj : j < n') : R (upd items i it j) := by
  by_cases e : j = i
  · rw [e, upd_same]
    exact hi
  · rw [upd_ne _ _ _ _ e]
    exact h j ((hn j e).mp hj)

theorem forall_upd {α : Type} (R : α → Prop) {f : Nat → α} {k : Nat} {x : α} (h : ∀ k', R (f k')) (hx : R x)
    (k' : Nat) : R (upd f k x k') := by
  unfold upd
  split
  · exact hx
  · exact h k'

theorem upd_congr {α : Type} (C : α → Prop) {f : Nat → α} {k : Nat} {x : α} (hx : C x ↔ C (f k)) (k' : Nat) :
    C (upd f k x k') ↔ C (f k') :=
  .of_eq (apply_upd C (propext hx) k')

section
variable {nItems : Nat} {wq : List Ent} {sq : List Nat} {w : Nat → WPhase} {loops : Nat → LoopSt} {items : Nat → Item}

/-- Request `i` is rewritten to `it`; if it was submitted, the places it was in are among `S`.  The places keep
    describing their contents provided no other request moved and `i` is, afterwards, where it was outside `S` and
    where `it` says.  That `i` was in no place outside `S` is the invariant's business, not the caller's. -/
theorem InvC.place_move (h : InvC nItems wq sq w loops items) {nItems' : Nat} {wq' : List Ent} {sq' : List Nat} {w' : Nat → WPhase}
    {loops' : Nat → LoopSt} {i : Nat} {it : Item} (S : Place → Prop)
    (hS : i < nItems → ∀ p, (items i).inPlace p → S p) (hi : i < nItems')
    (hd : ∀ p, (∀ j, j ≠ i → (holds wq' sq' w' loops' p j ↔ holds wq sq w loops p j)) ∧
      (holds wq' sq' w' loops' p i ↔ (holds wq sq w loops p i ∧ ¬ S p) ∨ it.inPlace p))
    (hn : ∀ j, j ≠ i → (j < nItems' ↔ j < nItems) := by exact fun _ _ => .rfl) (p : Place) (j : Nat) :
    holds wq' sq' w' loops' p j ↔ j < nItems' ∧ (upd items i it j).inPlace p := by
  by_cases e : j = i
  · rw [e, upd_same, (hd p).2]
    constructor
    · rintro (⟨q, ne⟩ | q)
      · have := (h.place p i).mp q
        exact absurd (hS this.1 p this.2) ne
      · exact ⟨hi, q⟩
    · exact fun q => .inr q.2
  · rw [upd_ne _ _ _ _ e, (hd p).1 j e, hn j e]
    exact h.place p j

theorem InvC.wake (h : InvC nItems wq sq w loops items) {t : Nat} (hw : w t = .waiting) :
    InvC nItems wq sq (upd w t .woken) loops items :=
  { h with
    place := fun p j => Iff.trans (by
      cases p with
      | got t' => exact upd_congr (WPhase.gotItem · = some j) (by rw [hw]; exact .rfl) t'
      | inw t' => exact upd_congr (WPhase.inwItem · = some j) (by rw [hw]; exact .rfl) t'
      | _ => exact .rfl) (h.place p j) }

theorem InvC.signalled (h : InvC nItems wq sq w loops items) {g : Prop} {m : Nat} {w' : Nat → WPhase}
    (hs : Signalled g m w w') : InvC nItems wq sq w' loops items := by
  rcases hs.eq with rfl | ⟨t, -, hw, rfl⟩
  · exact h
  · exact h.wake hw

theorem InvC.loop (h : InvC nItems wq sq w loops items) {l : Nat} {ls : LoopSt} (e1 : ∀ j, ls.has j ↔ (loops l).has j)
    (e2 : ∀ j, ls.cmid = some (j, true) ↔ (loops l).cmid = some (j, true)) (e3 : (ls.q ++ ls.lq).Nodup)
    (e4 : ls.phase = .top → ls.lq = []) : InvC nItems wq sq w (upd loops l ls) items :=
  { h with
    place := fun p j => Iff.trans (by
      cases p with
      | lq l' => exact upd_congr (LoopSt.has · j) (e1 j) l'
      | cm l' => exact upd_congr (LoopSt.cmid · = some (j, true)) (e2 j) l'
      | _ => exact .rfl) (h.place p j)
    lqNd := forall_upd (fun (ls : LoopSt) => (ls.q ++ ls.lq).Nodup) h.lqNd e3
    lqTop := forall_upd (fun (ls : LoopSt) => ls.phase = .top → ls.lq = []) h.lqTop e4 }

end

theorem inv_trans {s s' : State} {a : Act} {evs : List Ev} (h : Inv s) (tr : Trans s a (s', evs)) : Inv s' := by
  unfold Inv at h ⊢
  have lqNd {k x} := forall_upd (fun (ls : LoopSt) => (ls.q ++ ls.lq).Nodup) (k := k) (x := x) h.lqNd
  have lqTop {k x} := forall_upd (fun (ls : LoopSt) => ls.phase = .top → ls.lq = []) (k := k) (x := x) h.lqTop
  have hn : ∀ j, j ≠ s.nItems → (j < s.nItems + 1 ↔ j < s.nItems) := by omega
  cases tr with
  | wake _ hw => exact h.wake hw
  | can1No hc => exact h.loop (fun _ => .rfl) (fun j => by simp [hc]) (h.lqNd _) (h.lqTop _)
  | can2No hc => exact h.loop (fun _ => .rfl) (fun j => by simp [hc]) (h.lqNd _) (h.lqTop _)
  | repNil hl => exact h.loop (fun _ => .rfl) (fun _ => .rfl) (h.lqNd _) (fun _ => hl)
  | @drain l _ hp =>
    dsimp only
    have hl := h.lqTop l hp
    exact h.loop (fun j => by simp [LoopSt.has, hl]) (fun _ => .rfl) (by simpa [hl] using h.lqNd l) nofun
  | @start t _ i _ _ hp =>
    dsimp only
    -- the request leaves `got t` for `inw t`: per place, the others stay and `i` is there iff its new value says so;
    -- only worker `t`'s two places need facts, a place the step does not touch is closed by unfolding
    have hg := (h.got t i).mp (by rw [hp]; rfl)
    have a := h.itemOk i hg.1
    simp only [ItemOk, hg.2] at a
    exact { h with
      itemOk := forall_lt_upd h.itemOk (by simp [ItemOk, a])
      place := h.place_move (· = .got t) (fun _ _ q => q.unique hg.2) hg.1 fun p => by
        cases p with
        | got t' | inw t' =>
          by_cases e : t' = t
          · simp +contextual [holds, Item.inPlace, e, hp, WPhase.gotItem, WPhase.inwItem, eq_comm]
          · simp [holds, Item.inPlace, upd, e, Ne.symm e]
        | _ => simp [holds, Item.inPlace] }
  | @finish t _ i _ _ _ hp =>
    dsimp only
    have hw := (h.inw t i).mp (by rw [hp]; rfl)
    have a := h.itemOk i hw.1
    simp only [ItemOk, hw.2] at a
    have hq : ¬ (s.loops (s.items i).loop).has i := fun p => by simpa [hw.2] using (h.lq _ i).mp p
    exact { h with
      itemOk := forall_lt_upd h.itemOk (by simp [ItemOk, a])
      place := h.place_move (· = .inw t) (fun _ _ q => q.unique hw.2) hw.1 fun p => by
        cases p with
        | got t' | inw t' =>
          by_cases e : t' = t
          · simp +contextual [holds, Item.inPlace, e, hp, WPhase.gotItem, WPhase.inwItem, eq_comm]
          · simp [holds, Item.inPlace, upd, e]
        | lq l' | cm l' =>
          by_cases e : l' = (s.items i).loop
          · simp +contextual [holds, Item.inPlace, e, LoopSt.has]
          · simp [holds, Item.inPlace, upd, e, Ne.symm e]
        | _ => simp [holds, Item.inPlace]
      lqNd := lqNd (nodup_insert (h.lqNd _) hq)
      lqTop := lqTop (h.lqTop _) }
  | @can2Ok l i _ hc =>
    dsimp only
    have hm := (h.cm l i).mp hc
    have a := h.itemOk i hm.1
    simp only [ItemOk, hm.2.1] at a
    have hq : ¬ (s.loops l).has i := fun p => by simpa [hm.2.1] using (h.lq l i).mp p
    exact { h with
      itemOk := forall_lt_upd h.itemOk (by simp [ItemOk, a])
      place := h.place_move (· = .cm l) (fun _ _ q => q.unique hm.2) hm.1 fun p => by
        cases p with
        | lq l' | cm l' =>
          by_cases e : l' = l
          · simp +contextual [holds, Item.inPlace, e, LoopSt.has, hc, hm.2.2, eq_comm]
          · simp [holds, Item.inPlace, upd, e, hm.2.2, Ne.symm e]
        | _ => simp [holds, Item.inPlace]
      lqNd := lqNd (nodup_insert (h.lqNd l) hq)
      lqTop := lqTop (h.lqTop l) }
  | @repCons l i rest hl =>
    dsimp only
    have hq := (h.lq l i).mp (.inr (by simp [hl]))
    have a := h.itemOk i hq.1
    simp only [ItemOk, hq.2.1] at a
    have nd := nodup_remove (hl ▸ h.lqNd l)
    exact { h with
      itemOk := forall_lt_upd h.itemOk (by rcases a with ⟨-, a2, a3 | a3⟩ <;> simp [ItemOk, a2, a3])
      place := h.place_move (· = .lq l) (fun _ _ q => q.unique hq.2) hq.1 fun p => by
        cases p with
        | lq l' | cm l' =>
          by_cases e : l' = l
          · simp +contextual [holds, Item.inPlace, e, LoopSt.has, hl, nd.2]
          · simp [holds, Item.inPlace, upd, e]
        | _ => simp [holds, Item.inPlace]
      lqNd := lqNd nd.1
      lqTop := lqTop nofun }
  | wait _ he hd =>
    dsimp only
    obtain ⟨rfl, e2, e3, -⟩ := h.dq hd
    exact { h with
      wqNd := e3
      place := fun p j => Iff.trans (by
        cases p with
        | wq => exact e2 j
        | got t => exact upd_congr (WPhase.gotItem · = some j) (by rw [he.noGot]; exact .rfl) t
        | inw t => exact upd_congr (WPhase.inwItem · = some j) (by rw [he.noInw]; exact .rfl) t
        | _ => exact .rfl) (h.place p j) }
  | @take t _ _ _ i slow _ _ _ _ _ _ he hd hs =>
    dsimp only
    have sp := h.dq hd
    refine InvC.signalled ?_ hs
    cases slow
    · obtain ⟨rfl, -, e2, e3, e4, -⟩ := sp
      have hq := (h.wq i).mp e2
      have a := h.itemOk i hq.1
      simp only [ItemOk, hq.2] at a
      exact { h with
        itemOk := forall_lt_upd h.itemOk (by simp [ItemOk, a])
        wqNd := e3
        place := h.place_move (· = .wq) (fun _ _ q => q.unique hq.2) hq.1 fun p => by
          cases p with
          | wq => simp +contextual [holds, Item.inPlace, e4]
          | got t' | inw t' =>
            by_cases e : t' = t
            · simp only [holds, e, upd_same, he.noGot, he.noInw]
              simp +contextual [Item.inPlace, WPhase.gotItem, WPhase.inwItem, eq_comm]
            · simp [holds, Item.inPlace, upd, e, Ne.symm e]
          | _ => simp [holds, Item.inPlace] }
    · obtain ⟨e1, -, e2, e3, -⟩ := sp
      have nd := List.nodup_cons.mp (e1 ▸ h.sqNd)
      have hq := (h.sq i).mp (by simp [e1])
      have a := h.itemOk i hq.1
      simp only [ItemOk, hq.2] at a
      exact { h with
        itemOk := forall_lt_upd h.itemOk (by simp [ItemOk, a])
        wqNd := e3
        sqNd := nd.2
        place := h.place_move (· = .sq) (fun _ _ q => q.unique hq.2) hq.1 fun p => by
          cases p with
          | wq => simp [holds, Item.inPlace, e2]
          | sq => simp +contextual [holds, Item.inPlace, e1, nd.1]
          | got t' | inw t' =>
            by_cases e : t' = t
            · simp only [holds, e, upd_same, he.noGot, he.noInw]
              simp +contextual [Item.inPlace, WPhase.gotItem, WPhase.inwItem, eq_comm]
            · simp [holds, Item.inPlace, upd, e, Ne.symm e]
          | _ => simp [holds, Item.inPlace] }
  | @subSlowM l _ _ _ =>
    dsimp only
    -- the three submit cases differ in the queue the request joins and in whether a waiter is signalled
    exact { h with
      itemOk := forall_lt_upd h.itemOk (by simp [ItemOk, Item.fresh]) hn
      sqNd := nodup_snoc h.sqNd fun p => Nat.lt_irrefl _ ((h.sq _).mp p).1
      lqNd := lqNd (h.lqNd l)
      lqTop := lqTop (h.lqTop l)
      place := h.place_move (· = .sq) (fun a => absurd a (Nat.lt_irrefl _)) (Nat.lt_succ_self _) (fun p => by
        cases p with
        | lq l' | cm l' => by_cases e : l' = l <;> simp [holds, Item.inPlace, Item.fresh, upd, e, LoopSt.has]
        | _ => simp +contextual [holds, Item.inPlace, Item.fresh]) hn }
  | @subSlow l _ _ _ hm hs =>
    dsimp only
    refine InvC.signalled ?_ hs
    exact { h with
      itemOk := forall_lt_upd h.itemOk (by simp [ItemOk, Item.fresh]) hn
      wqNd := nodup_snoc h.wqNd hm
      sqNd := nodup_snoc h.sqNd fun p => Nat.lt_irrefl _ ((h.sq _).mp p).1
      lqNd := lqNd (h.lqNd l)
      lqTop := lqTop (h.lqTop l)
      place := h.place_move (· = .sq) (fun a => absurd a (Nat.lt_irrefl _)) (Nat.lt_succ_self _) (fun p => by
        cases p with
        | lq l' | cm l' => by_cases e : l' = l <;> simp [holds, Item.inPlace, Item.fresh, upd, e, LoopSt.has]
        | _ => simp +contextual [holds, Item.inPlace, Item.fresh]) hn }
  | @subFast l _ _ _ _ hk hs =>
    dsimp only
    refine InvC.signalled ?_ hs
    exact { h with
      itemOk := forall_lt_upd h.itemOk (by simp [ItemOk, Item.fresh, hk]) hn
      wqNd := nodup_snoc h.wqNd fun p => Nat.lt_irrefl _ ((h.wq _).mp p).1
      lqNd := lqNd (h.lqNd l)
      lqTop := lqTop (h.lqTop l)
      place := h.place_move (· = .wq) (fun a => absurd a (Nat.lt_irrefl _)) (Nat.lt_succ_self _) (fun p => by
        cases p with
        | lq l' | cm l' => by_cases e : l' = l <;> simp [holds, Item.inPlace, Item.fresh, upd, e, LoopSt.has]
        | _ => simp +contextual [holds, Item.inPlace, Item.fresh]) hn }
  | @can1Ok l i _ hc hi hl hd hlk hw =>
    dsimp only
    have key := (h.itemOk i hi).cancel hd fun p => by simpa [hc] using (h.cm l i).mpr ⟨hi, p, hl⟩
    have hA := key.1.mp ⟨hlk, hw⟩
    have nd := List.nodup_append.mp (h.lqNd l)
    exact { h with
      itemOk := forall_lt_upd h.itemOk (key.2 hlk hw).2
      wqNd := h.wqNd.erase _
      sqNd := h.sqNd.erase _
      lqNd := lqNd ((h.lqNd l).sublist (List.Sublist.append (List.erase_sublist ..) (List.erase_sublist ..)))
      lqTop := lqTop fun p => by rw [h.lqTop l p]; rfl
      place := h.place_move (fun p => p = .wq ∨ p = .sq ∨ p = .lq l)
        (fun _ p q => by
          rcases hA with e | e | e
          · exact .inl (q.unique e)
          · exact .inr (.inl (q.unique e))
          · exact .inr (.inr (q.unique ⟨e.1, hl⟩))) hi fun p => by
        cases p with
        | wq => simp +contextual [holds, Item.inPlace, h.wqNd.mem_erase_iff]
        | sq => simp +contextual [holds, Item.inPlace, h.sqNd.mem_erase_iff]
        | lq l' | cm l' =>
          by_cases e : l' = l
          · simp +contextual [holds, Item.inPlace, e, LoopSt.has, hc, hl, nd.1.mem_erase_iff, nd.2.1.mem_erase_iff,
              eq_comm]
          · simp [holds, Item.inPlace, upd, e, hl, Ne.symm e]
        | _ => simp [holds, Item.inPlace] }

end UvModel.Tpool
