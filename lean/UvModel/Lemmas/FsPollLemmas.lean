import UvModel.FsPoll
/-! The fs_poll model keeps `Inv` because every operation is a rewrite of one context (`Inv.setCtx`) or of
    one handle (`Inv.setH`), or links/unlinks one context; and every step except poll_cb of `c` itself is
    `Quiet c`, from which the callback bookkeeping (`PCat`) and the silence of dead contexts follow. -/
namespace UvModel.FsPoll

@[simp] theorem upd_same {α} (f : Nat → α) (i : Nat) (v : α) : upd f i v i = v := if_pos rfl
theorem upd_ne {α} (f : Nat → α) {i j : Nat} (v : α) (h : j ≠ i) : upd f i v j = f j := if_neg h
@[grind =] theorem upd_apply {α} (f : Nat → α) (i j : Nat) (v : α) : upd f i v j = if j = i then v else f j := rfl

@[simp] theorem upd_upd {α} (f : Nat → α) (i : Nat) (a b : α) : upd (upd f i a) i b = upd f i b := by
  funext j; simp only [upd]; split <;> rfl

theorem upd_proj {α β} (g : α → β) {f : Nat → α} {i : Nat} {v : α} (h : g v = g (f i)) (j : Nat) :
    g (upd f i v j) = g (f j) := by
  by_cases e : j = i
  · rw [e, upd_same, h]
  · rw [upd_ne f v e]

/-- the structural invariant of every reachable state -/
structure Inv (s : S) : Prop where
  noErr : s.err = false
  chainWf : ∀ h c, c ∈ (s.hs h).chain → c < s.nctx ∧ (s.ctxs c).handle = h ∧ (s.ctxs c).freed = false
  inChain : ∀ c, c < s.nctx → (s.ctxs c).freed = false → c ∈ (s.hs (s.ctxs c).handle).chain
  nodup : ∀ h, (s.hs h).chain.Nodup
  activeHead : ∀ h, (s.hs h).active = true →
    (s.hs h).closing = false ∧ ∃ c tl, (s.hs h).chain = c :: tl ∧ (s.ctxs c).timerClosing = false
  timerLive : ∀ c, c < s.nctx → (s.ctxs c).timerActive = true → liveB s c = true
  phaseFreed : ∀ c, c < s.nctx → (s.ctxs c).freed = true →
    (s.ctxs c).statInFlight = false ∧ (s.ctxs c).timerActive = false ∧ (s.ctxs c).timerClosing = false
  phaseOne : ∀ c, c < s.nctx → (s.ctxs c).freed = false →
    ((s.ctxs c).statInFlight = true ∨ (s.ctxs c).timerActive = true ∨ (s.ctxs c).timerClosing = true)
  phaseExcl : ∀ c, c < s.nctx →
    ¬((s.ctxs c).statInFlight = true ∧ (s.ctxs c).timerActive = true) ∧
    ¬((s.ctxs c).statInFlight = true ∧ (s.ctxs c).timerClosing = true) ∧
    ¬((s.ctxs c).timerActive = true ∧ (s.ctxs c).timerClosing = true)
  closeP : ∀ h, (s.hs h).closePending = true → (s.hs h).chain = [] ∧ (s.hs h).closing = true
  closedP : ∀ h, (s.hs h).closed = true → (s.hs h).closePending = true
  closeQ : ∀ h, (s.hs h).closing = true → (s.hs h).chain = [] → (s.hs h).closePending = true

theorem Inv.congr {s s' : S} (hi : Inv s) (h1 : s'.nctx = s.nctx) (h2 : s'.ctxs = s.ctxs) (h3 : s'.hs = s.hs)
    (h4 : s'.err = s.err) : Inv s' := by
  cases s; cases s'; cases h1; cases h2; cases h3; cases h4
  exact ⟨hi.1, hi.2, hi.3, hi.4, hi.5, hi.6, hi.7, hi.8, hi.9, hi.10, hi.11, hi.12⟩

theorem inv_emit {s : S} (hi : Inv s) (o : Obs) : Inv (s.emit o) := hi.congr rfl rfl rfl rfl

theorem inv_init : Inv ({} : S) := by
  constructor <;> simp [liveB]

theorem liveB_iff {s : S} {c : Nat} : liveB s c = true ↔
    (s.hs (s.ctxs c).handle).active = true ∧ (s.hs (s.ctxs c).handle).closing = false ∧
    (s.hs (s.ctxs c).handle).chain.head? = some c := by
  simp [liveB, and_assoc]

/-- `Inv.phaseFreed`, `phaseOne`, `phaseExcl` for one context record, so that a rewritten record is checked by itself:
    a context that is not freed has exactly one phase flag set -/
structure Phase (C : Ctx) : Prop where
  freed : C.freed = true → C.statInFlight = false ∧ C.timerActive = false ∧ C.timerClosing = false
  one : C.freed = false → C.statInFlight = true ∨ C.timerActive = true ∨ C.timerClosing = true
  excl : ¬(C.statInFlight = true ∧ C.timerActive = true) ∧ ¬(C.statInFlight = true ∧ C.timerClosing = true) ∧
    ¬(C.timerActive = true ∧ C.timerClosing = true)

theorem Inv.phase {s : S} (hi : Inv s) {c : Nat} (hc : c < s.nctx) : Phase (s.ctxs c) :=
  ⟨hi.phaseFreed c hc, hi.phaseOne c hc, hi.phaseExcl c hc⟩

theorem one_flag {a b c : Bool} (h : (a && !b && !c || !a && b && !c || !a && !b && c) = true) :
    (a = true ∨ b = true ∨ c = true) ∧ ¬(a = true ∧ b = true) ∧ ¬(a = true ∧ c = true) ∧ ¬(b = true ∧ c = true) := by
  revert h; cases a <;> cases b <;> cases c <;> decide

theorem Phase.intro {C : Ctx} (hf : C.freed = false)
    (h : (C.statInFlight && !C.timerActive && !C.timerClosing || !C.statInFlight && C.timerActive && !C.timerClosing ||
      !C.statInFlight && !C.timerActive && C.timerClosing) = true) : Phase C :=
  ⟨(fun e => nomatch hf.symm.trans e), fun _ => (one_flag h).1, (one_flag h).2⟩

theorem Phase.stat {C : Ctx} (hp : Phase C) (h : C.statInFlight = true) :
    C.freed = false ∧ C.timerActive = false ∧ C.timerClosing = false :=
  ⟨Bool.eq_false_iff.2 (fun e => nomatch h.symm.trans (hp.freed e).1), Bool.eq_false_iff.2 fun e => hp.excl.1 ⟨h, e⟩,
    Bool.eq_false_iff.2 fun e => hp.excl.2.1 ⟨h, e⟩⟩

theorem Phase.timer {C : Ctx} (hp : Phase C) (h : C.timerActive = true) :
    C.freed = false ∧ C.statInFlight = false ∧ C.timerClosing = false :=
  ⟨Bool.eq_false_iff.2 (fun e => nomatch h.symm.trans (hp.freed e).2.1), Bool.eq_false_iff.2 fun e => hp.excl.1 ⟨e, h⟩,
    Bool.eq_false_iff.2 fun e => hp.excl.2.2 ⟨h, e⟩⟩

theorem Inv.setCtx {s : S} (hi : Inv s) {c : Nat} {C' : Ctx}
    (hh : C'.handle = (s.ctxs c).handle) (hf : C'.freed = (s.ctxs c).freed) (hp : Phase C')
    (hta : C'.timerActive = true → liveB s c = true) (htc : C'.timerClosing = true → liveB s c = false) :
    Inv (s.setCtx c C') := by
  have eh : ∀ c0, ((s.setCtx c C').ctxs c0).handle = (s.ctxs c0).handle := upd_proj Ctx.handle hh
  have ef : ∀ c0, ((s.setCtx c C').ctxs c0).freed = (s.ctxs c0).freed := upd_proj Ctx.freed hf
  have el : ∀ c0, liveB (s.setCtx c C') c0 = liveB s c0 := fun c0 => by simp only [liveB, eh]; rfl
  have ph : ∀ c0, c0 < s.nctx → Phase ((s.setCtx c C').ctxs c0) := fun c0 h0 => by
    by_cases e : c0 = c
    · simpa only [e, S.setCtx, upd_same] using hp
    · simpa only [S.setCtx, upd_ne _ _ e] using hi.phase h0
  refine ⟨hi.noErr, ?_, ?_, hi.nodup, ?_, ?_, fun c0 h0 => (ph c0 h0).freed, fun c0 h0 => (ph c0 h0).one,
    fun c0 h0 => (ph c0 h0).excl, hi.closeP, hi.closedP, hi.closeQ⟩
  · intro h c0 hm; rw [eh, ef]; exact hi.chainWf h c0 hm
  · intro c0 h0 h1; rw [eh]; exact hi.inChain c0 h0 (ef c0 ▸ h1)
  · intro h ha
    obtain ⟨hcl, c0, tl, hch, h0⟩ := hi.activeHead h ha
    refine ⟨hcl, c0, tl, hch, ?_⟩
    by_cases e : c0 = c
    · have hl : liveB s c = true := by
        rw [liveB_iff, ← e, (hi.chainWf h c0 (hch ▸ List.mem_cons_self)).2.1, hch]; exact ⟨ha, hcl, rfl⟩
      simp only [e, S.setCtx, upd_same]
      cases h1 : C'.timerClosing with
      | false => rfl
      | true => rw [htc h1] at hl; cases hl
    · simpa only [S.setCtx, upd_ne _ _ e] using h0
  · intro c0 h0 h1; rw [el]
    by_cases e : c0 = c
    · rw [e] at h1 ⊢; exact hta (by simpa only [S.setCtx, upd_same] using h1)
    · exact hi.timerLive c0 h0 (by simpa only [S.setCtx, upd_ne _ _ e] using h1)

/-- `Inv.closeP`, `closedP`, `closeQ` for one handle record -/
structure CloseOk (H : Handle) : Prop where
  closeP : H.closePending = true → H.chain = [] ∧ H.closing = true
  closedP : H.closed = true → H.closePending = true
  closeQ : H.closing = true → H.chain = [] → H.closePending = true

theorem Inv.closeOk {s : S} (hi : Inv s) (h : Nat) : CloseOk (s.hs h) :=
  ⟨hi.closeP h, hi.closedP h, hi.closeQ h⟩

theorem Inv.timer_handle {s : S} (hi : Inv s) {c : Nat} (hc : c < s.nctx) (ht : (s.ctxs c).timerActive = true) :
    (s.hs (s.ctxs c).handle).active = true ∧ (s.hs (s.ctxs c).handle).closing = false ∧
    (s.hs (s.ctxs c).handle).chain.head? = some c :=
  liveB_iff.1 (hi.timerLive c hc ht)

theorem Inv.setH {s : S} (hi : Inv s) {h : Nat} {H' : Handle} (hch : H'.chain = (s.hs h).chain)
    (hact : H'.active = true → H'.closing = false ∧ (s.hs h).active = true)
    (hlive : ∀ c, c < s.nctx → (s.ctxs c).handle = h → (s.ctxs c).timerActive = true →
      H'.active = true ∧ H'.closing = false)
    (hcl : CloseOk H') : Inv (s.setH h H') := by
  have ech : ∀ h0, ((s.setH h H').hs h0).chain = (s.hs h0).chain := upd_proj Handle.chain hch
  have ok : ∀ h0, CloseOk ((s.setH h H').hs h0) := fun h0 => by
    by_cases e : h0 = h
    · simpa only [e, S.setH, upd_same] using hcl
    · simpa only [S.setH, upd_ne _ _ e] using hi.closeOk h0
  refine ⟨hi.noErr, ?_, ?_, ?_, ?_, ?_, hi.phaseFreed, hi.phaseOne, hi.phaseExcl,
    fun h0 => (ok h0).closeP, fun h0 => (ok h0).closedP, fun h0 => (ok h0).closeQ⟩
  · intro h0 c hm; rw [ech] at hm; exact hi.chainWf h0 c hm
  · intro c h0 h1; rw [ech]; exact hi.inChain c h0 h1
  · intro h0; rw [ech]; exact hi.nodup h0
  · intro h0 ha
    by_cases e : h0 = h
    · simp only [e, S.setH, upd_same] at ha ⊢
      obtain ⟨_, c, tl, hc, ht⟩ := hi.activeHead h (hact ha).2
      exact ⟨(hact ha).1, c, tl, hch.trans hc, ht⟩
    · simp only [S.setH, upd_ne _ _ e] at ha ⊢; exact hi.activeHead h0 ha
  · intro c h0 h1
    have hl := hi.timer_handle h0 h1
    rw [liveB_iff, ech]
    by_cases e : (s.ctxs c).handle = h
    · simp only [S.setH, e, upd_same]; exact ⟨(hlive c h0 e h1).1, (hlive c h0 e h1).2, e ▸ hl.2.2⟩
    · simp only [S.setH, upd_ne _ _ e]; exact hl

/-- the context for which `histOf`/`cbsOf` log an observation -/
def Obs.speaks : Obs → Option Nat
  | .res c _ true => some c
  | .cb c _ _ _ _ _ => some c
  | _ => none

/-- the context for which `statsOf`/`armsOf` log an observation -/
def Obs.acts : Obs → Option Nat
  | .stat c _ => some c
  | .arm c _ => some c
  | _ => none

theorem log_cons {o : Obs} {c : Nat} (t : List Obs) (h : o.speaks ≠ some c) :
    histOf c (o :: t) = histOf c t ∧ cbsOf c (o :: t) = cbsOf c t := by
  cases o with
  | res c' r l => cases l <;> simp_all [Obs.speaks, histOf, cbsOf]
  | _ => simp_all [Obs.speaks, histOf, cbsOf]

theorem act_cons {o : Obs} {c : Nat} (t : List Obs) (h : o.acts ≠ some c) :
    statsOf c (o :: t) = statsOf c t ∧ armsOf c (o :: t) = armsOf c t := by
  cases o <;> simp_all [Obs.acts, statsOf, armsOf]

/-- The step from `s` to `s'` passes context `c` by.  Every step does so for every context, except
    poll_cb for the context whose stat completed. -/
structure Quiet (c : Nat) (s s' : S) : Prop where
  nctx : s.nctx ≤ s'.nctx
  data : c < s.nctx → (s'.ctxs c).handle = (s.ctxs c).handle ∧ (s'.ctxs c).busy = (s.ctxs c).busy ∧
    (s'.ctxs c).statbuf = (s.ctxs c).statbuf ∧ ((s.ctxs c).statInFlight = true → (s'.ctxs c).statInFlight = true)
  fresh : s.nctx ≤ c → c < s'.nctx → (s'.ctxs c).busy = 0 ∧ (s'.ctxs c).statbuf = Stat.zero
  log : histOf c s'.trace = histOf c s.trace ∧ cbsOf c s'.trace = cbsOf c s.trace
  dead : c < s.nctx → liveB s c = false →
    liveB s' c = false ∧ statsOf c s'.trace = statsOf c s.trace ∧ armsOf c s'.trace = armsOf c s.trace

theorem quiet_of_eq {c : Nat} {s s' : S} (h1 : s'.nctx = s.nctx) (h2 : s'.ctxs = s.ctxs) (h3 : s'.hs = s.hs)
    (h4 : s'.trace = s.trace) : Quiet c s s' := by
  refine ⟨Nat.le_of_eq h1.symm, fun _ => ?_, fun a b => absurd (h1 ▸ b) (Nat.not_lt_of_le a), ?_, fun _ hd => ?_⟩
  · rw [h2]; exact ⟨rfl, rfl, rfl, id⟩
  · rw [h4]; exact ⟨rfl, rfl⟩
  · rw [h4]; refine ⟨?_, rfl, rfl⟩; simpa only [liveB, h2, h3] using hd

theorem Quiet.trans {c : Nat} {a b d : S} (h1 : Quiet c a b) (h2 : Quiet c b d) : Quiet c a d := by
  refine ⟨Nat.le_trans h1.nctx h2.nctx, fun hc => ?_, fun hge hlt => ?_,
    ⟨h2.log.1.trans h1.log.1, h2.log.2.trans h1.log.2⟩, fun hc hd => ?_⟩
  · have x := h1.data hc; have y := h2.data (Nat.lt_of_lt_of_le hc h1.nctx)
    exact ⟨y.1.trans x.1, y.2.1.trans x.2.1, y.2.2.1.trans x.2.2.1, fun e => y.2.2.2 (x.2.2.2 e)⟩
  · by_cases hb : c < b.nctx
    · have x := h1.fresh hge hb; have y := h2.data hb
      exact ⟨y.2.1.trans x.1, y.2.2.1.trans x.2⟩
    · exact h2.fresh (Nat.le_of_not_lt hb) hlt
  · have x := h1.dead hc hd; have y := h2.dead (Nat.lt_of_lt_of_le hc h1.nctx) x.1
    exact ⟨y.1, y.2.1.trans x.2.1, y.2.2.trans x.2.2⟩

theorem frame_emit {s : S} (o : Obs) (c : Nat) :
    (s.emit o).nctx = s.nctx ∧ (s.emit o).ctxs c = s.ctxs c := ⟨rfl, rfl⟩

theorem quiet_emit {c : Nat} (s : S) {o : Obs} (h1 : o.speaks ≠ some c) (h2 : c < s.nctx → o.acts ≠ some c) :
    Quiet c s (s.emit o) :=
  ⟨Nat.le_refl _, fun _ => ⟨rfl, rfl, rfl, id⟩, fun a b => absurd b (Nat.not_lt_of_le a), log_cons _ h1,
    fun hc hd => ⟨hd, act_cons _ (h2 hc)⟩⟩

theorem quiet_setCtx {c : Nat} (s : S) {e : Nat} {C' : Ctx}
    (h : e ≠ c ∨ C'.handle = (s.ctxs e).handle ∧ C'.busy = (s.ctxs e).busy ∧ C'.statbuf = (s.ctxs e).statbuf ∧
      C'.statInFlight = (s.ctxs e).statInFlight) : Quiet c s (s.setCtx e C') := by
  have hd : ((s.setCtx e C').ctxs c).handle = (s.ctxs c).handle ∧ ((s.setCtx e C').ctxs c).busy = (s.ctxs c).busy ∧
      ((s.setCtx e C').ctxs c).statbuf = (s.ctxs c).statbuf ∧
      ((s.setCtx e C').ctxs c).statInFlight = (s.ctxs c).statInFlight := by
    by_cases n : c = e
    · rcases h with h | h
      · exact absurd n.symm h
      · simpa only [n, S.setCtx, upd_same] using h
    · simp [S.setCtx, upd_ne _ _ n]
  refine ⟨Nat.le_refl _, fun _ => ⟨hd.1, hd.2.1, hd.2.2.1, fun x => hd.2.2.2.trans x⟩,
    fun a b => absurd b (Nat.not_lt_of_le a), ⟨rfl, rfl⟩, fun _ hl => ⟨?_, rfl, rfl⟩⟩
  simp only [liveB, hd.1]; exact hl

theorem quiet_setH {c : Nat} (s : S) {h : Nat} {H' : Handle}
    (hl : H'.active = true → H'.closing = false → H'.chain.head? = some c → (s.ctxs c).handle = h →
      liveB s c = true) : Quiet c s (s.setH h H') := by
  refine ⟨Nat.le_refl _, fun _ => ⟨rfl, rfl, rfl, id⟩, fun a b => absurd b (Nat.not_lt_of_le a), ⟨rfl, rfl⟩,
    fun _ hd => ⟨?_, rfl, rfl⟩⟩
  by_cases n : (s.ctxs c).handle = h
  · cases hl' : liveB (s.setH h H') c
    · rfl
    · have := liveB_iff.1 hl'
      simp only [S.setH, n, upd_same] at this
      exact (hd.symm.trans (hl this.1 this.2.1 this.2.2 n)).symm ▸ rfl
  · simpa only [liveB, S.setH, upd_ne _ _ n] using hd

theorem quiet_note {c : Nat} (s : S) (o : Obs) (h : o.speaks = none ∧ o.acts = none) : Quiet c s (s.emit o) :=
  quiet_emit s (fun e => nomatch h.1.symm.trans e) fun _ e => nomatch h.2.symm.trans e

/-- after the step the invariant holds again, and the step passes every context by -/
def Ok (s s' : S) : Prop := Inv s' ∧ ∀ c, Quiet c s s'

theorem closeCb_ok {s : S} (hi : Inv s) (h : Nat) : Ok s (closeCb s h) := by
  unfold closeCb
  by_cases hen : ((s.hs h).closePending && !(s.hs h).closed) = true
  · simp only [hen, Bool.not_true, Bool.false_eq_true, if_false]
    exact ⟨hi.setH rfl (fun ha => ⟨(hi.activeHead h ha).1, ha⟩)
      (fun c hc e ht => e ▸ ⟨(hi.timer_handle hc ht).1, (hi.timer_handle hc ht).2.1⟩)
      ⟨(hi.closeOk h).closeP, fun _ => (Bool.and_eq_true _ _ ▸ hen).1, (hi.closeOk h).closeQ⟩,
      fun _ => quiet_setH s fun a b d n => liveB_iff.2 (n ▸ ⟨a, b, d⟩)⟩
  · simp only [hen, Bool.not_false, if_true]
    exact ⟨inv_emit hi _, fun _ => quiet_note s _ ⟨rfl, rfl⟩⟩

theorem stopCore_idle {s : S} {h : Nat} (ha : (s.hs h).active = false) : stopCore s h = s := by
  simp only [stopCore, ha, Bool.not_false, if_true]

theorem stopCore_active {s : S} {h c : Nat} {tl : List Nat} (ha : (s.hs h).active = true)
    (hch : (s.hs h).chain = c :: tl) (hf : (s.ctxs c).freed = false) :
    stopCore s h =
      (if (s.ctxs c).timerActive = true then
        (s.setCtx c { s.ctxs c with timerActive := false, timerClosing := true }).emit (.closeTimer c)
       else s).setH h { s.hs h with active := false } := by
  simp only [stopCore, ha, hch, hf, Bool.not_true, Bool.false_eq_true, if_false]

theorem stopCore_ok {s : S} (hi : Inv s) (h : Nat) :
    Inv (stopCore s h) ∧ (∀ c, Quiet c s (stopCore s h)) ∧ ((stopCore s h).hs h).active = false ∧
    ∀ c, ((stopCore s h).ctxs c).handle = (s.ctxs c).handle := by
  cases ha : (s.hs h).active
  · rw [stopCore_idle ha]; exact ⟨hi, fun _ => quiet_of_eq rfl rfl rfl rfl, ha, fun _ => rfl⟩
  obtain ⟨hcl, c, tl, hch, htc⟩ := hi.activeHead h ha
  have hw := hi.chainWf h c (hch ▸ List.mem_cons_self)
  rw [stopCore_active ha hch hw.2.2]
  -- a context of `h` whose timer is armed is live, hence the head `c`
  have hd : ∀ c0, c0 < s.nctx → (s.ctxs c0).handle = h → (s.ctxs c0).timerActive = true → c0 = c := by
    intro c0 h0 e ht
    have := (hi.timer_handle h0 ht).2.2
    rw [e, hch] at this; exact (Option.some.inj this).symm
  have ok := hi.closeOk h
  by_cases hta : (s.ctxs c).timerActive = true
  · simp only [hta, if_true]
    refine ⟨?_, fun c' => .trans (.trans (quiet_setCtx s (e := c)
        (C' := { s.ctxs c with timerActive := false, timerClosing := true }) (.inr ⟨rfl, rfl, rfl, rfl⟩))
        (quiet_note _ _ ⟨rfl, rfl⟩)) (quiet_setH _ fun e => nomatch e), by simp [S.setH],
      upd_proj Ctx.handle (f := s.ctxs) (i := c) (v := { s.ctxs c with timerActive := false, timerClosing := true }) rfl⟩
    -- park `c` in the stat phase, which asks nothing of the handle, while the handle is stopped
    have hp := hi.phase hw.1
    have h1 := hi.setCtx (c := c) (C' := { s.ctxs c with timerActive := false, statInFlight := true }) rfl rfl
      (.intro hw.2.2 (by simp [htc])) (fun e => nomatch e) (fun e => nomatch htc.symm.trans e)
    have h2 := h1.setH (h := h) (H' := { s.hs h with active := false }) rfl (fun e => nomatch e)
      (fun c0 h0 e ht => by
        by_cases ec : c0 = c
        · subst ec; simp [S.setCtx] at ht
        · simp only [S.setCtx, upd_ne _ _ ec] at e ht; exact absurd (hd c0 h0 e ht) ec)
      ⟨ok.1, ok.2, ok.3⟩
    have h3 := h2.setCtx (c := c) (C' := { s.ctxs c with timerActive := false, timerClosing := true })
      (by simp [S.setCtx, S.setH]) (by simp [S.setCtx, S.setH])
      (.intro hw.2.2 (by simp [(hp.timer hta).2.1]))
      (fun e => nomatch e) (fun _ => by simp [liveB, S.setCtx, S.setH, hw.2.1])
    simpa only [S.setCtx, S.setH, S.emit, upd_upd] using inv_emit h3 (.closeTimer c)
  · simp only [hta, Bool.false_eq_true, if_false]
    exact ⟨hi.setH rfl (fun e => nomatch e) (fun c0 h0 e ht => absurd (hd c0 h0 e ht ▸ ht) hta)
      ⟨ok.1, ok.2, ok.3⟩, fun _ => quiet_setH _ (fun e => nomatch e),
      by simp [S.setH], fun _ => rfl⟩

theorem stopCore_closing (s : S) (h : Nat) :
    stopCore (s.setH h { s.hs h with closing := true }) h =
      (stopCore s h).setH h { (stopCore s h).hs h with closing := true } := by
  cases ha : (s.hs h).active
  · simp [stopCore, S.setH, ha]
  cases hch : (s.hs h).chain with
  | nil => simp [stopCore, S.setH, S.fail, ha, hch]
  | cons c tl =>
    cases hf : (s.ctxs c).freed <;> cases hta : (s.ctxs c).timerActive <;>
      simp [stopCore, S.setH, S.setCtx, S.emit, S.fail, ha, hch, hf, hta]

theorem apiClose_ok {s : S} (hi : Inv s) (h : Nat) : Ok s (apiClose s h) := by
  unfold apiClose
  by_cases hc : (s.hs h).closing = true
  · rw [if_pos hc]; exact ⟨inv_emit hi _, fun _ => quiet_note s _ ⟨rfl, rfl⟩⟩
  rw [if_neg hc]
  dsimp only
  rw [stopCore_closing]
  obtain ⟨hi2, q2, hina, _⟩ := stopCore_ok hi h
  generalize stopCore s h = s2 at hi2 q2 hina
  have q3 : ∀ c, Quiet c s2 (s2.setH h { s2.hs h with closing := true }) := fun c =>
    quiet_setH _ fun _ e => by cases e
  refine ⟨inv_emit ?_ _, fun c => ((q2 c).trans ((q3 c).trans ?_)).trans (quiet_note _ _ ⟨rfl, rfl⟩)⟩
  · have ok := hi2.closeOk h
    have hlive : ∀ c, c < s2.nctx → (s2.ctxs c).handle = h → (s2.ctxs c).timerActive = true →
        (s2.hs h).active = true ∧ False := fun c hc e ht =>
      absurd (e ▸ (hi2.timer_handle hc ht).1) (by simp [hina])
    simp only [S.setH, upd_same]
    cases he : (s2.hs h).chain.isEmpty
    · simp only [Bool.false_eq_true, if_false]
      exact hi2.setH rfl (fun e => nomatch hina.symm.trans e) (fun c hc e ht => (hlive c hc e ht).2.elim)
        ⟨fun e => ⟨(ok.closeP e).1, rfl⟩, ok.closedP, fun _ e => nomatch he.symm.trans (List.isEmpty_iff.2 e)⟩
    · simp only [if_true, upd_upd]
      exact hi2.setH rfl (fun e => nomatch hina.symm.trans e) (fun c hc e ht => (hlive c hc e ht).2.elim)
        ⟨fun _ => ⟨List.isEmpty_iff.1 he, rfl⟩, fun _ => rfl, fun _ _ => rfl⟩
  · split
    · exact quiet_setH _ fun _ e => by simp [S.setH] at e
    · exact quiet_of_eq rfl rfl rfl rfl

theorem apiStart_ok {s : S} (hi : Inv s) (h cb p iv : Nat) : Ok s (apiStart s h cb p iv) := by
  unfold apiStart
  by_cases hc : (s.hs h).closing = true
  · rw [if_pos hc]; exact ⟨inv_emit hi _, fun _ => quiet_note s _ ⟨rfl, rfl⟩⟩
  by_cases ha : (s.hs h).active = true
  · rw [if_neg hc, if_pos ha]; exact ⟨inv_emit hi _, fun _ => quiet_note s _ ⟨rfl, rfl⟩⟩
  rw [if_neg hc, if_neg ha]
  refine ⟨inv_emit (inv_emit ?_ _) _, fun c => .trans
    ⟨Nat.le_succ _, fun hc => ?_, fun hge hlt => ?_, log_cons _ (by simp [Obs.speaks]), fun hc hd => ⟨?_, ?_⟩⟩
    (quiet_note _ _ ⟨rfl, rfl⟩)⟩
  · have hlt : ∀ h0 c0, c0 ∈ (s.hs h0).chain → c0 ≠ s.nctx := fun h0 c0 hm => Nat.ne_of_lt (hi.chainWf h0 c0 hm).1
    have hp : (s.hs h).closePending = false := by
      cases e : (s.hs h).closePending
      · rfl
      · exact absurd (hi.closeP h e).2 hc
    -- The new context `s.nctx` is the head of `h`'s chain, in the stat phase, and by `hlt` in no chain of `s`;
    -- `h` was neither active nor closing, hence (`hp`) not close-pending.  Each conjunct is its old self for the
    -- contexts below `s.nctx` and the handles other than `h`, and one of these facts at the new context or at `h`.
    refine ⟨hi.noErr, ?_, ?_, ?_, ?_, ?_, ?_, ?_, ?_, ?_, ?_, ?_⟩ <;> simp only [liveB]
    · have := hi.chainWf; grind
    · have := hi.inChain; grind
    · have := hi.nodup; grind
    · have := hi.activeHead; grind
    · have := hi.timerLive; simp only [liveB] at this; grind
    · have := hi.phaseFreed; grind
    · have := hi.phaseOne; grind
    · have := hi.phaseExcl; grind
    · have := hi.closeP; grind
    · have := hi.closedP; grind
    · have := hi.closeQ; grind
  · simp [S.emit, upd_ne _ _ (Nat.ne_of_lt hc)]
  · cases Nat.le_antisymm (Nat.le_of_lt_succ hlt) hge
    simp [S.emit, Stat.zero]
  · simp only [liveB, S.emit, upd_ne _ _ (Nat.ne_of_lt hc)] at hd ⊢
    by_cases n : (s.ctxs c).handle = h
    · simp [n, Nat.ne_of_gt hc]
    · simpa only [upd_ne _ _ n] using hd
  · exact act_cons _ fun e => Nat.ne_of_gt hc (Option.some.inj e)

theorem handle_open {s : S} (hi : Inv s) {c : Nat} (hc : c < s.nctx) (hf : (s.ctxs c).freed = false) :
    (s.hs (s.ctxs c).handle).closed = false ∧ (s.hs (s.ctxs c).handle).closePending = false := by
  have hm := hi.inChain c hc hf
  cases hp : (s.hs (s.ctxs c).handle).closePending
  · refine ⟨?_, rfl⟩
    cases hcl : (s.hs (s.ctxs c).handle).closed
    · rfl
    · exact (hp.symm.trans (hi.closedP _ hcl)).symm
  · rw [(hi.closeP _ hp).1] at hm; cases hm

/-- the three unlink branches of timer_close_cb (fs-poll.c:256-261) are one `List.erase` -/
theorem timerClosed_eq {s : S} (hi : Inv s) {c : Nat} (hc : c < s.nctx) (htc : (s.ctxs c).timerClosing = true)
    (hf : (s.ctxs c).freed = false) :
    timerClosed s c =
      (s.setH (s.ctxs c).handle { s.hs (s.ctxs c).handle with
          chain := (s.hs (s.ctxs c).handle).chain.erase c,
          closePending := ((s.hs (s.ctxs c).handle).chain.erase c).isEmpty && (s.hs (s.ctxs c).handle).closing }).setCtx c
        { s.ctxs c with freed := true, timerClosing := false } := by
  have ho := handle_open hi hc hf
  have hm := hi.inChain c hc hf
  simp only [timerClosed, hc, htc, hf, ho.1, ho.2, decide_true, Bool.and_self, Bool.not_false, Bool.not_true,
    Bool.false_eq_true, if_false]
  cases hch : (s.hs (s.ctxs c).handle).chain with
  | nil => rw [hch] at hm; cases hm
  | cons hd tl =>
    by_cases e : hd = c
    · subst e; simp only [if_true, List.erase_cons_head]
      cases (tl.isEmpty && (s.hs (s.ctxs hd).handle).closing) <;> simp
    · have : c ∈ tl := by rw [hch] at hm; exact (List.mem_cons.1 hm).resolve_left (Ne.symm e)
      simp [e, this, List.erase_cons_tail]

theorem head?_erase_of_ne {l : List Nat} {a c : Nat} (h : l.head? = some a) (hne : a ≠ c) :
    (l.erase c).head? = some a := by
  cases l with
  | nil => cases h
  | cons x t => cases h; simp [List.erase_cons_tail, hne]

theorem timerClosed_ok {s : S} (hi : Inv s) (e : Nat) : Ok s (timerClosed s e) := by
  by_cases hen : (decide (e < s.nctx) && (s.ctxs e).timerClosing && !(s.ctxs e).freed) = true
  · simp only [Bool.and_eq_true, decide_eq_true_eq, Bool.not_eq_true'] at hen
    obtain ⟨⟨hc, htc⟩, hf⟩ := hen
    rw [timerClosed_eq hi hc htc hf]
    refine ⟨?_, fun c => (quiet_setH s fun a b d n => ?_).trans (quiet_setCtx _ (.inr ⟨rfl, rfl, rfl, rfl⟩))⟩
    · have hp := hi.phase hc
      have hm := hi.inChain e hc hf
      have hnd := hi.nodup (s.ctxs e).handle
      generalize (s.ctxs e).handle = h at *
      -- `e` is in `h`'s chain (`hm`) exactly once (`hnd`), with only `timerClosing` set (`hp`): erasing it keeps
      -- the other members and, `e` not being the head of an active handle, the head; no other chain holds `e`;
      -- `closePending` is set exactly when the chain has become empty on a closing handle.
      refine ⟨hi.noErr, ?_, ?_, ?_, ?_, ?_, ?_, ?_, ?_, ?_, ?_, ?_⟩ <;> simp only [liveB, S.setCtx, S.setH]
      · have := hi.chainWf; grind [List.Nodup.mem_erase_iff]
      · have := hi.inChain; grind [List.Nodup.mem_erase_iff]
      · have := hi.nodup; grind [List.Nodup.erase]
      · have := hi.activeHead; grind
      · have := hi.timerLive; simp only [liveB] at this; have := hp.excl; grind [head?_erase_of_ne]
      · have := hi.phaseFreed; have := hp.excl; grind
      · have := hi.phaseOne; grind
      · have := hi.phaseExcl; grind
      · have := hi.closeP; grind
      · have := hi.closedP; have := hi.closeP; grind
      · have := hi.closeQ; grind
    · -- the head of an active handle's chain is not closing its timer, so unlinking `e` keeps the head
      obtain ⟨_, c0, tl, hch, htc0⟩ := hi.activeHead _ a
      have ne : c0 ≠ e := fun x => nomatch htc0.symm.trans (x.symm ▸ htc : (s.ctxs c0).timerClosing = true)
      rw [liveB_iff, n]
      refine ⟨a, b, ?_⟩
      have : ((s.hs (s.ctxs e).handle).chain.erase e).head? = some c0 := head?_erase_of_ne (by rw [hch]; rfl) ne
      rw [hch]; exact (Option.some.inj (this.symm.trans d)) ▸ rfl
  · simp only [timerClosed, hen, Bool.not_false, if_true]
    exact ⟨inv_emit hi _, fun _ => quiet_note s _ ⟨rfl, rfl⟩⟩

theorem Inv.closing_dead {s : S} (hi : Inv s) {c : Nat} (htc : (s.ctxs c).timerClosing = true) :
    liveB s c = false := by
  cases hl : liveB s c
  · rfl
  · obtain ⟨ha, _, hh⟩ := liveB_iff.1 hl
    obtain ⟨_, c', tl, hch, ht⟩ := hi.activeHead _ ha
    rw [hch] at hh; cases hh
    exact nomatch ht.symm.trans htc

/-- a state satisfying the invariant in which the stat request of `c` is in flight -/
def InFlight (c : Nat) (s : S) : Prop := Inv s ∧ c < s.nctx ∧ (s.ctxs c).statInFlight = true

theorem inv_finishPoll {s : S} {c : Nat} (h : InFlight c s) : Inv (finishPoll s c) := by
  obtain ⟨hi, hc, hst⟩ := h
  have hp := (hi.phase hc).stat hst
  unfold finishPoll
  simp only [hp.2.2, Bool.false_eq_true, if_false]
  cases hl : liveB s c
  · simp only [Bool.not_false, if_true]
    apply inv_emit
    exact hi.setCtx rfl rfl (.intro hp.1 rfl) (fun e => nomatch e) (fun _ => hl)
  · simp only [Bool.not_true, Bool.false_eq_true, if_false]
    apply inv_emit
    exact hi.setCtx rfl rfl (.intro hp.1 rfl) (fun _ => hl) (fun e => nomatch e)

theorem applyOp_ok {s : S} (hi : Inv s) (o : Op) : Ok s (applyOp s o) := by
  have hi' := inv_emit hi (.api o)
  have api : ∀ c, Quiet c s (s.emit (.api o)) := fun c => quiet_note s _ ⟨rfl, rfl⟩
  unfold applyOp
  cases o with
  | start h cb p iv => exact ⟨(apiStart_ok hi' h cb p iv).1, fun c => (api c).trans ((apiStart_ok hi' h cb p iv).2 c)⟩
  | stop h =>
    simp only [apiStop]
    split
    · exact ⟨inv_emit hi' _, fun c => (api c).trans (quiet_note _ _ ⟨rfl, rfl⟩)⟩
    · exact ⟨inv_emit (stopCore_ok hi' h).1 _,
        fun c => (api c).trans (((stopCore_ok hi' h).2.1 c).trans (quiet_note _ _ ⟨rfl, rfl⟩))⟩
  | close h => exact ⟨(apiClose_ok hi' h).1, fun c => (api c).trans ((apiClose_ok hi' h).2 c)⟩

theorem foldOps_ok {s : S} (hi : Inv s) (ops : List Op) : Ok s (ops.foldl applyOp s) := by
  induction ops generalizing s with
  | nil => exact ⟨hi, fun _ => quiet_of_eq rfl rfl rfl rfl⟩
  | cons o t ih =>
    have h1 := applyOp_ok hi o
    have h2 := ih h1.1
    exact ⟨h2.1, fun c => (h1.2 c).trans (h2.2 c)⟩

theorem runCb_ok (sc : Script) {s : S} (hi : Inv s) : Ok s (runCb sc s) :=
  have h := foldOps_ok (s := { s with ncb := s.ncb + 1 }) (hi.congr rfl rfl rfl rfl) (sc s.ncb)
  ⟨h.1, fun c => .trans (quiet_of_eq (s' := { s with ncb := s.ncb + 1 }) rfl rfl rfl rfl) (h.2 c)⟩

theorem noteResult_eq (C : Ctx) (f : Bool) (r : Res) :
    ∃ b sb, noteResult C f r = { C with busy := b, statbuf := sb } := by
  cases r with
  | ok st => exact ⟨_, _, rfl⟩
  | err e =>
    cases f
    · exact ⟨C.busy, C.statbuf, rfl⟩
    · exact ⟨_, _, rfl⟩

/-- poll_cb up to the label `out:`: log the result, make the callback if `fired`, note the result if `live` -/
def pollCb (sc : Script) (s : S) (c : Nat) (r : Res) (live fired : Bool) : S :=
  let s1 := s.emit (.res c r live)
  let s2 := if fired then
      runCb sc (s1.emit (.cb c (s.ctxs c).handle (s.ctxs c).cb r.status (s.ctxs c).statbuf r.curr))
    else s1
  if live then s2.setCtx c (noteResult (s2.ctxs c) fired r) else s2

/-- poll_cb on an enabled event in a state satisfying the invariant: none of the asserts can fail -/
theorem statDone_eq (sc : Script) {s : S} (hi : Inv s) {c : Nat} (hc : c < s.nctx)
    (hst : (s.ctxs c).statInFlight = true) (r : Res) :
    statDone sc s c r =
      finishPoll (pollCb sc s c r (liveB s c) (liveB s c && fires (s.ctxs c).busy (s.ctxs c).statbuf r)) c := by
  have hf := ((hi.phase hc).stat hst).1
  simp [statDone, pollCb, hc, hst, hf, handle_open hi hc hf]

theorem pollCb_inv (sc : Script) {s : S} {c : Nat} (h : InFlight c s) (r : Res) (live fired : Bool) :
    InFlight c (pollCb sc s c r live fired) := by
  have h1 : InFlight c (s.emit (.res c r live)) := ⟨inv_emit h.1 _, h.2⟩
  have note : ∀ s2 : S, InFlight c s2 → InFlight c (s2.setCtx c (noteResult (s2.ctxs c) fired r)) :=
    fun s2 ⟨hi2, hc2, hst2⟩ =>
    have hp := hi2.phase hc2
    have ⟨b, sb, e⟩ := noteResult_eq (s2.ctxs c) fired r
    ⟨e ▸ hi2.setCtx rfl rfl ⟨hp.freed, hp.one, hp.excl⟩ (hi2.timerLive c hc2) hi2.closing_dead, hc2,
      by rw [e]; simpa only [S.setCtx, upd_same] using hst2⟩
  have cb : ∀ o, InFlight c (runCb sc ((s.emit (.res c r live)).emit o)) := fun o =>
    have ok := runCb_ok sc (inv_emit h1.1 o)
    ⟨ok.1, Nat.lt_of_lt_of_le h.2.1 (ok.2 c).nctx, ((ok.2 c).data h.2.1).2.2.2 h.2.2⟩
  unfold pollCb
  cases live <;> cases fired
  · exact h1
  · exact cb _
  · exact note _ h1
  · exact note _ (cb _)

theorem pollCb_quiet (sc : Script) {s : S} (hi : Inv s) {c c' : Nat} (r : Res) (live f : Bool)
    (h : c ≠ c' ∨ live = false) : Quiet c' s (pollCb sc s c r live (live && f)) := by
  have q1 : Quiet c' s (s.emit (.res c r live)) := by
    refine quiet_emit s (fun e => ?_) fun _ e => nomatch e
    cases live
    · cases e
    · exact h.elim (fun n => n (Option.some.inj e)) (fun x => nomatch x)
  unfold pollCb
  cases live
  · exact q1
  have n := h.resolve_right (fun x => nomatch x)
  refine .trans ?_ (quiet_setCtx _ (.inl n))
  cases f
  · exact q1
  · exact (q1.trans (quiet_emit _ (o := .cb c _ _ _ _ _) (fun e => n (Option.some.inj e)) fun _ => by simp [Obs.acts])).trans
      ((runCb_ok sc (inv_emit (inv_emit hi _) (.cb c _ _ _ _ _))).2 c')

theorem timerFire_eq {s : S} (hi : Inv s) (c : Nat) :
    timerFire s c =
      if (decide (c < s.nctx) && (s.ctxs c).timerActive && decide ((s.ctxs c).due ≤ s.now)) = true then
        (s.setCtx c { s.ctxs c with timerActive := false, startTime := s.now, statInFlight := true }).emit
          (.stat c (s.ctxs c).path)
      else s.emit .badEvent := by
  unfold timerFire
  by_cases hen : (decide (c < s.nctx) && (s.ctxs c).timerActive && decide ((s.ctxs c).due ≤ s.now)) = true
  · rw [if_pos hen]
    simp only [hen, Bool.not_true, Bool.false_eq_true, if_false]
    simp only [Bool.and_eq_true, decide_eq_true_eq] at hen
    have hp := (hi.phase hen.1.1).timer hen.1.2
    have hg : ((s.ctxs c).freed || (s.hs (s.ctxs c).handle).closed || (s.ctxs c).statInFlight ||
        !((s.hs (s.ctxs c).handle).chain.head? == some c)) = false := by
      simp [hp.1, hp.2.1, (handle_open hi hen.1.1 hp.1).1, (hi.timer_handle hen.1.1 hen.1.2).2.2]
    rw [hg, if_neg Bool.false_ne_true]
  · rw [if_neg hen]; simp only [hen, Bool.not_false, if_true]

theorem timerFire_ok {s : S} (hi : Inv s) (e : Nat) : Ok s (timerFire s e) := by
  rw [timerFire_eq hi]
  split
  · next hen =>
    simp only [Bool.and_eq_true, decide_eq_true_eq] at hen
    have hp := (hi.phase hen.1.1).timer hen.1.2
    refine ⟨inv_emit ?_ _, fun c => ⟨Nat.le_refl _, fun _ => ?_,
      fun a b => absurd b (Nat.not_lt_of_le a), log_cons _ (by simp [Obs.speaks]), fun hc hd => ?_⟩⟩
    · exact hi.setCtx rfl rfl (.intro hp.1 (by simp [hp.2.2])) (fun x => nomatch x) (fun x => nomatch hp.2.2.symm.trans x)
    · by_cases n : c = e
      · simp [S.emit, S.setCtx, n]
      · simp [S.emit, S.setCtx, upd_ne _ _ n]
    · have n : e ≠ c := fun x => by
        have := hi.timerLive e hen.1.1 hen.1.2; rw [x, hd] at this; cases this
      exact ⟨((quiet_setCtx s (.inl n)).dead hc hd).1, act_cons _ (by simpa [Obs.acts] using n)⟩
  · exact ⟨inv_emit hi _, fun _ => quiet_note s _ ⟨rfl, rfl⟩⟩

theorem statbufEq_iff (a b : Stat) : statbufEq a b = true ↔ a = b := by
  cases a; cases b; simp [statbufEq]; grind

theorem status_err_neg (e : Nat) : (Res.err e).status < 0 := by
  show -((e : Int) + 1) < 0
  omega

theorem status_err_inj (e f : Nat) : (Res.err e).status = (Res.err f).status ↔ e = f := by
  show -((e : Int) + 1) = -((f : Int) + 1) ↔ e = f
  omega

theorem fires_eq_reported (hist : List Res) (r : Res) :
    fires (busyOf hist) (lastOk hist) r = reported hist r := by
  cases r with
  | err e =>
    have hn := status_err_neg e
    cases hist with
    | nil => simp only [fires, busyOf, reported]; simp; omega
    | cons p t =>
      cases p with
      | ok st => simp only [fires, busyOf, reported, differ]; simp; omega
      | err f =>
        have := status_err_inj f e
        simp only [fires, busyOf, reported, differ]
        rw [Bool.eq_iff_iff]; simp only [bne_iff_ne, ne_eq]; exact not_congr this
  | ok st =>
    cases hist with
    | nil => simp [fires, busyOf, reported]
    | cons p t =>
      cases p with
      | ok st' => simp [fires, busyOf, reported, differ, lastOk]
      | err f =>
        have hn := status_err_neg f
        simp only [fires, busyOf, reported, differ]; simp
        exact ⟨by omega, Or.inl (decide_eq_true hn)⟩

theorem noteResult_spec (C : Ctx) (hist : List Res) (r : Res)
    (hb : C.busy = busyOf hist) (hs : C.statbuf = lastOk hist) :
    (noteResult C (reported hist r) r).busy = busyOf (r :: hist) ∧
    (noteResult C (reported hist r) r).statbuf = lastOk (r :: hist) := by
  cases r with
  | ok st => simp [noteResult, busyOf, lastOk]
  | err e =>
    have := fires_eq_reported hist (.err e)
    simp only [noteResult, busyOf, lastOk]
    by_cases hr : reported hist (.err e) = true
    · simp [hr, hs]
    · simp only [hr, Bool.false_eq_true, if_false]
      refine ⟨?_, hs⟩
      rw [← this] at hr
      simp [fires, ← hb] at hr
      exact hr

/-- poll_chain at `c`, with the bookkeeping that carries it: the callbacks of `c` are the prescribed ones, and
    `busy_polling`/`statbuf` hold what `busyOf`/`lastOk` say of the results seen; nothing is logged for a slot not yet
    allocated -/
def PCat (s : S) (c : Nat) : Prop :=
  (c < s.nctx → cbsOf c s.trace = specCbs (histOf c s.trace) ∧
      (s.ctxs c).busy = busyOf (histOf c s.trace) ∧ (s.ctxs c).statbuf = lastOk (histOf c s.trace)) ∧
  (s.nctx ≤ c → cbsOf c s.trace = [] ∧ histOf c s.trace = [])

theorem pcat_transfer {s s' : S} {c : Nat} (hn : s.nctx ≤ s'.nctx)
    (hl : histOf c s'.trace = histOf c s.trace ∧ cbsOf c s'.trace = cbsOf c s.trace)
    (hold : c < s.nctx → (s'.ctxs c).busy = (s.ctxs c).busy ∧ (s'.ctxs c).statbuf = (s.ctxs c).statbuf)
    (hnew : s.nctx ≤ c → c < s'.nctx → (s'.ctxs c).busy = 0 ∧ (s'.ctxs c).statbuf = Stat.zero)
    (hp : PCat s c) : PCat s' c := by
  unfold PCat at *
  rw [hl.1, hl.2]
  constructor
  · intro hc'
    by_cases hc : c < s.nctx
    · have := hp.1 hc; have ho := hold hc
      exact ⟨this.1, ho.1.trans this.2.1, ho.2.trans this.2.2⟩
    · have hge : s.nctx ≤ c := Nat.le_of_not_lt hc
      have := hp.2 hge; have hw := hnew hge hc'
      rw [this.1, this.2]
      exact ⟨by simp [specCbs], by simp [hw.1, busyOf], by simp [hw.2, lastOk]⟩
  · intro hc'
    exact hp.2 (Nat.le_trans hn hc')

theorem pcat_quiet {s s' : S} {c : Nat} (q : Quiet c s s') (hp : PCat s c) : PCat s' c :=
  pcat_transfer q.nctx q.log (fun hc => ⟨(q.data hc).2.1, (q.data hc).2.2.1⟩) q.fresh hp

theorem frame_finishPoll (s : S) (c c' : Nat) :
    (finishPoll s c).nctx = s.nctx ∧
    (histOf c' (finishPoll s c).trace = histOf c' s.trace ∧ cbsOf c' (finishPoll s c).trace = cbsOf c' s.trace) ∧
    ((finishPoll s c).ctxs c').busy = (s.ctxs c').busy ∧
    ((finishPoll s c).ctxs c').statbuf = (s.ctxs c').statbuf := by
  unfold finishPoll
  by_cases h1 : (s.ctxs c).timerClosing = true <;> by_cases h2 : liveB s c = true <;>
    by_cases h3 : c' = c <;>
    simp [h1, h2, h3, S.fail, S.setCtx, S.emit, histOf, cbsOf, upd_apply]

theorem pcat_finishPoll {s : S} (c : Nat) {c' : Nat} (hp : PCat s c') : PCat (finishPoll s c) c' := by
  have fr := frame_finishPoll s c c'
  exact pcat_transfer (Nat.le_of_eq fr.1.symm) fr.2.1 (fun _ => fr.2.2)
    (fun h1 h2 => absurd (fr.1 ▸ h2) (Nat.not_lt_of_le h1)) hp

theorem pcat_init (c : Nat) : PCat ({} : S) c := by simp [PCat, histOf, cbsOf]

/-- what old_ctx_dead_after_restart says of one stretch of the run -/
def Silent (c : Nat) (s s' : S) : Prop :=
  liveB s' c = false ∧ cbsOf c s'.trace = cbsOf c s.trace ∧
  statsOf c s'.trace = statsOf c s.trace ∧ armsOf c s'.trace = armsOf c s.trace

theorem Silent.trans {c : Nat} {a b d : S} (h1 : Silent c a b) (h2 : Silent c b d) : Silent c a d :=
  ⟨h2.1, h2.2.1.trans h1.2.1, h2.2.2.1.trans h1.2.2.1, h2.2.2.2.trans h1.2.2.2⟩

theorem Quiet.silent {c : Nat} {s s' : S} (q : Quiet c s s') (hc : c < s.nctx) (hd : liveB s c = false) :
    Silent c s s' :=
  ⟨(q.dead hc hd).1, q.log.2, (q.dead hc hd).2⟩

theorem silent_finishPoll {s : S} (e : Nat) {c : Nat} (hd : liveB s c = false) : Silent c s (finishPoll s e) := by
  unfold finishPoll Silent
  by_cases h1 : (s.ctxs e).timerClosing = true <;> by_cases h2 : liveB s e = true <;> by_cases h3 : e = c
  all_goals (try subst h3)
  all_goals (try (rw [hd] at h2; cases h2))
  all_goals
    simp only [h1, h2, S.fail, S.setCtx, S.emit, if_true, if_false, Bool.not_true, Bool.not_false, Bool.false_eq_true]
    refine ⟨?_, by simp [cbsOf], by simp [statsOf], by simp [armsOf, *]⟩
    simp only [liveB] at hd ⊢
    grind

/-- what a step hands on: the invariant, the bookkeeping of every context, and for a context that is
    not live that it stays so and silent (and `nctx` does not shrink, so that it stays a context) -/
structure Good (s s' : S) : Prop where
  inv : Inv s'
  pcat : ∀ c, PCat s c → PCat s' c
  dead : ∀ c, c < s.nctx → liveB s c = false → s.nctx ≤ s'.nctx ∧ Silent c s s'

theorem Good.of_ok {s s' : S} (h : Ok s s') : Good s s' :=
  ⟨h.1, fun c => pcat_quiet (h.2 c), fun c hc hd => ⟨(h.2 c).nctx, (h.2 c).silent hc hd⟩⟩

theorem Good.trans {a b d : S} (h1 : Good a b) (h2 : Good b d) : Good a d :=
  ⟨h2.inv, fun c hp => h2.pcat c (h1.pcat c hp), fun c hc hd =>
    have x := h1.dead c hc hd
    have y := h2.dead c (Nat.lt_of_lt_of_le hc x.1) x.2.1
    ⟨Nat.le_trans x.1 y.1, x.2.trans y.2⟩⟩

theorem statDone_good (sc : Script) {s : S} (hi : Inv s) (c : Nat) (r : Res) : Good s (statDone sc s c r) := by
  by_cases hen : (decide (c < s.nctx) && (s.ctxs c).statInFlight) = true
  · simp only [Bool.and_eq_true, decide_eq_true_eq] at hen
    obtain ⟨hc, hst⟩ := hen
    rw [statDone_eq sc hi hc hst r]
    refine ⟨inv_finishPoll (pollCb_inv sc ⟨hi, hc, hst⟩ r _ _), fun c' hp => pcat_finishPoll c ?_, fun d hd hl => ?_⟩
    · -- poll_cb passes every other context by, and `c` itself if it is not live
      by_cases hq : c ≠ c' ∨ liveB s c = false
      · exact pcat_quiet (pollCb_quiet sc hi r _ _ hq) hp
      -- the live context's own result: the callback is made iff the specification reports it
      have hcc : c = c' := Decidable.not_not.1 fun n => hq (.inl n)
      have hl : liveB s c = true := Bool.not_eq_false _ ▸ fun h => hq (.inr h)
      subst hcc
      obtain ⟨hcbs, hbusy, hsb⟩ := hp.1 hc
      have hnr := noteResult_spec (s.ctxs c) (histOf c s.trace) r hbusy hsb
      rw [hl, Bool.true_and, hbusy, hsb, fires_eq_reported]
      have hi2 := inv_emit (inv_emit hi (.res c r true))
        (.cb c (s.ctxs c).handle (s.ctxs c).cb r.status (s.ctxs c).statbuf r.curr)
      have q := (runCb_ok sc hi2).2 c
      unfold pollCb
      cases hfd : reported (histOf c s.trace) r
      · rw [hfd] at hnr
        refine ⟨fun _ => ?_, fun h => absurd hc (Nat.not_lt_of_le h)⟩
        simp only [S.setCtx, S.emit, upd_same, histOf, cbsOf, Bool.true_and, beq_self_eq_true, if_true,
          Bool.false_eq_true, if_false]
        exact ⟨by simp [specCbs, hfd, hcbs], hnr.1, hnr.2⟩
      · simp only [if_true]
        generalize runCb sc _ = s2 at q ⊢
        have d := q.data hc
        have hnr2 := noteResult_spec (s2.ctxs c) (histOf c s.trace) r (d.2.1.trans hbusy) (d.2.2.1.trans hsb)
        rw [hfd] at hnr2
        refine ⟨fun _ => ?_, fun h => absurd (Nat.lt_of_lt_of_le hc q.nctx) (Nat.not_lt_of_le h)⟩
        simp only [S.setCtx, upd_same]
        rw [q.log.1, q.log.2]
        simp only [S.emit, histOf, cbsOf, Bool.true_and, beq_self_eq_true, if_true]
        exact ⟨by simp [specCbs, hfd, hcbs, hsb], hnr2.1, hnr2.2⟩
    · -- a dead `d` is another context, or `c` itself, which then makes no callback and closes its timer
      have h : c ≠ d ∨ liveB s c = false := by
        by_cases n : c = d
        · exact .inr (n ▸ hl)
        · exact .inl n
      have q := pollCb_quiet sc hi r (liveB s c) (fires (s.ctxs c).busy (s.ctxs c).statbuf r) h
      have x := q.silent hd hl
      exact ⟨Nat.le_trans q.nctx (Nat.le_of_eq (frame_finishPoll _ c d).1.symm), x.trans (silent_finishPoll c x.1)⟩
  · simp only [statDone, hen, Bool.not_false, if_true]
    exact .of_ok ⟨inv_emit hi _, fun _ => quiet_note s _ ⟨rfl, rfl⟩⟩

theorem step_good (sc : Script) {s : S} (hi : Inv s) (i : In) : Good s (step sc s i) := by
  cases i with
  | op o => exact .of_ok (applyOp_ok hi o)
  | statDone c r => exact statDone_good sc hi c r
  | timerFire c => exact .of_ok (timerFire_ok hi c)
  | timerClosed c => exact .of_ok (timerClosed_ok hi c)
  | closeCb h => exact .of_ok (closeCb_ok hi h)
  | advance n =>
    exact .of_ok ⟨hi.congr rfl rfl rfl rfl, fun _ => quiet_of_eq rfl rfl rfl rfl⟩

theorem run_good (sc : Script) {s : S} (hi : Inv s) (ins : List In) : Good s (run sc s ins) := by
  induction ins generalizing s with
  | nil => exact .of_ok ⟨hi, fun _ => quiet_of_eq rfl rfl rfl rfl⟩
  | cons i t ih => exact (step_good sc hi i).trans (ih (step_good sc hi i).inv)

theorem inv_run (sc : Script) {s : S} (hi : Inv s) (ins : List In) : Inv (run sc s ins) :=
  (run_good sc hi ins).inv

/-- states reachable from the initial state by any inputs under any callback script -/
def Reachable (sc : Script) (s : S) : Prop := ∃ ins, s = run sc {} ins

theorem reachable_inv {sc : Script} {s : S} (h : Reachable sc s) : Inv s := by
  obtain ⟨ins, rfl⟩ := h; exact inv_run sc inv_init ins

theorem lastOk_of_newestOkCb (rs : List Res) (cb : CbRec) (h : newestOkCb (specCbs rs) = some cb) :
    cb.curr = lastOk rs := by
  induction rs with
  | nil => simp [specCbs, newestOkCb] at h
  | cons r older ih =>
    cases r with
    | err e =>
      have hs : (Res.err e).status ≠ 0 := by have := status_err_neg e; omega
      simp only [specCbs, lastOk] at h ⊢
      by_cases hr : reported older (.err e) = true
      · simp [hr, newestOkCb, hs] at h; exact ih h
      · simp [hr] at h; exact ih h
    | ok st =>
      simp only [specCbs, lastOk] at h ⊢
      by_cases hr : reported older (.ok st) = true
      · simp [hr, newestOkCb, Res.status, Res.curr] at h; rw [← h]
      · simp [hr] at h
        cases older with
        | nil => simp [specCbs, newestOkCb] at h
        | cons p t =>
          have := ih h
          cases p with
          | ok st' =>
            simp [reported, differ] at hr
            rw [this, lastOk]; exact (statbufEq_iff _ _).1 hr
          | err f => simp [reported, differ] at hr

theorem dead_pending {s : S} (hi : Inv s) {c : Nat} (hc : c < s.nctx) (hd : liveB s c = false)
    (hf : (s.ctxs c).freed = false) :
    (s.ctxs c).timerActive = false ∧ ((s.ctxs c).statInFlight = true ∨ (s.ctxs c).timerClosing = true) := by
  have hta : (s.ctxs c).timerActive = false :=
    Bool.eq_false_iff.2 fun e => nomatch hd.symm.trans (hi.timerLive c hc e)
  exact ⟨hta, (hi.phaseOne c hc hf).elim .inl fun h => h.elim (fun e => nomatch hta.symm.trans e) .inr⟩

theorem retire_stat (sc : Script) {s : S} (hi : Inv s) {c : Nat} (hc : c < s.nctx) (hd : liveB s c = false)
    (hst : (s.ctxs c).statInFlight = true) (r : Res) : ((statDone sc s c r).ctxs c).timerClosing = true := by
  have hp := (hi.phase hc).stat hst
  have hl : liveB { s with trace := Obs.res c r false :: s.trace } c = false := hd
  rw [statDone_eq sc hi hc hst r]
  simp [hd, pollCb, finishPoll, hl, S.emit, S.setCtx, hp.2.2]

theorem retire_close {s : S} (hi : Inv s) {c : Nat} (hc : c < s.nctx)
    (htc : (s.ctxs c).timerClosing = true) : ((timerClosed s c).ctxs c).freed = true := by
  have hf : (s.ctxs c).freed = false :=
    Bool.eq_false_iff.2 fun e => nomatch htc.symm.trans ((hi.phase hc).freed e).2.2
  rw [timerClosed_eq hi hc htc hf]
  simp [S.setCtx]

end UvModel.FsPoll
