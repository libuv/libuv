import UvModel.Lemmas.LoopCountInv
import UvModel.Lemmas.LoopTrace
/-!
  Trace extension through every phase of `uv_run` (used by Props/C03).

  * `ow s = (s.oracle, s.watcherLocal)`: no API call touches the future poll results; the detached watcher
    queue is only ever filtered, by `uv_idle_stop` & co. and `uv_close` of the handle in question
    (`applyOp_ow`; `OW` is the coarser relation "same oracle, sub-queue" that composes).
  * `Ext ph s0 s`: the trace of `s` extends the trace of `s0` by events that are neither `poll` events nor
    callbacks of a phase other than `ph`, and the oracle is the same.  It holds of every constructor of
    `Reach0 ph` and of `ReachC` (the poll loop itself: `LoopPollBound`).
-/
namespace UvModel.Loop.Phases
open UvModel.Loop UvModel.HandleKernels

def ow (s : State) : List PollRes × List Nat := (s.oracle, s.watcherLocal)

@[simp] theorem ow_modH (s : State) (id : Nat) (g : Handle → Handle) : ow (modH s id g) = ow s := rfl
@[simp] theorem ow_withKernel (s : State) (id : Nat) (k : HK → HK) : ow (withKernel s id k) = ow s := rfl
@[simp] theorem ow_hStop (s : State) (id : Nat) : ow (hStop s id) = ow s := rfl
@[simp] theorem ow_invalidate (s : State) (id : Nat) : ow (invalidate s id) = ow s := rfl
@[simp] theorem ow_updateTime (s : State) : ow (updateTime s) = ow s := rfl
@[simp] theorem ow_makeClosePending (s : State) (id : Nat) : ow (makeClosePending s id) = ow s := rfl
@[simp] theorem ow_asyncClose (s : State) (id : Nat) : ow (asyncClose s id) = ow s := rfl
@[simp] theorem ow_udpSendEnqueue (s : State) (id : Nat) : ow (udpSendEnqueue s id) = ow s := rfl
@[simp] theorem ow_emit (s : State) (e : Event) : ow (emit s e) = ow s := by
  unfold emit; split <;> rfl
@[simp] theorem ow_emitObs (s : State) : ow (emitObs s) = ow s := by simp [emitObs]

theorem ow_of_hview {s s' : State} (h : hview s' = hview s) : ow s' = ow s := by
  simp only [hview, Prod.mk.injEq] at h
  simp only [ow, h]

@[simp] theorem ow_completeWorks (s : State) (k : Nat) : ow (completeWorks s k) = ow s :=
  ow_of_hview (ReqStep.complete s k).hview
@[simp] theorem tr_completeWorks (s : State) (k : Nat) : tr (completeWorks s k) = tr s :=
  tr_of_hview (ReqStep.complete s k).hview

def OW (s s' : State) : Prop := s'.oracle = s.oracle ∧ s'.watcherLocal.Sublist s.watcherLocal

theorem OW.refl (s : State) : OW s s := ⟨rfl, List.Sublist.refl _⟩
theorem OW.trans {a b c : State} (h1 : OW a b) (h2 : OW b c) : OW a c :=
  ⟨h2.1.trans h1.1, h2.2.trans h1.2⟩
theorem OW.of_eq {s s' : State} (h : ow s' = ow s) : OW s s' := by
  simp only [ow, Prod.mk.injEq] at h
  exact ⟨h.1, by rw [h.2]; exact List.Sublist.refl _⟩

/-- `s'` has the future poll results of `s` and its detached watcher queue, possibly with `j` unlinked -/
def Rm (j : Nat) (s s' : State) : Prop := ow s' = ow s ∨ ow s' = (s.oracle, s.watcherLocal.filter (· != j))

theorem Rm.OW {j : Nat} {s s' : State} (h : Rm j s s') : OW s s' := by
  rcases h with h | h
  · exact OW.of_eq h
  · simp only [ow, Prod.mk.injEq] at h
    exact ⟨h.1, h.2 ▸ List.filter_sublist⟩

theorem Rm.mem {j id : Nat} {s s' : State} (h : Rm j s s') (hne : id ≠ j) (hm : id ∈ s.watcherLocal) :
    id ∈ s'.watcherLocal := by
  rcases h with h | h <;> simp only [ow, Prod.mk.injEq] at h <;> rw [h.2]
  · exact hm
  · exact List.mem_filter.2 ⟨hm, by simpa using hne⟩

end UvModel.Loop.Phases

namespace UvModel.Loop
open Phases

/-- no step of an API call touches the future poll results; the detached watcher queue is the same, or the one
    handle the call may unlink has been filtered out of it -/
theorem OpStep.rm {q : Bool} {u : Option Nat} {s s' : State} (h : OpStep q u s s') :
    ow s' = ow s ∨ ∃ j, u = some j ∧ ow s' = (s.oracle, s.watcherLocal.filter (· != j)) := by
  induction h with
  | frame h => exact .inl (ow_of_hview (hview_of_key h))
  | kern h => cases h <;> exact .inl rfl
  | req h => exact .inl (ow_of_hview h.hview)
  | unwatch s id => exact .inr ⟨id, rfl, rfl⟩
  | init s k => cases k <;> exact .inl rfl
  | close => exact .inl rfl
  | @trans _ _ a b c _ _ ih1 ih2 =>
    rcases ih1 with e1 | ⟨j, hj, e1⟩ <;> rcases ih2 with e2 | ⟨j', hj', e2⟩
    · exact .inl (e2.trans e1)
    · simp only [ow, Prod.mk.injEq] at e1
      exact .inr ⟨j', hj', by rw [e2, e1.1, e1.2]⟩
    · exact .inr ⟨j, hj, e2.trans e1⟩
    · simp only [ow, Prod.mk.injEq] at e1
      obtain rfl : j' = j := Option.some.inj (hj'.symm.trans hj)
      exact .inr ⟨j', hj, by rw [e2, e1.1, e1.2, List.filter_filter]; simp⟩

end UvModel.Loop

namespace UvModel.Loop.Phases
open UvModel.Loop UvModel.HandleKernels

/-- no API call touches the future poll results; only `uv_*_stop(j)` and `uv_close(j)` touch the detached
    watcher queue, by unlinking `j` -/
theorem applyOp_ow (s : State) (o : Op) :
    ow (applyOp s o).1 = ow s ∨ ∃ j, (o = .stop j ∨ o = .close j) ∧ Rm j s (applyOp s o).1 := by
  rcases (applyOp_step s o).rm with h | ⟨j, hj, h⟩
  · exact .inl h
  · refine .inr ⟨j, ?_, .inr h⟩
    cases o <;> simp only [unwatched, Option.some.injEq, reduceCtorEq] at hj
    · exact .inl (hj ▸ rfl)
    · exact .inr (hj ▸ rfl)

theorem OW_applyOp (s : State) (o : Op) : OW s (applyOp s o).1 := by
  rcases applyOp_ow s o with h | ⟨j, _, h⟩
  · exact OW.of_eq h
  · exact h.OW

theorem OW_stepOp (s : State) (o : Op) : OW s (stepOp s o) := by
  unfold stepOp
  have h := OW_applyOp s o
  refine OW.trans h (OW.of_eq ?_)
  simp

theorem OW_foldl (ops : List Op) (s : State) : OW s (ops.foldl stepOp s) := by
  induction ops generalizing s with
  | nil => exact OW.refl s
  | cons o t ih => exact OW.trans (OW_stepOp s o) (ih _)

/-- the trace of `s` extends the trace of `s0` by events that all satisfy `P` -/
def TrExt (P : Event → Prop) (s0 s : State) : Prop := ∃ new, s.trace = new ++ s0.trace ∧ ∀ e ∈ new, P e

theorem TrExt.refl (P : Event → Prop) (s : State) : TrExt P s s := ⟨[], rfl, by simp⟩

theorem TrExt.upd {P : Event → Prop} {s0 s s' : State} (hi : TrExt P s0 s) (h1 : s'.trace = s.trace) : TrExt P s0 s' := by
  obtain ⟨n, t, p⟩ := hi
  exact ⟨n, h1.trans t, p⟩

theorem TrExt.trans {P : Event → Prop} {a b c : State} (h1 : TrExt P a b) (h2 : TrExt P b c) : TrExt P a c := by
  obtain ⟨n1, t1, p1⟩ := h1
  obtain ⟨n2, t2, p2⟩ := h2
  refine ⟨n2 ++ n1, by rw [t2, t1, List.append_assoc], ?_⟩
  intro e he
  rcases List.mem_append.1 he with h | h
  · exact p2 e h
  · exact p1 e h

theorem TrExt.mono {P Q : Event → Prop} {s0 s : State} (h : ∀ e, P e → Q e) (hi : TrExt P s0 s) : TrExt Q s0 s := by
  obtain ⟨n, t, p⟩ := hi
  exact ⟨n, t, fun e he => h e (p e he)⟩

theorem TrExt_emit {P : Event → Prop} {s0 s : State} {e : Event} (he : P e) (hi : TrExt P s0 s) : TrExt P s0 (emit s e) := by
  unfold emit
  split
  · exact hi
  · obtain ⟨n, t, p⟩ := hi
    refine ⟨e :: n, by simp [t], ?_⟩
    intro x hx
    rcases List.mem_cons.1 hx with h | h
    · exact h ▸ he
    · exact p x h

/-- admissible new events while phase `ph` runs: no `poll` event, no callback of another phase -/
def EvOK (ph : Phase) : Event → Prop
  | .cb ph' _ _ _ _ => ph' = ph
  | .poll _ _ _ => False
  | _ => True

/-- the trace of `s` extends the trace of `s0` by admissible events; same oracle -/
def Ext (ph : Phase) (s0 s : State) : Prop :=
  ∃ new, s.trace = new ++ s0.trace ∧ (∀ e ∈ new, EvOK ph e) ∧ s.oracle = s0.oracle

variable {ph : Phase} {s0 : State}

theorem Ext.iff {s : State} : Ext ph s0 s ↔ TrExt (EvOK ph) s0 s ∧ s.oracle = s0.oracle :=
  ⟨fun ⟨n, t, p, o⟩ => ⟨⟨n, t, p⟩, o⟩, fun ⟨⟨n, t, p⟩, o⟩ => ⟨n, t, p, o⟩⟩

theorem TrExt.of_ext {P : Event → Prop} {ph : Phase} {s0 s s' : State} (h : ∀ e, EvOK ph e → P e)
    (hi : TrExt P s0 s) (he : Ext ph s s') : TrExt P s0 s' :=
  hi.trans ((Ext.iff.1 he).1.mono h)

theorem Ext.refl (ph : Phase) (s : State) : Ext ph s s := Ext.iff.2 ⟨TrExt.refl _ s, rfl⟩

theorem Ext.trans {a b c : State} (h1 : Ext ph a b) (h2 : Ext ph b c) : Ext ph a c :=
  Ext.iff.2 ⟨(Ext.iff.1 h1).1.trans (Ext.iff.1 h2).1, (Ext.iff.1 h2).2.trans (Ext.iff.1 h1).2⟩

theorem Ext.upd {s s' : State} (hi : Ext ph s0 s) (h1 : s'.trace = s.trace) (h2 : s'.oracle = s.oracle) :
    Ext ph s0 s' :=
  Ext.iff.2 ⟨(Ext.iff.1 hi).1.upd h1, h2.trans (Ext.iff.1 hi).2⟩

theorem Ext.iff_of {s s' : State} (h1 : tr s' = tr s) (h2 : ow s' = ow s) : Ext ph s0 s' ↔ Ext ph s0 s := by
  simp only [tr, ow, Prod.mk.injEq] at h1 h2
  exact ⟨fun h => h.upd h1.1.symm h2.1.symm, fun h => h.upd h1.1 h2.1⟩

theorem Ext_emit {s : State} {e : Event} (he : EvOK ph e) (hi : Ext ph s0 s) : Ext ph s0 (emit s e) :=
  Ext.iff.2 ⟨TrExt_emit he (Ext.iff.1 hi).1, (congrArg Prod.fst (ow_emit s e)).trans (Ext.iff.1 hi).2⟩

theorem Ext_emitObs {s : State} (hi : Ext ph s0 s) : Ext ph s0 (emitObs s) := Ext_emit trivial hi

@[simp] theorem Ext_updateTime (s : State) : Ext ph s0 (updateTime s) ↔ Ext ph s0 s := Ext.iff_of rfl rfl

end UvModel.Loop.Phases

namespace UvModel.Loop
open Phases UvModel.HandleKernels

/-! ### every step of phase `ph` extends the trace by admissible events and leaves the oracle alone -/
theorem Phases.Ext.of_eq {ph : Phase} {s s' : State} (ht : s'.trace = s.trace) (ho : s'.oracle = s.oracle) : Ext ph s s' :=
  (Ext.refl ph s).upd ht ho

theorem Phases.Ext.of_hview {ph : Phase} {s s' : State} (h : hview s' = hview s) : Ext ph s s' := by
  simp only [hview, Prod.mk.injEq] at h
  exact .of_eq h.2.2.2.2.2.1 h.2.2.2.2.2.2.2.2.1

theorem OpStep.ext {ph : Phase} {q : Bool} {u : Option Nat} {s s' : State} (h : OpStep q u s s') : Ext ph s s' := by
  induction h with
  | frame h => exact .of_hview (hview_of_key h)
  | trans _ _ ih1 ih2 => exact ih1.trans ih2
  | kern h => cases h <;> exact .of_eq rfl rfl
  | req h => exact .of_hview h.hview
  | unwatch => exact .of_eq rfl rfl
  | init s k => cases k <;> exact .of_eq rfl rfl
  | close => exact .of_eq rfl rfl

theorem Phases.EvOK.of_plain {ph : Phase} {ev : Event} (h : plain ev) : EvOK ph ev := by
  cases ev <;> first | exact h.elim | trivial

theorem CbStep.ext {ph : Phase} {s s' : State} (h : CbStep s s') : Ext ph s s' := by
  induction h with
  | quiet h => exact h.ext
  | call s o => exact Ext_emitObs (Ext_emit trivial (applyOp_step s o).ext)
  | emit s ev hev => exact Ext_emit (.of_plain hev) (Ext.refl ph s)
  | trans _ _ ih1 ih2 => exact ih1.trans ih2

/-- the entry of a callback of phase `ph` -/
theorem Phases.Ext.cbEv {ph : Phase} {s s1 : State} (ht : s1.trace = s.trace) (ho : s1.oracle = s.oracle) (k : CbKind) (i : Nat)
    (a b : Int) : Ext ph s (cbEv ph k i a b s1) :=
  Ext_emit (e := .cb ph k i a b) rfl (.of_eq (s' := { s1 with ncbTotal := s1.ncbTotal + 1 }) ht ho)

theorem Reach0.ext {ph : Phase} {s s' : State} (h : Reach0 ph s s') : Ext ph s s' := by
  induction h with
  | cb h => exact h.ext
  | trans _ _ ih1 ih2 => exact ih1.trans ih2
  | handleCb => exact .cbEv rfl rfl ..
  | drain => exact .of_eq rfl rfl
  | watchers => exact .of_eq rfl rfl
  | udpDone => exact .cbEv rfl rfl ..
  | connDone s id h r =>
    have hk := hview_of_key (key_ioStop { (modH s id fun h => { h with connReq := none }) with
      ar := reqUnregister s.ar, reqs := s.reqs.filter (·.id != r) } (.h id) POLLOUT)
    simp only [hview, Prod.mk.injEq] at hk
    exact .cbEv hk.2.2.2.2.2.1 hk.2.2.2.2.2.2.2.2.1 ..
  | workDone => exact .cbEv rfl rfl ..
  | destroy s id h r s2 _ _ hcb => exact ((Ext.cbEv rfl rfl ..).trans hcb.ext).trans (.of_eq rfl rfl)

theorem ReachC.ext {s s' : State} (h : ReachC s s') : Ext .closing s s' := by
  induction h with
  | base h => exact h.ext
  | trans _ _ ih1 ih2 => exact ih1.trans ih2
  | closeCb => exact .cbEv rfl rfl ..
  | setClosed | unlink | detach | pop => exact .of_eq rfl rfl

end UvModel.Loop
