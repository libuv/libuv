import UvModel.IoWatch
/-! C14, registry side.  First the vocabulary the C14 statements are written in: programs (`Cmd`, `exec`, `init`),
the pieces `applyOne` is made of (`ctlOf`, `arm`, `ctlApply`), the two blanked states that express what a function
leaves alone.  Then the relation `Reach` into which every model function decomposes (`reach_*`), and the
structural invariant `SInv` that every `Step` preserves. -/
namespace UvModel.IoWatch

inductive Cmd
  | op (o : Op)
  | run (bs : List Batch)

def execCmd (sc : Script) (s : St) : Cmd → St
  | .op o => execOp s o
  | .run bs => run sc s bs

def exec (sc : Script) (s : St) (p : List Cmd) : St := p.foldl (execCmd sc) s

/-- state after `uv_loop_init`: `nw` watcher slots, `internal` descriptors watched by libuv itself -/
def init (ring : Bool) (internal nw : Nat) : St :=
  { ring := ring, internal := internal, watchers := List.replicate nw none }

/-- no watcher `id` is registered under any descriptor -/
def Unreg (s : St) (id : Nat) : Prop := ∀ fd, watcherAt s fd ≠ some id

/-- kernel masks are current: nothing queued, every registered watcher has `events = pevents` -/
def Told (s : St) : Prop :=
  s.wq = [] ∧ ∀ fd id, watcherAt s fd = some id → (getW s id).events = (getW s id).pevents

abbrev Ctl := CtlOp × Nat × Mask × Nat

/-- the direct-mode branch of `applyOne` (linux.c:1423-1445): `epoll_ctl`, an ADD answered EEXIST repeated
as MOD, any other failure is `abort()` -/
def ctlApply (s : St) (c : Ctl) : St :=
  let a := ctl s c.1 c.2.1 c.2.2.1 (some c.2.2.2)
  if a.2 = 0 then a.1
  else if c.1 = .add ∧ a.2 = -17 then
    let b := ctl a.1 .mod c.2.1 c.2.2.1 (some c.2.2.2)
    if b.2 ≠ 0 then abort b.1 else b.1
  else abort a.1

/-- what `applyOne` submits for watcher `id` -/
def ctlOf (s : St) (id : Nat) : Ctl :=
  (if (getW s id).events = Mask.none then .add else .mod, (getW s id).fd, (getW s id).pevents, id)

/-- `w->events = w->pevents` -/
def arm (s : St) (id : Nat) : St := setW s id { getW s id with events := (getW s id).pevents }

/-- the state with the registry (`ws`, `watchers`, `nfds`, `wq`) blanked: states with the same `blankReg` differ in
the registry only -/
def blankReg (s : St) : St := { s with ws := [], watchers := [], nfds := 0, wq := [] }

/-- the state with the kernel, the log and the abort flag blanked: `ctl` and `abort` touch nothing else -/
def blankKer (s : St) : St := { s with k := {}, aborted := false, log := [] }

theorem Mask.sub_refl (a : Mask) : a.sub a := by
  cases a; simp [Mask.sub, Mask.and]

theorem ite_proj {α β} (f : α → β) {c : Prop} [Decidable c] {a b : α} {v : β} (ha : f a = v) (hb : f b = v) :
    f (if c then a else b) = v := by split <;> assumption

theorem some_getD_lt (l : List (Option Nat)) (j x : Nat) (h : l.getD j none = some x) : j < l.length := by
  by_cases hj : j < l.length
  · exact hj
  · simp [List.getD_eq_getElem?_getD, List.getElem?_eq_none (Nat.le_of_not_lt hj)] at h

theorem countP_set_some (l : List (Option Nat)) (i x : Nat) (h : i < l.length) (hn : l.getD i none = none) :
    (l.set i (some x)).countP Option.isSome = l.countP Option.isSome + 1 := by
  have : l[i] = none := by simpa [List.getD_eq_getElem?_getD, h] using hn
  rw [List.countP_set h]; simp [this]

theorem countP_set_none (l : List (Option Nat)) (i x : Nat) (hn : l.getD i none = some x) :
    (l.set i none).countP Option.isSome + 1 = l.countP Option.isSome := by
  have h := some_getD_lt l i x hn
  have e : l[i] = some x := by simpa [List.getD_eq_getElem?_getD, h] using hn
  have := List.countP_pos_iff (p := Option.isSome).mpr ⟨l[i], List.getElem_mem h, by rw [e]; rfl⟩
  rw [List.countP_set h, e]; simp; omega

theorem getD_set_eq (l : List (Option Nat)) (i j : Nat) (v : Option Nat) :
    (l.set i v).getD j none = if i = j ∧ i < l.length then v else l.getD j none := by
  simp [List.getD_eq_getElem?_getD, List.getElem?_set]
  split <;> split <;> simp_all
  all_goals (try omega)

theorem getD_append_replicate (l : List (Option Nat)) (n j : Nat) :
    (l ++ List.replicate n none).getD j none = l.getD j none := by
  simp [List.getD_eq_getElem?_getD, List.getElem?_append]
  split
  · rfl
  · rename_i h
    have : l[j]? = none := by simp; omega
    simp [this, List.getElem?_replicate]
    split <;> rfl

theorem getW_setW (s : St) (id j : Nat) (w : W) :
    getW (setW s id w) j = if j = id ∧ id < s.ws.length then w else getW s j := by
  simp [getW, setW, List.getD_eq_getElem?_getD, List.getElem?_set]
  split <;> split <;> simp_all
  all_goals (try omega)
  all_goals (rename_i h1 h2; have : s.ws[j]? = none := by simp; omega)
  all_goals simp [this]

theorem getW_setW_of {α} (f : W → α) (s : St) (id : Nat) (w : W) (h : f w = f (getW s id)) (j : Nat) :
    f (getW (setW s id w) j) = f (getW s j) := by
  rw [getW_setW]; split
  · rename_i e; rw [e.1, h]
  · rfl

@[simp] theorem setW_len (s : St) (id : Nat) (w : W) : (setW s id w).ws.length = s.ws.length := by
  simp [setW]

/-- what a step that is neither start, stop nor queue application keeps -/
structure Kept (s s' : St) : Prop where
  watchers : s'.watchers = s.watchers
  nfds : s'.nfds = s.nfds
  wq : s'.wq = s.wq
  len : s.ws.length ≤ s'.ws.length
  core : ∀ id, id < s.ws.length → (getW s' id).fd = (getW s id).fd ∧
    (getW s' id).pevents = (getW s id).pevents ∧ (getW s' id).events = (getW s id).events
  fresh : ∀ id, s.ws.length ≤ id → (getW s' id).pevents = Mask.none ∧ (getW s' id).events = Mask.none
  old : ∀ id, s.ws.length ≤ id → (getW s id).pevents = Mask.none ∧ (getW s id).events = Mask.none

theorem getW_oob (s : St) (id : Nat) (h : s.ws.length ≤ id) : getW s id = default := by
  simp [getW, List.getD_eq_getElem?_getD]
  have : s.ws[id]? = none := by simp; omega
  simp [this]

theorem Kept.rfl' (s : St) : Kept s s :=
  ⟨rfl, rfl, rfl, Nat.le_refl _, fun _ _ => ⟨rfl, rfl, rfl⟩,
   fun id h => by rw [getW_oob s id h]; exact ⟨rfl, rfl⟩, fun id h => by rw [getW_oob s id h]; exact ⟨rfl, rfl⟩⟩

theorem Kept.of_eq {s s' : St} (h1 : s'.ws = s.ws) (h2 : s'.watchers = s.watchers) (h3 : s'.nfds = s.nfds)
    (h4 : s'.wq = s.wq) : Kept s s' := by
  have hg : ∀ id, getW s' id = getW s id := by intro id; simp [getW, h1]
  refine ⟨h2, h3, h4, by simp [h1], fun id _ => by simp [hg], fun id h => ?_, fun id h => ?_⟩
  · rw [hg, getW_oob s id h]; exact ⟨rfl, rfl⟩
  · rw [getW_oob s id h]; exact ⟨rfl, rfl⟩

theorem Kept.setW (s : St) (id : Nat) (w : W) (hf : w.fd = (getW s id).fd)
    (hp : w.pevents = (getW s id).pevents) (he : w.events = (getW s id).events) : Kept s (setW s id w) := by
  refine ⟨rfl, rfl, rfl, by simp, fun j _ => ?_, fun j h => ?_, fun j h => ?_⟩
  · rw [getW_setW]; split
    · rename_i h; rw [h.1]; exact ⟨hf, hp, he⟩
    · exact ⟨rfl, rfl, rfl⟩
  · rw [getW_setW]; split
    · rename_i h'; omega
    · rw [getW_oob s j h]; exact ⟨rfl, rfl⟩
  · rw [getW_oob s j h]; exact ⟨rfl, rfl⟩

theorem Kept.push (s : St) (w : W) (hp : w.pevents = Mask.none) (he : w.events = Mask.none) :
    Kept s { s with ws := s.ws ++ [w] } := by
  refine ⟨rfl, rfl, rfl, by simp, fun j hj => ?_, fun j h => ?_, fun j h => ?_⟩
  · simp [getW, List.getD_eq_getElem?_getD, List.getElem?_append, hj]
  · simp [getW, List.getD_eq_getElem?_getD, List.getElem?_append]
    have h1 : ¬ j < s.ws.length := by omega
    simp [h1]
    by_cases h2 : j - s.ws.length = 0
    · simp [h2, hp, he]
    · have : ([w] : List W)[j - s.ws.length]? = none := by simp; omega
      simp [this]; exact ⟨rfl, rfl⟩
  · rw [getW_oob s j h]; exact ⟨rfl, rfl⟩

/-- what `applyQueue` does to the registry: queue emptied, queued watchers get `events := pevents` -/
structure Applied (s s' : St) : Prop where
  watchers : s'.watchers = s.watchers
  nfds : s'.nfds = s.nfds
  wq : s'.wq = []
  len : s'.ws.length = s.ws.length
  fd : ∀ id, (getW s' id).fd = (getW s id).fd
  pev : ∀ id, (getW s' id).pevents = (getW s id).pevents
  ev : ∀ id, (getW s' id).events = if id ∈ s.wq ∧ id < s.ws.length then (getW s id).pevents else (getW s id).events

inductive Step : St → St → Prop
  | kept {s s'} : Kept s s' → Step s s'
  | start {s} (id : Nat) (m : Mask) : id < s.ws.length → m.e = false → m.h = false → m ≠ Mask.none →
      Step s (ioStart s id m)
  | stop {s} (id : Nat) (m : Mask) : Step s (ioStop s id m)
  | applied {s s'} : Applied s s' → Step s s'

inductive Reach : St → St → Prop
  | refl (s) : Reach s s
  | tail {s t u} : Reach s t → Step t u → Reach s u

theorem Reach.trans {a b c : St} (h1 : Reach a b) (h2 : Reach b c) : Reach a c := by
  induction h2 with
  | refl => exact h1
  | tail _ st ih => exact .tail ih st

theorem Reach.step {s t : St} (h : Step s t) : Reach s t := .tail (.refl s) h
theorem Reach.kept {s t : St} (h : Kept s t) : Reach s t := .step (.kept h)

structure SInv (s : St) : Prop where
  /-- `loop->nfds` counts the registered descriptors -/
  nfds : s.nfds = ((s.watchers.countP Option.isSome : Nat) : Int)
  nodup : s.wq.Nodup
  /-- a registered watcher is registered under its own descriptor -/
  reg : ∀ fd id, watcherAt s fd = some id → id < s.ws.length ∧ (getW s id).fd = fd
  /-- requested masks never contain POLLERR/POLLHUP -/
  mask4 : ∀ id, (getW s id).pevents.e = false ∧ (getW s id).pevents.h = false
  /-- a registered watcher whose kernel mask is stale is queued -/
  told : ∀ fd id, watcherAt s fd = some id → (getW s id).events ≠ (getW s id).pevents → id ∈ s.wq
  /-- registered watchers have something requested (the converse is `KCore.live`) -/
  regReq : ∀ fd id, watcherAt s fd = some id → (getW s id).pevents ≠ Mask.none

theorem watcherAt_lt {s : St} {fd id : Nat} (h : watcherAt s fd = some id) : fd < s.watchers.length :=
  some_getD_lt _ _ _ h

theorem SInv.kept {s s' : St} (i : SInv s) (k : Kept s s') : SInv s' := by
  have hw : ∀ fd, watcherAt s' fd = watcherAt s fd := by intro fd; simp [watcherAt, k.watchers]
  refine ⟨by rw [k.nfds, k.watchers]; exact i.nfds, by rw [k.wq]; exact i.nodup, ?_, ?_, ?_, ?_⟩
  · intro fd id h; rw [hw] at h
    have := i.reg fd id h
    exact ⟨Nat.lt_of_lt_of_le this.1 k.len, by rw [(k.core id this.1).1]; exact this.2⟩
  · intro id
    by_cases h : id < s.ws.length
    · rw [(k.core id h).2.1]; exact i.mask4 id
    · rw [(k.fresh id (by omega)).1]; exact ⟨rfl, rfl⟩
  · intro fd id h hne; rw [hw] at h
    have hl := (i.reg fd id h).1
    rw [k.wq]; apply i.told fd id h
    rw [← (k.core id hl).2.1, ← (k.core id hl).2.2]; exact hne
  · intro fd id h; rw [hw] at h
    rw [(k.core id (i.reg fd id h).1).2.1]; exact i.regReq fd id h

theorem le_nextPow2 (n : Nat) : n ≤ nextPow2 n := by
  unfold nextPow2
  have h : ∀ a b : Nat, a ≤ a ||| b := fun a b => Nat.left_le_or
  have := h (n-1) ((n-1) >>> 1)
  have := h ((n-1) ||| ((n-1) >>> 1)) (((n-1) ||| ((n-1) >>> 1)) >>> 2)
  simp only []
  generalize hv1 : (n - 1 ||| (n - 1) >>> 1) = v1 at *
  generalize hv2 : (v1 ||| v1 >>> 2) = v2 at *
  have := h v2 (v2 >>> 4)
  generalize hv3 : (v2 ||| v2 >>> 4) = v3 at *
  have := h v3 (v3 >>> 8)
  generalize hv4 : (v3 ||| v3 >>> 8) = v4 at *
  have := h v4 (v4 >>> 16)
  omega

theorem maybeResize_len (s : St) (len : Nat) : len ≤ (maybeResize s len).watchers.length := by
  unfold maybeResize; split
  · assumption
  · simp; have := le_nextPow2 (len + 2); omega

theorem maybeResize_at (s : St) (len fd : Nat) : watcherAt (maybeResize s len) fd = watcherAt s fd := by
  unfold maybeResize watcherAt; split
  · rfl
  · simp only []; exact getD_append_replicate _ _ _

theorem maybeResize_count (s : St) (len : Nat) :
    (maybeResize s len).watchers.countP Option.isSome = s.watchers.countP Option.isSome := by
  unfold maybeResize; split
  · rfl
  · simp [List.countP_append, List.countP_replicate]

theorem blankReg_fields {s t : St} (h : blankReg t = blankReg s) :
    t.k = s.k ∧ t.sq = s.sq ∧ t.multi = s.multi ∧ t.aborted = s.aborted ∧ t.inv = s.inv :=
  ⟨(congrArg St.k h :), (congrArg St.sq h :), (congrArg St.multi h :), (congrArg St.aborted h :),
    (congrArg St.inv h :)⟩

theorem maybeResize_setW (s : St) (id : Nat) (w : W) (n : Nat) :
    maybeResize (setW s id w) n = { setW s id w with watchers := (maybeResize s n).watchers } := by
  by_cases h : n ≤ s.watchers.length <;> simp [maybeResize, setW, h]

theorem ioStart_eq (s : St) (id : Nat) (m : Mask) : ioStart s id m =
    if (getW s id).events = (getW s id).pevents.or m then
      { s with ws := s.ws.set id { getW s id with pevents := (getW s id).pevents.or m, clean := false },
               watchers := (maybeResize s ((getW s id).fd + 1)).watchers }
    else if (maybeResize s ((getW s id).fd + 1)).watchers.getD (getW s id).fd none = none then
      { s with ws := s.ws.set id { getW s id with pevents := (getW s id).pevents.or m, clean := false },
               wq := if s.wq.contains id then s.wq else s.wq ++ [id],
               watchers := (maybeResize s ((getW s id).fd + 1)).watchers.set (getW s id).fd (some id),
               nfds := s.nfds + 1 }
    else
      { s with ws := s.ws.set id { getW s id with pevents := (getW s id).pevents.or m, clean := false },
               wq := if s.wq.contains id then s.wq else s.wq ++ [id],
               watchers := (maybeResize s ((getW s id).fd + 1)).watchers } := by
  unfold ioStart
  simp only [maybeResize_setW]
  by_cases hev : (getW s id).events = (getW s id).pevents.or m
  · rw [if_pos hev, if_pos hev]; rfl
  · rw [if_neg hev, if_neg hev]
    by_cases hc : s.wq.contains id = true <;>
      by_cases hn : (maybeResize s ((getW s id).fd + 1)).watchers.getD (getW s id).fd none = none <;>
      simp only [hc, hn, watcherAt, setW, if_true, if_false, Bool.false_eq_true] <;> rfl

theorem blankReg_ioStart (s : St) (id : Nat) (m : Mask) : blankReg (ioStart s id m) = blankReg s := by
  rw [ioStart_eq]
  exact ite_proj blankReg rfl (ite_proj blankReg rfl rfl)

theorem ioStart_spec (s : St) (id : Nat) (m : Mask) (hid : id < s.ws.length) :
    (∀ j, getW (ioStart s id m) j =
      if j = id then { getW s id with pevents := (getW s id).pevents.or m, clean := false } else getW s j) ∧
    (ioStart s id m).ws.length = s.ws.length ∧
    ((ioStart s id m).wq = if (getW s id).events = (getW s id).pevents.or m then s.wq
        else if s.wq.contains id then s.wq else s.wq ++ [id]) ∧
    (∀ fd', watcherAt (ioStart s id m) fd' =
      if (getW s id).events ≠ (getW s id).pevents.or m ∧ watcherAt s (getW s id).fd = none ∧ fd' = (getW s id).fd
      then some id else watcherAt s fd') ∧
    ((ioStart s id m).nfds - ((ioStart s id m).watchers.countP Option.isSome : Nat) =
      s.nfds - (s.watchers.countP Option.isSome : Nat)) := by
  have hat : ∀ f, (maybeResize s ((getW s id).fd + 1)).watchers.getD f none = watcherAt s f := maybeResize_at s _
  have hcnt := maybeResize_count s ((getW s id).fd + 1)
  have hlen := maybeResize_len s ((getW s id).fd + 1)
  have hw : ∀ w j, (s.ws.set id w).getD j default = if j = id then w else getW s j := fun w j =>
    (getW_setW s id j w).trans (by simp [hid])
  by_cases hev : (getW s id).events = (getW s id).pevents.or m
  · rw [(ioStart_eq ..).trans (if_pos hev)]
    exact ⟨hw _, List.length_set .., (if_pos hev).symm, fun f => (hat f).trans (if_neg fun h => h.1 hev).symm,
      congrArg (fun n : Nat => s.nfds - (n : Int)) hcnt⟩
  · by_cases hn : (maybeResize s ((getW s id).fd + 1)).watchers.getD (getW s id).fd none = none
    · rw [(ioStart_eq ..).trans ((if_neg hev).trans (if_pos hn))]
      refine ⟨hw _, List.length_set .., (if_neg hev).symm, fun f => ?_, ?_⟩
      · refine (getD_set_eq ..).trans ?_
        by_cases hf : f = (getW s id).fd
        · rw [if_pos ⟨hf.symm, hlen⟩, if_pos ⟨hev, (hat _).symm.trans hn, hf⟩]
        · rw [if_neg fun h => hf h.1.symm, if_neg fun h => hf h.2.2]; exact hat f
      · have := countP_set_some _ _ id hlen hn
        show s.nfds + 1 - (((maybeResize s ((getW s id).fd + 1)).watchers.set (getW s id).fd (some id)).countP
          Option.isSome : Nat) = _
        omega
    · rw [(ioStart_eq ..).trans ((if_neg hev).trans (if_neg hn))]
      exact ⟨hw _, List.length_set .., (if_neg hev).symm,
        fun f => (hat f).trans (if_neg fun h => hn ((hat _).trans h.2.1)).symm,
        congrArg (fun n : Nat => s.nfds - (n : Int)) hcnt⟩

theorem ioStop_eq (s : St) (id : Nat) (m : Mask) : ioStop s id m =
    if (getW s id).fd ≥ s.watchers.length then s
    else if (getW s id).pevents.diff m = Mask.none then
      if watcherAt s (getW s id).fd = some id then
        { s with ws := s.ws.set id { getW s id with pevents := (getW s id).pevents.diff m, events := Mask.none },
                 wq := s.wq.erase id, watchers := s.watchers.set (getW s id).fd none, nfds := s.nfds - 1 }
      else
        { s with ws := s.ws.set id { getW s id with pevents := (getW s id).pevents.diff m, events := Mask.none },
                 wq := s.wq.erase id }
    else
      { s with ws := s.ws.set id { getW s id with pevents := (getW s id).pevents.diff m },
               wq := if s.wq.contains id then s.wq else s.wq ++ [id] } := by
  unfold ioStop
  by_cases h0 : (getW s id).fd ≥ s.watchers.length
  · rw [if_pos h0, if_pos h0]
  · rw [if_neg h0, if_neg h0]
    by_cases hpe : (getW s id).pevents.diff m = Mask.none
    · rw [if_pos hpe, if_pos hpe]; rfl
    · rw [if_neg hpe, if_neg hpe]
      exact (apply_ite (fun q => ({ s with ws := _, wq := q } : St)) ..).symm

theorem blankReg_ioStop (s : St) (id : Nat) (m : Mask) : blankReg (ioStop s id m) = blankReg s := by
  rw [ioStop_eq]
  exact ite_proj blankReg rfl (ite_proj blankReg (ite_proj blankReg rfl rfl) rfl)

theorem ioStop_spec (s : St) (id : Nat) (m : Mask) :
    (∀ j, getW (ioStop s id m) j =
      if j = id ∧ id < s.ws.length ∧ (getW s id).fd < s.watchers.length then
        (if (getW s id).pevents.diff m = Mask.none then
          { getW s id with pevents := (getW s id).pevents.diff m, events := Mask.none }
         else { getW s id with pevents := (getW s id).pevents.diff m })
      else getW s j) ∧
    (ioStop s id m).ws.length = s.ws.length ∧
    ((ioStop s id m).wq = if (getW s id).fd ≥ s.watchers.length then s.wq
        else if (getW s id).pevents.diff m = Mask.none then s.wq.erase id
        else if s.wq.contains id then s.wq else s.wq ++ [id]) ∧
    (∀ fd', watcherAt (ioStop s id m) fd' =
      if (getW s id).fd < s.watchers.length ∧ (getW s id).pevents.diff m = Mask.none ∧
         watcherAt s (getW s id).fd = some id ∧ fd' = (getW s id).fd
      then none else watcherAt s fd') ∧
    ((ioStop s id m).nfds - ((ioStop s id m).watchers.countP Option.isSome : Nat) =
      s.nfds - (s.watchers.countP Option.isSome : Nat)) := by
  by_cases h0 : (getW s id).fd ≥ s.watchers.length
  · have h1 := Nat.not_lt.mpr h0
    rw [ioStop_eq, if_pos h0]
    exact ⟨fun j => (if_neg fun h => h1 h.2.2).symm, rfl, (if_pos h0).symm, fun f => (if_neg fun h => h1 h.1).symm, rfl⟩
  have hlt := Nat.lt_of_not_le h0
  have hw : ∀ w j, (s.ws.set id w).getD j default =
      if j = id ∧ id < s.ws.length ∧ (getW s id).fd < s.watchers.length then w else getW s j := fun w j => by
    rw [show (s.ws.set id w).getD j default = getW (setW s id w) j from rfl, getW_setW]
    by_cases h : j = id ∧ id < s.ws.length
    · rw [if_pos h, if_pos ⟨h.1, h.2, hlt⟩]
    · rw [if_neg h, if_neg fun h' => h ⟨h'.1, h'.2.1⟩]
  by_cases hpe : (getW s id).pevents.diff m = Mask.none
  · by_cases hreg : watcherAt s (getW s id).fd = some id
    · rw [(ioStop_eq ..).trans ((if_neg h0).trans ((if_pos hpe).trans (if_pos hreg)))]
      refine ⟨fun j => by rw [if_pos hpe]; exact hw _ j, List.length_set .., ((if_neg h0).trans (if_pos hpe)).symm, fun f => ?_, ?_⟩
      · refine (getD_set_eq ..).trans ?_
        by_cases hf : f = (getW s id).fd
        · rw [if_pos ⟨hf.symm, hlt⟩, if_pos ⟨hlt, hpe, hreg, hf⟩]
        · rw [if_neg fun h => hf h.1.symm, if_neg fun h => hf h.2.2.2]; rfl
      · have := countP_set_none s.watchers _ id hreg
        show s.nfds - 1 - ((s.watchers.set (getW s id).fd none).countP Option.isSome : Nat) = _
        omega
    · rw [(ioStop_eq ..).trans ((if_neg h0).trans ((if_pos hpe).trans (if_neg hreg)))]
      exact ⟨fun j => by rw [if_pos hpe]; exact hw _ j, List.length_set .., ((if_neg h0).trans (if_pos hpe)).symm,
        fun f => (if_neg fun h => hreg h.2.2.1).symm, rfl⟩
  · rw [(ioStop_eq ..).trans ((if_neg h0).trans (if_neg hpe))]
    exact ⟨fun j => by rw [if_neg hpe]; exact hw _ j, List.length_set .., ((if_neg h0).trans (if_neg hpe)).symm,
      fun f => (if_neg fun h => hpe h.2.1).symm, rfl⟩

theorem ioStop_fields (s : St) (id : Nat) (m : Mask) (j : Nat) :
    (getW (ioStop s id m) j).fd = (getW s j).fd ∧ (getW (ioStop s id m) j).closing = (getW s j).closing ∧
    (getW (ioStop s id m) j).clean = (getW s j).clean := by
  rw [(ioStop_spec s id m).1 j]; split
  · rename_i e; rw [e.1]; split <;> exact ⟨rfl, rfl, rfl⟩
  · exact ⟨rfl, rfl, rfl⟩

theorem Mask.or_ne_none (a m : Mask) (h : m ≠ Mask.none) : a.or m ≠ Mask.none := by
  intro h'; apply h
  cases a; cases m; simp [Mask.or, Mask.none] at h' ⊢
  simp_all

theorem SInv.start {s : St} (i : SInv s) (id : Nat) (m : Mask) (hid : id < s.ws.length)
    (he : m.e = false) (hh : m.h = false) (hm : m ≠ Mask.none) : SInv (ioStart s id m) := by
  obtain ⟨hg, hl, hq, ha, hn⟩ := ioStart_spec s id m hid
  refine ⟨?_, ?_, ?_, ?_, ?_, ?_⟩
  · have := i.nfds; omega
  · rw [hq]; split
    · exact i.nodup
    · split
      · exact i.nodup
      · rename_i hc
        rw [List.nodup_append]; refine ⟨i.nodup, by simp, ?_⟩
        intro a hmem b hb; simp at hb; subst hb; intro h; subst h; simp at hc; exact hc hmem
  · intro fd id' h; rw [ha] at h; rw [hl, hg]
    split at h
    · rename_i hc; simp at h; subst h; simp [hid, hc.2.2]
    · have := i.reg fd id' h
      refine ⟨this.1, ?_⟩
      split
      · rename_i e; subst e; exact this.2
      · exact this.2
  · intro j; rw [hg]; split
    · have := i.mask4 id; simp [Mask.or, this, he, hh]
    · exact i.mask4 j
  · intro fd id' h hne; rw [ha] at h; rw [hg] at hne; rw [hq]
    by_cases hj : id' = id
    · subst hj; simp at hne
      rw [if_neg (fun e => hne e)]
      split
      · rename_i hc; simpa using hc
      · simp
    · rw [if_neg hj] at hne
      have hold : watcherAt s fd = some id' := by
        split at h
        · simp at h; exact absurd h.symm hj
        · exact h
      have := i.told fd id' hold hne
      split
      · exact this
      · split
        · exact this
        · simp [this]
  · intro fd id' h; rw [ha] at h; rw [hg]
    by_cases hj : id' = id
    · subst hj; simp; exact Mask.or_ne_none _ _ hm
    · rw [if_neg hj]
      have hold : watcherAt s fd = some id' := by
        split at h
        · simp at h; exact absurd h.symm hj
        · exact h
      exact i.regReq fd id' hold

theorem Mask.diff_eh (a m : Mask) (h : a.e = false ∧ a.h = false) : (a.diff m).e = false ∧ (a.diff m).h = false := by
  simp [Mask.diff, h]

theorem Mask.diff_all4 (a : Mask) (h : a.e = false ∧ a.h = false) : a.diff Mask.all4 = Mask.none := by
  cases a; simp at h; simp [Mask.diff, Mask.all4, Mask.none, h]

theorem SInv.stop {s : St} (i : SInv s) (id : Nat) (m : Mask) : SInv (ioStop s id m) := by
  obtain ⟨hg, hl, hq, ha, hn⟩ := ioStop_spec s id m
  refine ⟨?_, ?_, ?_, ?_, ?_, ?_⟩
  · have := i.nfds; omega
  · rw [hq]; split
    · exact i.nodup
    · split
      · exact i.nodup.erase _
      · split
        · exact i.nodup
        · rename_i hc
          rw [List.nodup_append]; refine ⟨i.nodup, by simp, ?_⟩
          intro a hmem b hb; simp at hb; subst hb; intro h; subst h; simp at hc; exact hc hmem
  · intro fd id' h; rw [ha] at h; rw [hl, hg]
    split at h
    · simp at h
    · have := i.reg fd id' h
      refine ⟨this.1, ?_⟩
      split
      · rename_i e; rw [e.1] at this; split <;> exact this.2
      · exact this.2
  · intro j; rw [hg]; split
    · split <;> exact Mask.diff_eh _ _ (i.mask4 id)
    · exact i.mask4 j
  · intro fd id' h hne; rw [ha] at h; rw [hg] at hne; rw [hq]
    have hold : watcherAt s fd = some id' := by
      split at h
      · simp at h
      · exact h
    have hlt := watcherAt_lt hold
    by_cases hj : id' = id
    · subst hj
      have hfd := (i.reg fd id' hold).2
      have hlt' : (getW s id').fd < s.watchers.length := by rw [hfd]; exact hlt
      rw [if_neg (by omega)]
      by_cases hpe : (getW s id').pevents.diff m = Mask.none
      · -- fully stopped: this very call unregisters it
        exfalso
        rw [if_pos ⟨hlt', hpe, by rw [hfd]; exact hold, hfd.symm⟩] at h
        simp at h
      · rw [if_neg hpe]; split
        · rename_i hc; simpa using hc
        · simp
    · have hne' : (getW s id').events ≠ (getW s id').pevents := by
        rw [if_neg (fun h => hj h.1)] at hne; exact hne
      have := i.told fd id' hold hne'
      split
      · exact this
      · split
        · exact (List.mem_erase_of_ne hj).mpr this
        · split
          · exact this
          · simp [this]
  · intro fd id' h; rw [ha] at h; rw [hg]
    have hnot : ¬ ((getW s id).fd < s.watchers.length ∧ (getW s id).pevents.diff m = Mask.none ∧
        watcherAt s (getW s id).fd = some id ∧ fd = (getW s id).fd) := by
      intro hc; rw [if_pos hc] at h; simp at h
    rw [if_neg hnot] at h
    split
    · rename_i e
      split
      · rename_i hpe
        exfalso; apply hnot
        have hr := i.reg fd id' h
        rw [e.1] at hr h
        exact ⟨e.2.2, hpe, by rw [hr.2]; exact h, hr.2.symm⟩
      · rename_i hpe; exact hpe
    · exact i.regReq fd id' h

theorem SInv.applied {s s' : St} (i : SInv s) (a : Applied s s') : SInv s' := by
  have hw : ∀ fd, watcherAt s' fd = watcherAt s fd := by intro fd; simp [watcherAt, a.watchers]
  refine ⟨by rw [a.nfds, a.watchers]; exact i.nfds, by rw [a.wq]; simp, ?_, ?_, ?_, ?_⟩
  · intro fd id h; rw [hw] at h; rw [a.len, a.fd]; exact i.reg fd id h
  · intro id; rw [a.pev]; exact i.mask4 id
  · intro fd id h hne; rw [hw] at h; exfalso; apply hne
    rw [a.ev, a.pev]
    split
    · rfl
    · rename_i hc
      by_cases he : (getW s id).events = (getW s id).pevents
      · exact he
      · exact absurd ⟨i.told fd id h he, (i.reg fd id h).1⟩ hc
  · intro fd id h; rw [hw] at h; rw [a.pev]; exact i.regReq fd id h

theorem SInv.step {s t : St} (i : SInv s) (h : Step s t) : SInv t := by
  cases h with
  | kept k => exact i.kept k
  | start id m hid he hh hm => exact i.start id m hid he hh hm
  | stop id m => exact i.stop id m
  | applied a => exact i.applied a

theorem SInv.reach {s t : St} (i : SInv s) (h : Reach s t) : SInv t := by
  induction h with
  | refl => exact i
  | tail _ st ih => exact ih.step st

def Same4 (s t : St) : Prop := t.ws = s.ws ∧ t.watchers = s.watchers ∧ t.nfds = s.nfds ∧ t.wq = s.wq

theorem Same4.refl (s : St) : Same4 s s := ⟨rfl, rfl, rfl, rfl⟩
theorem Same4.trans {a b c : St} (h1 : Same4 a b) (h2 : Same4 b c) : Same4 a c :=
  ⟨h2.1.trans h1.1, h2.2.1.trans h1.2.1, h2.2.2.1.trans h1.2.2.1, h2.2.2.2.trans h1.2.2.2⟩
theorem Same4.kept {s t : St} (h : Same4 s t) : Kept s t := Kept.of_eq h.1 h.2.1 h.2.2.1 h.2.2.2
theorem Same4.reach {s t : St} (h : Same4 s t) : Reach s t := .kept h.kept

theorem same_emit (s : St) (e : Ev) : Same4 s (emit s e) := ⟨rfl, rfl, rfl, rfl⟩
theorem same_abort (s : St) : Same4 s (abort s) := ⟨rfl, rfl, rfl, rfl⟩
theorem same_ctl (s : St) (op : CtlOp) (fd : Nat) (m : Mask) (o : Option Nat) : Same4 s (ctl s op fd m o).1 :=
  ⟨rfl, rfl, rfl, rfl⟩
theorem same_invalidate (s : St) (fd : Nat) : Same4 s (invalidate s fd) := by
  unfold invalidate; split <;> exact ⟨rfl, rfl, rfl, rfl⟩
theorem same_flushOnce (s : St) : Same4 s (flushOnce s) := by
  unfold flushOnce; simp only []; split <;> exact ⟨rfl, rfl, rfl, rfl⟩
theorem same_flushAll (s : St) : Same4 s (flushAll s) := (same_flushOnce s).trans (same_flushOnce _)
theorem same_prep (s : St) (c : CtlOp × Nat × Mask × Nat) : Same4 s (prep s c) := by
  have a : Same4 s { s with sq := s.sq ++ [c] } := ⟨rfl, rfl, rfl, rfl⟩
  unfold prep; simp only []
  split
  · split
    · exact (a.trans (same_flushOnce _)).trans (same_flushOnce _)
    · exact a.trans (same_flushOnce _)
  · exact a

theorem Reach.len {s t : St} (h : Reach s t) : s.ws.length ≤ t.ws.length := by
  induction h with
  | refl => exact Nat.le_refl _
  | tail _ st ih =>
    cases st with
    | kept k => exact Nat.le_trans ih k.len
    | start id m hid => rw [(ioStart_spec _ id m hid).2.1]; exact ih
    | stop id m => rw [(ioStop_spec _ id m).2.1]; exact ih
    | applied a => rw [a.len]; exact ih

theorem reach_setFlags (s : St) (id : Nat) (w : W) (hf : w.fd = (getW s id).fd)
    (hp : w.pevents = (getW s id).pevents) (he : w.events = (getW s id).events) : Reach s (setW s id w) :=
  .kept (Kept.setW s id w hf hp he)

theorem reach_pollStop (s : St) (id : Nat) : Reach s (pollStop s id) := by
  unfold pollStop
  refine Reach.trans ?_ (reach_setFlags _ _ _ rfl rfl rfl)
  refine Reach.trans ?_ (same_invalidate _ _).reach
  refine Reach.trans ?_ (reach_setFlags _ _ _ rfl rfl rfl)
  exact Reach.step (.stop id Mask.all4)

theorem reach_ioClose (s : St) (id : Nat) : Reach s (ioClose s id) := by
  unfold ioClose
  refine Reach.trans ?_ (reach_setFlags _ _ _ rfl rfl rfl)
  refine Reach.trans ?_ (same_invalidate _ _).reach
  refine Reach.trans (Reach.step (.stop id Mask.all4)) ?_
  exact Same4.reach ⟨rfl, rfl, rfl, rfl⟩

theorem reach_pollInit (s : St) (fd : Nat) : Reach s (pollInit s fd).1 := by
  have h := (same_ctl s .add fd Mask.pollin none).trans (same_ctl _ .del fd Mask.none none)
  unfold pollInit
  exact iteInduction (motive := fun x : St × Int × Option Nat => Reach s x.1) (fun _ => .refl _) fun _ =>
    iteInduction (motive := fun x : St × Int × Option Nat => Reach s x.1) (fun _ => (same_ctl ..).reach) fun _ =>
      iteInduction (motive := fun x : St × Int × Option Nat => Reach s x.1) (fun _ => (h.trans (same_abort _)).reach)
        fun _ => h.reach.trans (.kept (Kept.push _ _ rfl rfl))

theorem uvToPoll_ne (u : UvEv) (h : u ≠ UvEv.none) : uvToPoll u ≠ Mask.none := by
  intro h'; apply h; cases u; simp [uvToPoll, Mask.none, UvEv.none] at h' ⊢; simp_all

theorem reach_pollStart (s : St) (id : Nat) (u : UvEv) (hid : id < s.ws.length) : Reach s (pollStart s id u).1 := by
  have h1 := reach_pollStop s id
  unfold pollStart
  refine iteInduction (motive := fun x : St × Int => Reach s x.1) (fun _ => .refl _) fun _ =>
    iteInduction (motive := fun x : St × Int => Reach s x.1) (fun _ => h1) fun hu => ?_
  have h2 := h1.trans (.step (.start id (uvToPoll u) (Nat.lt_of_lt_of_le hid h1.len) rfl rfl (uvToPoll_ne u hu)))
  generalize ioStart (pollStop s id) id (uvToPoll u) = t at h2 ⊢
  exact h2.trans (reach_setFlags t id _ rfl rfl rfl)

theorem reach_pollClose (s : St) (id : Nat) : Reach s (pollClose s id) := by
  have h1 := reach_pollStop s id
  unfold pollClose
  generalize pollStop s id = t at h1 ⊢
  exact (h1.trans (reach_setFlags t id { getW t id with closing := true } rfl rfl rfl)).trans
    (Same4.reach ⟨rfl, rfl, rfl, rfl⟩)

theorem valid4_spec (m : Mask) (h : valid4 m = true) : m.e = false ∧ m.h = false ∧ m ≠ Mask.none := by
  simp [valid4] at h; exact ⟨h.1.2, h.2, h.1.1⟩

theorem liveId_spec (s : St) (id : Nat) (p : Bool) (h : liveId s id p = true) :
    id < s.ws.length ∧ (getW s id).poll = p ∧ (getW s id).closing = false := by
  simp [liveId] at h; exact ⟨h.1.1, h.1.2, h.2⟩

theorem reach_doOp (s : St) (o : Op) : Reach s (doOp s o) := by
  cases o <;> simp only [doOp]
  case openfd fd k => split <;> exact Same4.reach ⟨rfl, rfl, rfl, rfl⟩
  case closefd fd => split <;> exact Same4.reach ⟨rfl, rfl, rfl, rfl⟩
  case dupfd fd => split <;> exact Same4.reach ⟨rfl, rfl, rfl, rfl⟩
  case closedup d => split <;> exact Same4.reach ⟨rfl, rfl, rfl, rfl⟩
  case peer a b => exact .refl _
  case pinit fd =>
    split
    · exact (same_emit _ _).reach
    · have := reach_pollInit s fd
      split
      · rename_i h; rw [h] at this; exact Reach.trans this (same_emit _ _).reach
      · rename_i h; rw [h] at this; split
        · exact this
        · exact Reach.trans this (same_emit _ _).reach
  case pstart id u =>
    split
    · rename_i h; simp at h
      exact Reach.trans (reach_pollStart s id u ((liveId_spec _ _ _ h.1).1)) (same_emit _ _).reach
    · exact (same_emit _ _).reach
  case pstop id => split; exact Reach.trans (reach_pollStop s id) (same_emit _ _).reach; exact (same_emit _ _).reach
  case pclose id => split; exact Reach.trans (reach_pollClose s id) (same_emit _ _).reach; exact (same_emit _ _).reach
  case ioinit fd =>
    split
    · exact (same_emit _ _).reach
    · exact Reach.trans (.kept (Kept.push s _ rfl rfl)) (same_emit _ _).reach
  case iostart id m =>
    split
    · rename_i h; simp at h
      have hv := valid4_spec m h.1.1.2
      exact Reach.trans (Reach.step (.start id m ((liveId_spec _ _ _ h.1.1.1).1) hv.1 hv.2.1 hv.2.2)) (same_emit _ _).reach
    · exact (same_emit _ _).reach
  case iostop id m => split; exact Reach.trans (Reach.step (.stop id m)) (same_emit _ _).reach; exact (same_emit _ _).reach
  case ioclose id => split; exact Reach.trans (reach_ioClose s id) (same_emit _ _).reach; exact (same_emit _ _).reach
  case iofeed id =>
    split
    · refine Reach.trans ?_ (same_emit _ _).reach
      unfold ioFeed; split <;> exact Same4.reach ⟨rfl, rfl, rfl, rfl⟩
    · exact (same_emit _ _).reach

theorem reach_execOp (s : St) (o : Op) : Reach s (execOp s o) :=
  iteInduction (motive := Reach s) (fun _ => .refl _) fun _ =>
    ((same_emit _ _).reach.trans (reach_doOp _ o)).trans (same_emit _ _).reach

theorem reach_execOps (s : St) (ops : List Op) : Reach s (execOps s ops) := by
  unfold execOps
  induction ops generalizing s with
  | nil => exact .refl _
  | cons o r ih => exact Reach.trans (reach_execOp s o) (ih _)

theorem reach_deliver (sc : Script) (s : St) (id : Nat) (ev : Mask) : Reach s (deliver sc s id ev) := by
  unfold deliver; simp only []
  have h0 := reach_setFlags s id { getW s id with cbs := (getW s id).cbs + 1 } rfl rfl rfl
  split
  · split
    · refine Reach.trans ?_ (reach_execOps _ _)
      refine Reach.trans ?_ (same_emit _ _).reach
      refine Reach.trans ?_ (reach_setFlags _ _ _ rfl rfl rfl)
      exact Reach.trans h0 (Reach.step (.stop id Mask.all4))
    · exact Reach.trans (Reach.trans h0 (same_emit _ _).reach) (reach_execOps _ _)
  · exact Reach.trans (Reach.trans h0 (same_emit _ _).reach) (reach_execOps _ _)

theorem reach_dispatchOne (sc : Script) (s : St) (i : Nat) : Reach s (dispatchOne sc s i).1 := by
  unfold dispatchOne
  split
  · exact .refl _
  · split
    · exact (same_abort _).reach
    · split
      · exact (same_ctl _ _ _ _ _).reach
      · simp only []; split
        · exact reach_deliver _ _ _ _
        · exact .refl _

theorem reach_dispatchFrom (sc : Script) (s : St) (i n : Nat) : Reach s (dispatchFrom sc s i n).1 := by
  induction n generalizing s i with
  | zero => exact .refl _
  | succ n ih =>
    unfold dispatchFrom; split
    · exact .refl _
    · exact Reach.trans (reach_dispatchOne sc s i) (ih _ _)

theorem applyOne_eq (s : St) (id : Nat) :
    applyOne s id = if s.ring then prep (arm s id) (ctlOf s id) else ctlApply (arm s id) (ctlOf s id) := rfl

theorem blankKer_fields {s t : St} (h : blankKer t = blankKer s) :
    Same4 s t ∧ t.sq = s.sq ∧ t.ring = s.ring ∧ t.multi = s.multi :=
  ⟨⟨(congrArg St.ws h :), (congrArg St.watchers h :), (congrArg St.nfds h :), (congrArg St.wq h :)⟩,
    (congrArg St.sq h :), (congrArg St.ring h :), (congrArg St.multi h :)⟩

theorem blankKer_ctl (s : St) (op : CtlOp) (fd : Nat) (m : Mask) (o : Option Nat) :
    blankKer (ctl s op fd m o).1 = blankKer s := rfl

theorem blankKer_abort (s : St) : blankKer (abort s) = blankKer s := rfl

theorem blankKer_ctlApply (s : St) (c : Ctl) : blankKer (ctlApply s c) = blankKer s := by
  have h := (blankKer_ctl _ .mod c.2.1 c.2.2.1 (some c.2.2.2)).trans (blankKer_ctl s c.1 c.2.1 c.2.2.1 (some c.2.2.2))
  exact ite_proj blankKer (blankKer_ctl ..)
    (ite_proj blankKer (ite_proj blankKer ((blankKer_abort _).trans h) h) ((blankKer_abort _).trans (blankKer_ctl ..)))

theorem applyOne_same (s : St) (id : Nat) : Same4 (arm s id) (applyOne s id) := by
  rw [applyOne_eq]
  exact iteInduction (motive := Same4 _) (fun _ => same_prep ..) fun _ => (blankKer_fields (blankKer_ctlApply ..)).1

theorem applyOne_getW (s : St) (id j : Nat) : getW (applyOne s id) j =
    if j = id ∧ id < s.ws.length then { getW s id with events := (getW s id).pevents } else getW s j :=
  (congrArg (·.getD j default) (applyOne_same s id).1).trans (getW_setW s id j _)

theorem applyOne_getW_of {α} (f : W → α) (s : St) (id : Nat)
    (h : f { getW s id with events := (getW s id).pevents } = f (getW s id)) (j : Nat) :
    f (getW (applyOne s id) j) = f (getW s j) :=
  (congrArg (fun l => f (l.getD j default)) (applyOne_same s id).1).trans (getW_setW_of f s id _ h j)

theorem applyOne_len (s : St) (id : Nat) : (applyOne s id).ws.length = s.ws.length :=
  (congrArg List.length (applyOne_same s id).1).trans (setW_len s id _)

theorem foldl_applyOne (l : List Nat) (t : St) :
    (l.foldl applyOne t).watchers = t.watchers ∧ (l.foldl applyOne t).nfds = t.nfds ∧
    (l.foldl applyOne t).wq = t.wq ∧ (l.foldl applyOne t).ws.length = t.ws.length ∧
    ∀ id, (getW (l.foldl applyOne t) id).fd = (getW t id).fd ∧
      (getW (l.foldl applyOne t) id).pevents = (getW t id).pevents ∧
      (getW (l.foldl applyOne t) id).events =
        if id ∈ l ∧ id < t.ws.length then (getW t id).pevents else (getW t id).events := by
  induction l generalizing t with
  | nil => simp
  | cons a r ih =>
    simp only [List.foldl_cons]
    have hs := applyOne_same t a
    have hl := applyOne_len t a
    obtain ⟨h1, h2, h3, h4, h5⟩ := ih (applyOne t a)
    refine ⟨h1.trans hs.2.1, h2.trans hs.2.2.1, h3.trans hs.2.2.2, h4.trans hl, fun id => ?_⟩
    obtain ⟨f1, f2, f3⟩ := h5 id
    rw [f1, f2, f3, applyOne_getW, hl]
    by_cases hc : id = a ∧ a < t.ws.length
    · rw [if_pos hc]; obtain ⟨rfl, hlt⟩ := hc
      simp [hlt]
    · rw [if_neg hc]
      refine ⟨rfl, rfl, ?_⟩
      by_cases hr : id ∈ r ∧ id < t.ws.length
      · rw [if_pos hr, if_pos ⟨List.mem_cons_of_mem _ hr.1, hr.2⟩]
      · rw [if_neg hr]; symm; apply if_neg; intro h
        rcases List.mem_cons.mp h.1 with e | e
        · exact hc ⟨e, e ▸ h.2⟩
        · exact hr ⟨e, h.2⟩

theorem applied_applyQueue (s : St) : Applied s (applyQueue s) := by
  unfold applyQueue
  obtain ⟨h1, h2, h3, h4, h5⟩ := foldl_applyOne s.wq { s with wq := [] }
  exact ⟨h1, h2, h3, h4, fun id => (h5 id).1, fun id => (h5 id).2.1, fun id => (h5 id).2.2⟩

theorem reach_applyQueue (s : St) : Reach s (applyQueue s) := .step (.applied (applied_applyQueue s))

/-- whatever `flushAll`, `emit`, the batch fields and event dispatch preserve holds at the end of the poll loop
if it holds at its first `epoll_pwait` -/
theorem pollLoop_ind (sc : Script) (P : St → Prop) (hflush : ∀ s, P s → P (flushAll s))
    (hemit : ∀ s e, P s → P (emit s e)) (hbatch : ∀ s b i, P s → P { s with batch := b, inv := i })
    (hdisp : ∀ s i n, P s → P (dispatchFrom sc s i n).1) (bs : List Batch) :
    ∀ (s : St) (t0 : Bool) (count : Nat), P (flushAll s) → P (flushAll (pollLoop sc s t0 count bs)) := by
  induction bs with
  | nil =>
    intro s t0 count h
    unfold pollLoop
    exact iteInduction (motive := fun x => P (flushAll x)) (fun _ => h) fun _ => hflush _ (hemit _ _ (hemit _ _ h))
  | cons b rest ih =>
    intro s t0 count h
    unfold pollLoop
    refine iteInduction (motive := fun x => P (flushAll x)) (fun _ => h) fun _ => ?_
    refine iteInduction (motive := fun x => P (flushAll x)) (fun _ => hflush _ h) fun _ => ?_
    have h0 := hemit _ (.batch b) (hemit _ (.block t0 (interestOf (flushAll s))) h)
    generalize emit (emit (flushAll s) (.block t0 (interestOf (flushAll s)))) (.batch b) = s0 at h0 ⊢
    refine iteInduction (motive := fun x => P (flushAll x)) (fun _ => hflush _ h0) fun _ => ?_
    have h1 := hdisp _ 0 b.length (hbatch s0 b true h0)
    generalize dispatchFrom sc { s0 with batch := b, inv := true } 0 b.length = r at h1 ⊢
    have h2 := hflush _ (hbatch r.1 [] false h1)
    refine iteInduction (motive := fun x => P (flushAll x)) (fun _ => h2) fun _ => ?_
    refine iteInduction (motive := fun x => P (flushAll x)) (fun _ => ?_) fun _ => ?_
    · exact iteInduction (motive := fun x => P (flushAll x)) (fun _ => ih _ _ _ h2) fun _ => h2
    · exact iteInduction (motive := fun x => P (flushAll x)) (fun _ => h2) fun _ => ih _ _ _ h2

theorem reach_ioPoll (sc : Script) (s : St) (t0 : Bool) (bs : List Batch) : Reach s (ioPoll sc s t0 bs) := by
  unfold ioPoll
  refine iteInduction (motive := Reach s) (fun _ => reach_applyQueue s) fun _ => ?_
  exact pollLoop_ind sc (Reach s) (fun t h => h.trans (same_flushAll t).reach)
    (fun t e h => h.trans (same_emit t e).reach) (fun t b i h => h.trans (Same4.reach ⟨rfl, rfl, rfl, rfl⟩))
    (fun t i n h => h.trans (reach_dispatchFrom sc t i n)) bs _ t0 48
    ((reach_applyQueue s).trans (same_flushAll _).reach)

theorem reach_runPend (sc : Script) (s : St) (n : Nat) : Reach s (runPend sc s n) := by
  induction n generalizing s with
  | zero => exact .refl _
  | succ n ih =>
    unfold runPend; split
    · exact .refl _
    · rename_i id rest _
      exact Reach.trans (Reach.trans (Same4.reach (t := { s with pendingRun := rest }) ⟨rfl, rfl, rfl, rfl⟩)
        (reach_deliver _ _ _ _)) (ih _)

theorem reach_runPending (sc : Script) (s : St) : Reach s (runPending sc s) := by
  unfold runPending
  exact Reach.trans (Same4.reach (t := { s with pendingRun := s.pending, pending := [] }) ⟨rfl, rfl, rfl, rfl⟩)
    (reach_runPend _ _ _)

theorem reach_pend8 (sc : Script) (n : Nat) (s : St) : Reach s (pend8 sc n s) := by
  induction n generalizing s with
  | zero => exact .refl _
  | succ n ih =>
    unfold pend8; split
    · exact .refl _
    · exact Reach.trans (reach_runPending sc s) (ih _)

theorem same_foldl_emit (l : List Nat) (s : St) : Same4 s (l.foldl (fun s id => emit s (.cbClose id)) s) := by
  induction l generalizing s with
  | nil => exact Same4.refl _
  | cons a r ih => exact (same_emit s _).trans (ih _)

theorem reach_runClosing (s : St) : Reach s (runClosing s) := by
  unfold runClosing
  have a : Same4 s { s with closingQ := [] } := ⟨rfl, rfl, rfl, rfl⟩
  exact (a.trans (same_foldl_emit _ _)).reach

theorem reach_run (sc : Script) (s : St) (bs : List Batch) : Reach s (run sc s bs) :=
  iteInduction (motive := Reach s) (fun _ => .refl _) fun _ =>
    ((((reach_runPending sc s).trans (reach_ioPoll ..)).trans (reach_pend8 ..)).trans (reach_runClosing _)).trans
      (same_emit _ _).reach

theorem reach_exec (sc : Script) (s : St) (p : List Cmd) : Reach s (exec sc s p) := by
  unfold exec
  induction p generalizing s with
  | nil => exact .refl _
  | cons c r ih =>
    refine Reach.trans ?_ (ih _)
    cases c with
    | op o => exact reach_execOp s o
    | run bs => exact reach_run sc s bs

theorem sinv_init (ring : Bool) (internal nw : Nat) : SInv (init ring internal nw) := by
  refine ⟨by simp [init, List.countP_replicate], by simp [init], ?_, ?_, ?_, ?_⟩
  · intro fd id h; simp [init, watcherAt, List.getD_eq_getElem?_getD, List.getElem?_replicate] at h
    split at h <;> simp at h
  · intro id; simp [init, getW]; exact ⟨rfl, rfl⟩
  · intro fd id h; simp [init, watcherAt, List.getD_eq_getElem?_getD, List.getElem?_replicate] at h
    split at h <;> simp at h
  · intro fd id h; simp [init, watcherAt, List.getD_eq_getElem?_getD, List.getElem?_replicate] at h
    split at h <;> simp at h

end UvModel.IoWatch
