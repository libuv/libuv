import UvModel.Puny
/-!
  The destination of `uv__idna_toascii` is reached only through the guarded store `Buf.put`, and which
  bytes are stored does not depend on it: two runs on different destinations perform the same stores
  (`Par`), and a destination keeps as many of them as it has room for (`putAll_out`).
-/
namespace UvModel.Puny

/-- a sequence of guarded stores -/
def putAll (b : Buf) (l : List Nat) : Buf := l.foldl Buf.put b

theorem putAll_append (b : Buf) (l1 l2 : List Nat) : putAll b (l1 ++ l2) = putAll (putAll b l1) l2 :=
  List.foldl_append ..

theorem putAll_out (l : List Nat) (b : Buf) :
    (putAll b l).out = b.out ++ l.take (b.cap - b.out.length) ∧ (putAll b l).cap = b.cap := by
  induction l generalizing b with
  | nil => exact ⟨by rw [List.take_nil, List.append_nil]; rfl, rfl⟩
  | cons a r ih =>
    obtain ⟨h1, h2⟩ := ih (b.put a)
    refine ⟨h1.trans ?_, h2.trans ?_⟩ <;> unfold Buf.put <;> split
    · rw [List.length_append, List.length_singleton, List.append_assoc,
        show b.cap - b.out.length = b.cap - (b.out.length + 1) + 1 by omega, List.take_succ_cons]
      rfl
    · rw [show b.cap - b.out.length = 0 by omega, List.take_zero, List.take_zero]
    · rfl
    · rfl

def Par (b0 b0' b b' : Buf) : Prop := ∃ l, b = putAll b0 l ∧ b' = putAll b0' l

theorem Par.refl (b0 b0' : Buf) : Par b0 b0' b0 b0' := ⟨[], rfl, rfl⟩

theorem Par.put {b0 b0' b b' : Buf} (h : Par b0 b0' b b') (c : Nat) : Par b0 b0' (b.put c) (b'.put c) := by
  obtain ⟨l, rfl, rfl⟩ := h
  exact ⟨l ++ [c], by rw [putAll_append]; rfl, by rw [putAll_append]; rfl⟩

theorem Par.cap_prefix_le {b0 b0' b b' : Buf} (h : Par b0 b0' b b') :
    b.cap = b0.cap ∧ b0.out <+: b.out ∧ (b0.out.length ≤ b0.cap → b.out.length ≤ b0.cap) := by
  obtain ⟨l, rfl, -⟩ := h
  obtain ⟨h1, h2⟩ := putAll_out l b0
  refine ⟨h2, h1 ▸ List.prefix_append _ _, fun h0 => ?_⟩
  rw [h1, List.length_append, List.length_take]; omega

theorem writeAscii_par (cps : List UInt32) (x h : UInt32) {b0 b0' b b' : Buf} (hs : Par b0 b0' b b') :
    Par b0 b0' (writeAscii cps x h b) (writeAscii cps x h b') := by
  induction cps generalizing x b b' with
  | nil => exact hs
  | cons c cs ih =>
    unfold writeAscii
    split
    · exact ih x hs
    · simp only []
      split
      · exact hs.put _
      · exact ih _ (hs.put _)

theorem digits_par (bias k q : Nat) {b0 b0' b b' : Buf} (hs : Par b0 b0' b b') :
    Par b0 b0' (digits bias k q b) (digits bias k q b') := by
  fun_induction digits bias k q b generalizing b' with
  | case1 k q b h => rw [digits, if_pos h]; exact hs.put _
  | case2 k q b h x y => rename_i ih; rw [digits.eq_def bias k q b', if_neg h]; exact ih (hs.put _)

def StPar (b0 b0' : Buf) (s s' : St) : Prop :=
  s.h = s'.h ∧ s.todo = s'.todo ∧ s.bias = s'.bias ∧ s.delta = s'.delta ∧ s.first = s'.first ∧
    Par b0 b0' s.buf s'.buf

theorem inner_par (n : UInt32) (cps : List UInt32) {b0 b0' : Buf} {s s' : St} (hs : StPar b0 b0' s s') :
    StPar b0 b0' (inner n cps s).1 (inner n cps s').1 ∧ (inner n cps s).2 = (inner n cps s').2 := by
  induction cps generalizing s s' with
  | nil => exact ⟨hs, rfl⟩
  | cons c cs ih =>
    obtain ⟨h1, h2, h3, h4, h5, h6⟩ := hs
    rw [inner, inner]
    simp only [← h1, ← h2, ← h3, ← h4, ← h5]
    generalize (if c < n then s.delta + 1 else s.delta) = d1
    by_cases c1 : c < n ∧ d1 = 0
    · rw [if_pos c1, if_pos c1]; exact ⟨⟨rfl, rfl, rfl, rfl, rfl, h6⟩, rfl⟩
    · rw [if_neg c1, if_neg c1]
      by_cases c2 : c ≠ n
      · rw [if_pos c2, if_pos c2]; exact ih ⟨rfl, rfl, rfl, rfl, rfl, h6⟩
      · rw [if_neg c2, if_neg c2]
        exact ih ⟨rfl, rfl, rfl, rfl, rfl, digits_par _ _ _ h6⟩

theorem outer_par (fuel : Nat) (cps : List UInt32) (n : UInt32) {b0 b0' : Buf} {s s' : St}
    (hs : StPar b0 b0' s s') :
    (outer fuel cps n s).1 = (outer fuel cps n s').1 ∧
      Par b0 b0' (outer fuel cps n s).2 (outer fuel cps n s').2 := by
  induction fuel generalizing n s s' with
  | zero => exact ⟨rfl, hs.2.2.2.2.2⟩
  | succ f ih =>
    obtain ⟨sh, st, sb, sd, sf, sbuf⟩ := s
    obtain ⟨sh', st', sb', sd', sf', sbuf'⟩ := s'
    obtain ⟨rfl, rfl, rfl, rfl, rfl, h6⟩ := hs
    rw [outer, outer]
    simp only []
    split
    · split
      · exact ⟨rfl, h6⟩
      · have hi := inner_par (minGE n cps 0xFFFFFFFF) cps
          (s := ⟨sh, st, sb, sd + (minGE n cps 0xFFFFFFFF - n) * (sh + 1), sf, sbuf⟩)
          (s' := ⟨sh, st, sb, sd + (minGE n cps 0xFFFFFFFF - n) * (sh + 1), sf, sbuf'⟩)
          ⟨rfl, rfl, rfl, rfl, rfl, h6⟩
        generalize inner (minGE n cps 0xFFFFFFFF) cps ⟨sh, st, sb, _, sf, sbuf⟩ = r at hi ⊢
        generalize inner (minGE n cps 0xFFFFFFFF) cps ⟨sh, st, sb, _, sf, sbuf'⟩ = r' at hi ⊢
        obtain ⟨⟨g1, g2, g3, g4, g5, g6⟩, g7⟩ := hi
        rw [← g7]
        split
        · exact ⟨rfl, g6⟩
        · exact ih _ ⟨g1, g2, g3, by rw [g4], g5, g6⟩
    · exact ⟨rfl, h6⟩

theorem label_par (bytes : List Nat) {b0 b0' b b' : Buf} (hs : Par b0 b0' b b') :
    (label bytes b).1 = (label bytes b').1 ∧ Par b0 b0' (label bytes b).2 (label bytes b').2 := by
  unfold label
  split
  · exact ⟨rfl, hs⟩
  · rename_i vs _
    simp only []
    generalize countLoop (vs.map Nat.toUInt32) 0 0 = p
    obtain ⟨h, todo⟩ := p
    have hw : Par b0 b0'
        (writeAscii (vs.map Nat.toUInt32) 0 h (if todo > 0 then (((b.put 120).put 110).put 45).put 45 else b))
        (writeAscii (vs.map Nat.toUInt32) 0 h (if todo > 0 then (((b'.put 120).put 110).put 45).put 45 else b')) := by
      apply writeAscii_par
      split
      · exact (((hs.put _).put _).put _).put _
      · exact hs
    simp only []
    split
    · exact ⟨rfl, hw⟩
    · split
      · exact outer_par _ _ _ ⟨rfl, rfl, rfl, rfl, rfl, hw.put _⟩
      · exact outer_par _ _ _ ⟨rfl, rfl, rfl, rfl, rfl, hw⟩

/-- idna.c:362-366: the terminator is stored only if there is room for it -/
def addNul (b : Buf) : Int × Buf :=
  if b.out.length ≥ b.cap then (UV_EINVAL, b) else (((b.out ++ [0]).length : Nat), { b with out := b.out ++ [0] })

def ScanPar (b0 b0' : Buf) (r r' : Int × Buf) : Prop :=
  (r.1 < 0 ∧ r.1 = r'.1 ∧ Par b0 b0' r.2 r'.2) ∨ ∃ c c', Par b0 b0' c c' ∧ r = addNul c ∧ r' = addNul c'

/-- idna.c:355-360: the label after the last separator, if there is one -/
def lastLabel (acc : List Nat) (b : Buf) : Int × Buf := if acc ≠ [] then label acc b else (0, b)

theorem lastLabel_par (acc : List Nat) {b0 b0' b b' : Buf} (hs : Par b0 b0' b b') :
    (lastLabel acc b).1 = (lastLabel acc b').1 ∧ Par b0 b0' (lastLabel acc b).2 (lastLabel acc b').2 := by
  unfold lastLabel
  split
  · exact label_par acc hs
  · exact ⟨rfl, hs⟩

theorem scan_nil (acc : List Nat) (b : Buf) :
    scan acc [] b = if (lastLabel acc b).1 < 0 then lastLabel acc b else addNul (lastLabel acc b).2 := by
  rw [scan]; rfl

theorem scan_par (acc rest : List Nat) {b0 b0' b b' : Buf} (hs : Par b0 b0' b b') :
    ScanPar b0 b0' (scan acc rest b) (scan acc rest b') := by
  match rest with
  | [] =>
    have hl := lastLabel_par acc hs
    rw [scan_nil, scan_nil]
    generalize lastLabel acc b = r at hl ⊢
    generalize lastLabel acc b' = r' at hl ⊢
    by_cases h1 : r.1 < 0
    · rw [if_pos h1, if_pos (hl.1 ▸ h1)]; exact Or.inl ⟨h1, hl.1, hl.2⟩
    · rw [if_neg h1, if_neg (hl.1 ▸ h1)]; exact Or.inr ⟨_, _, hl.2, rfl, rfl⟩
  | a :: r =>
    rw [scan, scan]
    split
    · exact Or.inl ⟨(by decide : UV_EINVAL < 0), rfl, hs⟩
    · split
      · exact scan_par _ _ hs
      · have hl := label_par acc hs
        simp only []
        by_cases h1 : (label acc b).1 < 0
        · rw [if_pos h1, if_pos (hl.1 ▸ h1)]; exact Or.inl ⟨h1, hl.1, hl.2⟩
        · rw [if_neg h1, if_neg (hl.1 ▸ h1)]; exact scan_par _ _ (hl.2.put 46)
termination_by rest.length
decreasing_by all_goals (simp only [List.length_drop, List.length_cons]; omega)

theorem toascii_par (s : List Nat) (cap cap' : Nat) :
    ScanPar { cap := cap } { cap := cap' } (toascii s cap) (toascii s cap') := by
  unfold toascii
  split
  · exact Or.inl ⟨(by decide : UV_EINVAL < 0), rfl, Par.refl _ _⟩
  · exact scan_par [] s (Par.refl _ _)

theorem addNul_putAll (l : List Nat) (cap : Nat) :
    (cap ≤ l.length → (addNul (putAll { cap := cap } l)).1 = UV_EINVAL) ∧
    (l.length < cap → addNul (putAll { cap := cap } l) = (((l.length + 1 : Nat) : Int), { out := l ++ [0], cap := cap })) := by
  obtain ⟨h1, h2⟩ := putAll_out l { cap := cap }
  simp only [List.nil_append, List.length_nil, Nat.sub_zero] at h1 h2
  unfold addNul
  rw [h1, h2, List.length_take]
  refine ⟨fun h => ?_, fun h => ?_⟩
  · rw [if_pos (by show min cap l.length ≥ cap; omega)]
  · rw [if_neg (by show ¬ min cap l.length ≥ cap; omega), List.take_of_length_le (by omega), List.length_append]
    rfl

theorem ScanPar.success {b0 b0' : Buf} {r r' : Int × Buf} (h : ScanPar b0 b0' r r') (h0 : 0 ≤ r.1) :
    ∃ pre, r.2.out = pre ++ [0] ∧ r.1 = ((pre.length + 1 : Nat) : Int) ∧ pre.length + 1 ≤ b0.cap := by
  rcases h with ⟨h1, -, -⟩ | ⟨c, c', p, rfl, -⟩
  · omega
  · unfold addNul at h0 ⊢
    split
    · rw [if_pos ‹_›] at h0; exact absurd (show (0 : Int) ≤ UV_EINVAL from h0) (by decide)
    · exact ⟨c.out, rfl, by rw [List.length_append]; rfl, by rw [← p.cap_prefix_le.1]; omega⟩

theorem ScanPar.le {b0 b0' : Buf} {r r' : Int × Buf} (h : ScanPar b0 b0' r r') (h0 : b0.out.length ≤ b0.cap) :
    r.2.cap = b0.cap ∧ r.2.out.length ≤ b0.cap := by
  rcases h with ⟨-, -, p⟩ | ⟨c, c', p, rfl, -⟩
  · exact ⟨p.cap_prefix_le.1, p.cap_prefix_le.2.2 h0⟩
  · obtain ⟨e1, -, e3⟩ := p.cap_prefix_le
    unfold addNul
    split
    · exact ⟨e1, e3 h0⟩
    · refine ⟨e1, ?_⟩
      show (c.out ++ [0]).length ≤ b0.cap
      rw [List.length_append, List.length_singleton, ← e1]; omega

theorem scan_success (acc rest : List Nat) (b : Buf) (h : 0 ≤ (scan acc rest b).1) :
    ∃ pre, (scan acc rest b).2.out = pre ++ [0] ∧ (scan acc rest b).1 = ((pre.length + 1 : Nat) : Int) :=
  let ⟨pre, e1, e2, _⟩ := (scan_par acc rest (Par.refl b b)).success h
  ⟨pre, e1, e2⟩
end UvModel.Puny
