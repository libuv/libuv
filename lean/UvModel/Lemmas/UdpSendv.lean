import UvModel.Udp
/-! The sending system calls and `uv__udp_sendmsgv`: what reaches the OS is always the first `ret` datagrams of
the batch, and a negative `ret` is the mapped errno of a logged call that carried the head of the batch. -/
namespace UvModel.Udp

theorem errnoOf_pos (e : Nat) : 1 ≤ errnoOf e := by
  unfold errnoOf; split <;> omega

theorem wireOf_append (a b : List KCall) : wireOf (a ++ b) = wireOf a ++ wireOf b := by
  simp [wireOf]

theorem wireOf_nil : wireOf [] = [] := rfl

theorem mapErr_neg {r : Int} (h : r < 0) : mapErr r < 0 := by
  unfold mapErr UV_EAGAIN; split <;> omega

theorem mapErr_nonpos {r : Int} (h : r ≤ 0) : mapErr r ≤ 0 := by
  unfold mapErr UV_EAGAIN; split <;> omega

theorem mapErr_idem (r : Int) : mapErr (mapErr r) = mapErr r := by
  unfold mapErr UV_EAGAIN EAGAIN ENOBUFS
  repeat' split
  all_goals omega

theorem kRetry_wire (m : List Dgram) (mmsg : Bool) (outs : List SOut) :
    wireOf (kRetry m mmsg outs).log = m.take (kRetry m mmsg outs).r.toNat := by
  induction outs with
  | nil => simp [kRetry, wireOf, KCall.accepted]
  | cons o t ih =>
    cases o with
    | sent k => simp [kRetry, wireOf, KCall.accepted]
    | err e =>
      simp only [kRetry]
      split
      · simp only [wireOf, List.flatMap_cons] at ih ⊢
        rw [ih]; simp [KCall.accepted, EINTR]
      · have := errnoOf_pos e
        simp [wireOf, KCall.accepted]

theorem kRetry_range (m : List Dgram) (mmsg : Bool) (outs : List SOut) (hm : m ≠ []) :
    (1 ≤ (kRetry m mmsg outs).r ∧ (kRetry m mmsg outs).r ≤ m.length) ∨
    ((kRetry m mmsg outs).r < 0 ∧
      ∃ c ∈ (kRetry m mmsg outs).log, c.res = (kRetry m mmsg outs).r ∧ c.offered = m) := by
  have hl : 1 ≤ m.length := List.length_pos_iff.mpr hm
  induction outs with
  | nil => exact Or.inl ⟨Int.ofNat_le.mpr hl, Int.le_refl _⟩
  | cons o t ih =>
    cases o with
    | sent k => left; cases mmsg <;> simp [kRetry] <;> omega
    | err e =>
      simp only [kRetry]
      split
      · refine ih.imp_right fun ⟨h, c, hc, hr⟩ => ⟨h, c, List.mem_cons_of_mem _ hc, hr⟩
      · right; have := errnoOf_pos e
        exact ⟨by simp; omega, _, List.mem_singleton.mpr rfl, rfl, rfl⟩

theorem fill_eq (all : List Dgram) (i n f : Nat) :
    fill all i all.length n f = (all.drop (i + n)).take f := by
  induction f generalizing n with
  | zero => simp [fill]
  | succ f ih =>
    simp only [fill]
    split
    · rename_i h
      rw [ih (n + 1), List.drop_eq_getElem_cons h]
      simp [List.getElem?_eq_getElem h, Nat.add_assoc]
    · rw [List.drop_eq_nil_of_le (by omega)]; rfl

theorem sendmsg1_spec (d : Dgram) (outs : List SOut) :
    wireOf (sendmsg1 d outs).log = [d].take (sendmsg1 d outs).r.toNat ∧
    ((sendmsg1 d outs).r = 1 ∨ ((sendmsg1 d outs).r < 0 ∧ (prepOk d = true →
      ∃ c ∈ (sendmsg1 d outs).log, c.res < 0 ∧ c.offered = [d] ∧ (sendmsg1 d outs).r = mapErr c.res))) := by
  have hw := kRetry_wire [d] false outs
  have hr := kRetry_range [d] false outs (List.cons_ne_nil _ _)
  unfold sendmsg1
  split
  · exact ⟨rfl, Or.inr ⟨(by decide : UV_EINVAL < 0), fun h => by simp_all⟩⟩
  generalize kRetry [d] false outs = k at hw hr
  rcases hr with ⟨h1, h2⟩ | ⟨h, c, hc, hres, hoff⟩
  · rw [if_neg (Int.not_lt.mpr (Int.le_trans Int.one_nonneg h1))]
    exact ⟨by rw [hw, Int.le_antisymm h2 h1]; rfl, Or.inl rfl⟩
  · rw [if_pos h]
    have := mapErr_neg h
    exact ⟨by rw [hw, Int.toNat_of_nonpos (Int.le_of_lt h), Int.toNat_of_nonpos (Int.le_of_lt this)],
      Or.inr ⟨this, fun _ => ⟨c, hc, hres ▸ h, hoff, by rw [hres]⟩⟩⟩

/-- why the sendmmsg loop stopped when this round sent nothing: the loop condition or uv__udp_prep_pkt
(`sys = false`), or a failed sendmmsg call, logged, whose first datagram is the `i`-th -/
def MmsgExit (all : List Dgram) (i : Nat) (r : Int) (l : LoopRes) : Prop :=
  (l.sys = false ∧ (l.r = r ∨ (l.r = UV_EINVAL ∧ ¬ ∀ d ∈ all, prepOk d = true))) ∨
  (l.sys = true ∧ l.r < 0 ∧ ∃ c ∈ l.log, c.res = l.r ∧ c.offered.head? = all[i]?)

theorem mmsgLoop_spec (all : List Dgram) (fuel i : Nat) (r : Int) (outs : List SOut) (log : List KCall)
    (hi : i ≤ all.length) (hw : wireOf log = all.take i) {l : LoopRes}
    (hl : mmsgLoop all all.length fuel i i r outs log = l) :
    wireOf l.log = all.take l.nsent ∧ i ≤ l.nsent ∧ l.nsent ≤ all.length ∧ (l.nsent = i → MmsgExit all i r l) := by
  induction fuel generalizing i r outs log with
  | zero => subst hl; exact ⟨hw, Nat.le_refl i, hi, fun _ => Or.inl ⟨rfl, Or.inl rfl⟩⟩
  | succ f ih =>
    have stop : ∀ r', r' = r ∨ (r' = UV_EINVAL ∧ ¬ ∀ d ∈ all, prepOk d = true) →
        wireOf log = all.take i ∧ i ≤ i ∧ i ≤ all.length ∧ (i = i → MmsgExit all i r ⟨r', i, outs, log, false⟩) :=
      fun r' h => ⟨hw, Nat.le_refl i, hi, fun _ => Or.inl ⟨rfl, h⟩⟩
    have hm : fill all i all.length 0 20 = (all.drop i).take 20 := fill_eq all i 0 20
    rw [mmsgLoop, hm] at hl
    by_cases hlt : i < all.length
    · rw [if_pos hlt] at hl
      by_cases hall : ((all.drop i).take 20).all prepOk = true
      · rw [if_pos hall] at hl
        have hlen : ((all.drop i).take 20).length = min 20 (all.length - i) := by
          rw [List.length_take, List.length_drop]
        have hrange := kRetry_range _ true outs (List.ne_nil_of_length_pos (by
          rw [hlen]; exact Nat.lt_min.mpr ⟨by decide, Nat.sub_pos_of_lt hlt⟩))
        have hwk := kRetry_wire ((all.drop i).take 20) true outs
        generalize kRetry ((all.drop i).take 20) true outs = k at hrange hwk hl
        dsimp only at hl
        by_cases hlt1 : k.r < 1
        · rw [if_pos hlt1] at hl
          obtain ⟨hneg, c, hc, hres, hoff⟩ := hrange.resolve_left fun h => Int.not_le.mpr hlt1 h.1
          have h0 : k.r.toNat = 0 := Int.toNat_of_nonpos (Int.le_of_lt hneg)
          subst hl
          refine ⟨?_, Nat.le_refl i, hi, fun _ => Or.inr ⟨rfl, hneg, c, List.mem_append_right _ hc, hres, ?_⟩⟩
          · rw [wireOf_append, hw, hwk, h0, List.take_zero, List.append_nil]
          · rw [hoff, List.head?_take, if_neg (by decide), List.head?_drop]
        · rw [if_neg hlt1] at hl
          obtain ⟨hk1, hk2⟩ := hrange.resolve_right fun h => hlt1 (Int.lt_trans h.1 Int.one_pos)
          have hn : (k.r.toNat : Int) = k.r := Int.toNat_of_nonneg (Int.le_trans Int.one_nonneg hk1)
          generalize k.r.toNat = n at hn hl hwk
          have hk3 : 1 ≤ n ∧ n ≤ 20 ∧ i + n ≤ all.length := by omega
          obtain ⟨h1, h2, h3, _⟩ := ih (i + n) k.r k.outs (log ++ k.log) hk3.2.2 (by
            rw [wireOf_append, hw, hwk, List.take_take, Nat.min_eq_left hk3.2.1, List.take_add]) hl
          exact ⟨h1, Nat.le_trans (Nat.le_add_right i n) h2, h3, fun h => by omega⟩
      · rw [if_neg hall] at hl
        subst hl
        refine stop _ (Or.inr ⟨rfl, fun h => hall (List.all_eq_true.mpr fun d hd => h d ?_)⟩)
        exact List.mem_of_mem_drop (List.mem_of_mem_take hd)
    · rw [if_neg hlt] at hl; subst hl; exact stop r (Or.inl rfl)

/-- the fuel of `mmsgLoop` does not matter once it covers the datagrams left: every round takes at least one -/
theorem mmsgLoop_fuel (all : List Dgram) (count f1 f2 i nsent : Nat) (r : Int) (outs : List SOut) (log : List KCall)
    (h1 : count - i ≤ f1) (h2 : count - i ≤ f2) :
    mmsgLoop all count f1 i nsent r outs log = mmsgLoop all count f2 i nsent r outs log := by
  induction f1 generalizing f2 i nsent r outs log with
  | zero =>
    cases f2 with
    | zero => rfl
    | succ f2 => rw [mmsgLoop, mmsgLoop, if_neg (by omega)]
  | succ f1 ih =>
    cases f2 with
    | zero => rw [mmsgLoop, mmsgLoop, if_neg (by omega)]
    | succ f2 =>
      simp only [mmsgLoop]
      exact ite_congr rfl (fun _ => ite_congr rfl (fun _ => ite_congr rfl (fun _ => rfl)
        fun hk => ih _ _ _ _ _ _ (by omega) (by omega)) fun _ => rfl) fun _ => rfl

/-- uv__udp_sendmsgv, for every batch and outcome schedule: exactly the first `ret` datagrams went to the OS
(none when `ret ≤ 0`), and a negative `ret` on a batch that passes uv__udp_prep_pkt is the mapped errno of a failed
system call whose first datagram is the first of the batch -/
theorem sendmsgv_spec (all : List Dgram) (outs : List SOut) :
    wireOf (sendmsgv all outs).log = all.take (sendmsgv all outs).ret.toNat
    ∧ (sendmsgv all outs).ret ≤ all.length
    ∧ ((sendmsgv all outs).ret < 0 → (∀ d ∈ all, prepOk d = true) →
        ∃ c ∈ (sendmsgv all outs).log, c.res < 0 ∧ c.offered.head? = all.head?
          ∧ (sendmsgv all outs).ret = mapErr c.res) := by
  generalize hv : sendmsgv all outs = v
  by_cases hc : all.length > 1
  · simp only [sendmsgv, hc, if_true] at hv
    generalize hl : mmsgLoop all all.length all.length 0 0 0 outs [] = l at hv
    obtain ⟨h1, _, h3, h4⟩ := mmsgLoop_spec all all.length 0 0 outs [] (Nat.zero_le _) rfl hl
    subst hv
    simp only [vExit]
    split
    · exact ⟨h1, Int.ofNat_le.mpr h3, fun h => absurd h (Int.not_lt.mpr (Int.natCast_nonneg _))⟩
    · have hz : l.nsent = 0 := Nat.eq_zero_of_not_pos ‹_›
      rw [hz] at h1
      have h0 : (0 : Int) ≤ all.length := Int.natCast_nonneg _
      rcases h4 hz with ⟨hs, hr | ⟨hr, hp⟩⟩ | ⟨hs, hr, c, hc, hres, hoff⟩ <;> simp only [hs, if_true, Bool.false_eq_true, if_false]
      · rw [hr]; exact ⟨h1, h0, fun h => absurd h (Int.lt_irrefl 0)⟩
      · rw [hr]; exact ⟨h1, Int.le_trans (by decide) h0, fun _ h => absurd h hp⟩
      · have := mapErr_neg hr
        refine ⟨by rw [h1, Int.toNat_of_nonpos (Int.le_of_lt this)], Int.le_trans (Int.le_of_lt this) h0,
          fun _ _ => ⟨c, hc, hres ▸ hr, ?_, by rw [hres]⟩⟩
        rw [hoff, List.head?_eq_getElem?]
  · simp only [sendmsgv, hc, if_false] at hv
    match all, hc with
    | [], _ => subst hv; simp [msgLoop, vExit, wireOf_nil]
    | [d], _ =>
      obtain ⟨hw, hr⟩ := sendmsg1_spec d outs
      have hne : (sendmsg1 d outs).r ≠ 0 := by omega
      simp only [msgLoop, hne, ne_eq, not_false_eq_true, if_true, vExit, Nat.lt_irrefl, if_false, List.nil_append,
        Bool.false_eq_true] at hv
      subst hv
      refine ⟨hw, by simp; omega, fun h hp => ?_⟩
      have h : (sendmsg1 d outs).r < 0 := h
      obtain ⟨c, hc, h1, h2, h3⟩ := (hr.resolve_left (by omega)).2 (hp d (List.mem_singleton.mpr rfl))
      exact ⟨c, hc, h1, by rw [h2], h3⟩
    | _ :: _ :: _, h => simp at h

end UvModel.Udp
