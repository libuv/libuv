import UvModel.LoopRun
import UvModel.Lemmas.LoopCore
/-!
  What an API call can do to the state, as far as any accounting invariant can see.

  `key s` collects every component that some invariant of the loop reads: the flag core, the id counters, kind
  and request slots of the handle records, the request registry, the thread-pool and ring queues, the closing
  lists, the trace and the callback counter, the halt marker, the poller's future answers and the detached
  watcher queue (`closed` is not among them: no invariant speaks of it).  A change that leaves `key` alone
  (`OpStep.frame`) is invisible to all of them.  `OpStep` lists the other things `applyOp` does: the macro kernels
  (`KStep`, with `setInternal` of `uv_loop_init`), `uv_close`, handle creation, unlinking from the detached watcher
  queue, and the request-slot steps (`ReqStep`: the four registrations, the move `write_queue →
  write_completed_queue`, `uv_cancel`; its last three constructors are what the phases, not API calls, do to
  the thread-pool queues).  `applyOp_step` decomposes every API call into these, so an invariant is checked
  against the constructors of `OpStep` once instead of against the control flow of `applyOp`.
-/
namespace UvModel.Loop
open UvModel.HandleKernels

def hk (h : Handle) : Nat × Kind × List Nat × List (Nat × Int) × Option Nat := (h.id, h.kind, h.wq, h.wcq, h.connReq)

def key (s : State) :=
  (s.c, s.nextId, s.handles.map hk, s.ar, s.reqs, s.nextReq, s.running, s.poolQ, s.doneQ, s.doneLocal, s.ringQ,
   s.closing, s.closingLocal, s.trace, s.ncbTotal, s.halted, s.oracle, s.watcherLocal)

theorem c_of_key {s s' : State} (h : key s' = key s) : s'.c = s.c := congrArg Prod.fst h

theorem map_updH {β : Type} (F : Handle → β) (hs : List Handle) (id : Nat) (g : Handle → Handle) (hg : ∀ h, F (g h) = F h) :
    (updH hs id g).map F = hs.map F := by
  induction hs with
  | nil => rfl
  | cons x t ih =>
    simp only [updH]
    split
    · simp [hg]
    · simp [ih]

theorem key_modH (s : State) (id : Nat) (g : Handle → Handle) (hg : ∀ h, hk (g h) = hk h) :
    key (modH s id g) = key s := by
  simp only [key, modH, map_updH hk _ _ _ hg]

@[simp] theorem key_setIo (s : State) (w : W) (io : IoW) : key (setIo s w io) = key s := by
  cases w with
  | h id => exact key_modH _ _ _ (fun _ => rfl)
  | _ => rfl
@[simp] theorem key_ioStart (s : State) (w : W) (ev : Nat) : key (ioStart s w ev) = key s := by
  unfold ioStart; simp only
  split
  · exact key_setIo ..
  · split <;> exact key_setIo s w _
@[simp] theorem key_ioStop (s : State) (w : W) (ev : Nat) : key (ioStop s w ev) = key s := by
  unfold ioStop; simp only
  split; · rfl
  split
  · exact key_setIo s w _
  · split <;> exact key_setIo s w _
@[simp] theorem key_ioClose (s : State) (id : Nat) : key (ioClose s id) = key s := by
  unfold ioClose; simp only
  split <;> exact key_ioStop s (.h id) POLLALL
@[simp] theorem key_ioFeed (s : State) (id : Nat) : key (ioFeed s id) = key s := by
  unfold ioFeed; split <;> rfl
@[simp] theorem key_updateTime (s : State) : key (updateTime s) = key s := rfl
@[simp] theorem key_asyncSend (s : State) (id : Nat) : key (asyncSend s id) = key s := by
  unfold asyncSend; split; · rfl
  split
  · rfl
  · exact key_modH _ _ _ (fun _ => rfl)
@[simp] theorem key_initInotify (s : State) : key (initInotify s) = key s := by
  unfold initInotify; split; · rfl
  exact key_ioStart ..
@[simp] theorem key_setWList (s : State) (k : WKind) (l : List Nat) : key (setWList s k l) = key s := by
  cases k <;> rfl
@[simp] theorem key_ringInit (s : State) : key (ringInit s) = key s := by
  unfold ringInit; split <;> rfl
@[simp] theorem key_flushWatchers (s : State) : key (flushWatchers s) = key s := by
  have : ∀ (l : List W) (s : State),
      key (l.foldl (fun s w => let io := getIo s w; setIo s w { io with events := io.pevents }) s) = key s := by
    intro l; induction l with
    | nil => intro s; rfl
    | cons w t ih => intro s; exact (ih _).trans (key_setIo ..)
  exact this s.watcherQ s

/-- UV_HANDLE_CLOSING is not set on handle `id`, if it exists -/
def Open (c : Core) (id : Nat) : Prop := ∀ f, c.get id = some f → f.closing = false

theorem Open.of_key {s s' : State} {id : Nat} (h : key s' = key s) (ho : Open s.c id) : Open s'.c id :=
  c_of_key h ▸ ho

theorem of_lookF_updF_same {fl : List (Nat × HFlags)} {id : Nat} {f' g : HFlags}
    (h : lookF (updF fl id f') id = some g) : g = f' ∧ ∃ f, lookF fl id = some f := by
  induction fl with
  | nil => simp [updF, lookF] at h
  | cons e t ih =>
    by_cases he : (e.1 == id) = true
    · simp [updF, he, lookF] at h
      exact ⟨h.symm, e.2, by simp [lookF, he]⟩
    · have he' : (e.1 == id) = false := by simpa using he
      simp [updF, he', lookF] at h
      obtain ⟨h1, f, h2⟩ := ih h
      exact ⟨h1, f, by simp [lookF, he', h2]⟩

theorem get_apply_same {c : Core} {id : Nat} {k : HK → HK} {g : HFlags} (h : (c.apply id k).get id = some g) :
    ∃ f, c.get id = some f ∧ g = ofHK (k (toHK f c.ah)) := by
  unfold Core.apply at h
  cases hg : c.get id with
  | none => simp [hg] at h
  | some f =>
    simp only [hg] at h
    exact ⟨f, rfl, (of_lookF_updF_same (by simpa [Core.get] using h)).1⟩

theorem closing_stop (f : HFlags) (ah : Int) : (ofHK (handleStop (toHK f ah))).closing = f.closing := by
  rcases f with ⟨a, r, c, d, i⟩; cases a <;> cases r <;> rfl

theorem Open.stop {c : Core} {id : Nat} (h : Open c id) : Open (c.apply id handleStop) id := by
  intro g hg
  obtain ⟨f, hf, rfl⟩ := get_apply_same hg
  rw [closing_stop]; exact h f hf

theorem closing_start (f : HFlags) (ah : Int) : (ofHK (handleStart (toHK f ah))).closing = f.closing := by
  rcases f with ⟨a, r, c, d, i⟩; cases a <;> cases r <;> rfl

theorem Open.start {c : Core} {id : Nat} (h : Open c id) : Open (c.apply id handleStart) id := by
  intro g hg
  obtain ⟨f, hf, rfl⟩ := get_apply_same hg
  rw [closing_start]; exact h f hf

theorem getHF_getF {s : State} {id : Nat} {h : Handle} {f : HFlags} (hg : getHF s id = some (h, f)) :
    getF s id = some f := by
  unfold getHF at hg
  split at hg
  · rename_i h1 h2
    simp only [Option.some.injEq, Prod.mk.injEq] at hg
    rw [h2, hg.2]
  · simp at hg

theorem getHF_getH {s : State} {id : Nat} {h : Handle} {f : HFlags} (hg : getHF s id = some (h, f)) :
    getH s id = some h := by
  unfold getHF at hg
  split at hg
  · rename_i h1 h2
    simp only [Option.some.injEq, Prod.mk.injEq] at hg
    rw [h1, hg.1]
  · simp at hg

theorem hClosing_false {f : HFlags} (hc : hClosing f = false) : f.closing = false ∧ f.closed = false := by
  simpa [hClosing, isClosing, toHK] using hc

theorem Open.of_getHF {s : State} {id : Nat} {h : Handle} {f : HFlags} (hg : getHF s id = some (h, f))
    (hc : hClosing f = false) : Open s.c id := by
  intro f' hf'
  cases (getHF_getF hg).symm.trans hf'
  exact (hClosing_false hc).1

def hids (s : State) : List Nat := s.handles.map (·.id)

theorem getH_isSome_iff (s : State) (id : Nat) : (getH s id).isSome ↔ id ∈ hids s := by
  simp only [getH, hids, List.find?_isSome, List.mem_map]
  constructor
  · rintro ⟨h, hm, he⟩; exact ⟨h, hm, by simpa using he⟩
  · rintro ⟨h, hm, he⟩; exact ⟨h, hm, by simpa using he⟩

theorem find_id {hs : List Handle} {id : Nat} {h : Handle} (hf : hs.find? (·.id == id) = some h) : h.id = id := by
  have := List.find?_some hf
  simpa using this

theorem getH_id {s : State} {id : Nat} {h : Handle} (hg : getH s id = some h) : h.id = id := find_id hg

theorem getH_some_mem {s : State} {id : Nat} {h : Handle} (hg : getH s id = some h) : id ∈ hids s :=
  (getH_isSome_iff s id).mp (by simp [hg])

theorem getH_none_iff (s : State) (id : Nat) : getH s id = none ↔ id ∉ hids s := by
  rw [← getH_isSome_iff]; cases getH s id <;> simp

/-! ### `ringTake` only moves request ids from `ringQ` to `doneLocal` -/
theorem ringTake_nil (s : State) : ringTake s [] = s := rfl

theorem ringTake_cons (s : State) (r : Nat) (cq : List Nat) :
    ringTake s (r :: cq) =
      ringTake (if s.ringQ.contains r then
        { s with ringQ := s.ringQ.erase r, doneLocal := s.doneLocal ++ [(r, false)] } else s) cq := rfl

theorem ringTake_frame {α : Type} (f : State → α)
    (hf : ∀ (s : State) (q : List Nat) (d : List (Nat × Bool)), f { s with ringQ := q, doneLocal := d } = f s)
    (s : State) (cq : List Nat) : f (ringTake s cq) = f s := by
  induction cq generalizing s with
  | nil => rfl
  | cons r t ih =>
    rw [ringTake_cons, ih]
    split
    · exact hf s _ _
    · rfl

/-- what the flag accounting and the closing bookkeeping read -/
def hview (s : State) :=
  (s.c, s.nextId, s.handles.map (·.id), s.closing, s.closingLocal, s.trace, s.ncbTotal, s.halted, s.oracle, s.watcherLocal)

/-- what the request accounting reads -/
def rview (s : State) :=
  (s.handles.map hk, s.ar, s.reqs, s.nextReq, s.running, s.poolQ, s.doneQ, s.doneLocal, s.ringQ, s.trace, s.ncbTotal)

theorem hview_of_key {s s' : State} (h : key s' = key s) : hview s' = hview s := by
  simp only [key, Prod.mk.injEq] at h
  have hi : s'.handles.map (·.id) = s.handles.map (·.id) := by
    simpa [hk, List.map_map, Function.comp_def] using congrArg (List.map (·.1)) h.2.2.1
  simp only [hview, h, hi]

theorem trace_of_hview {s s' : State} (h : hview s' = hview s) : s'.trace = s.trace :=
  congrArg (·.2.2.2.2.2.1) h

theorem rview_of_key {s s' : State} (h : key s' = key s) : rview s' = rview s := by
  simp only [key, Prod.mk.injEq] at h
  simp only [rview, h]

/-- the macro kernels: the request side is untouched -/
inductive KStep : State → State → Prop
  | start (s id) : Open s.c id → KStep s (hStart s id)
  | stop (s id) : KStep s (hStop s id)
  | ref (s id) : KStep s (withKernel s id handleRef)
  | unref (s id) : KStep s (withKernel s id handleUnref)
  | internal (s id) : KStep s (withKernel s id setInternal)

theorem KStep.rview {s s' : State} (h : KStep s s') : rview s' = rview s := by
  cases h <;> rfl

/-- registrations and moves between request slots: the handle side is untouched; a handle whose slots change is
    not closing -/
inductive ReqStep : State → State → Prop
  /-- uv__udp_sendmsg / uv__udp_finish_close: the write queue is handed to the completed queue -/
  | move (s id) (st : Int) : Open s.c id →
      ReqStep s (modH s id fun h => { h with wcq := h.wcq ++ h.wq.map (fun r => (r, st)), wq := [] })
  | enqueue (s id) : Open s.c id → ReqStep s (udpSendEnqueue s id)
  | connect (s id) : Open s.c id → (∀ h, getH s id = some h → h.connReq = none) →
      ReqStep s (modH { s with ar := reqRegister s.ar, reqs := s.reqs ++ [({ id := s.nextReq, kind := .connect id } : Req)],
                               nextReq := s.nextReq + 1 } id fun h => { h with connReq := some s.nextReq })
  | work (s api) : ReqStep s (workSubmit s api)
  | ring (s api) : ReqStep s (ringSubmit s api)
  | cancel (s r) : ReqStep s (workCancel s r).1
  | complete (s k) : ReqStep s (completeWorks s k)
  /-- uv__work_done takes over loop->wq -/
  | detach (s) : ReqStep s { s with doneLocal := s.doneQ, doneQ := [] }
  | take (s cq) : ReqStep s (ringTake s cq)

@[simp] theorem hids_modH (s : State) (id : Nat) (g : Handle → Handle) (hg : ∀ h, (g h).id = h.id) :
    hids (modH s id g) = hids s := map_updH (·.id) _ _ _ hg

theorem hview_modH (s : State) (id : Nat) (g : Handle → Handle) (hg : ∀ h, (g h).id = h.id) :
    hview (modH s id g) = hview s := by
  simp only [hview, modH, map_updH (·.id) _ _ _ hg]

theorem hview_asyncSend (s : State) (id : Nat) : hview (asyncSend s id) = hview s := hview_of_key (key_asyncSend s id)

theorem ReqStep.hview : ∀ {s s' : State}, ReqStep s s' → hview s' = hview s
  | _, _, .move .. => hview_modH _ _ _ (fun _ => rfl)
  | _, _, .enqueue .. => hview_modH _ _ _ (fun _ => rfl)
  | _, _, .connect .. => hview_modH _ _ _ (fun _ => rfl)
  | _, _, .work s api => by
    unfold workSubmit; simp only; split
    · split
      · rfl
      · exact (hview_asyncSend _ 1).trans rfl
    · rfl
  | _, _, .ring .. => rfl
  | _, _, .cancel s r => by
    unfold workCancel; split
    · exact (hview_asyncSend _ 1).trans rfl
    · split
      · exact (hview_asyncSend _ 1).trans rfl
      · rfl
  | _, _, .complete s k => by
    unfold completeWorks; split
    · rfl
    · simp only; exact (hview_asyncSend _ 1).trans rfl
  | _, _, .detach _ => rfl
  | _, _, .take s cq => ringTake_frame _ (fun _ _ _ => rfl) s cq

/-- uv_idle_stop & co. unlink the handle from the queue detached by a running uv__run_idle/prepare/check -/
def unwatch (s : State) (id : Nat) : State := { s with watcherLocal := s.watcherLocal.filter (· != id) }

/-- what an API call does, as far as the invariants can see.  `OpStep false`: the steps that also occur between
    callbacks; only a whole API call (`OpStep true`) creates a handle or closes one (`OpStep.keep` needs the
    closing lists fixed between callbacks).  The second index is the one handle the call may unlink from the
    detached watcher queue. -/
inductive OpStep : Bool → Option Nat → State → State → Prop
  | frame {q u s s'} : key s' = key s → OpStep q u s s'
  | trans {q u a b c} : OpStep q u a b → OpStep q u b c → OpStep q u a c
  | kern {q u s s'} : KStep s s' → OpStep q u s s'
  | req {q u s s'} : ReqStep s s' → OpStep q u s s'
  | unwatch {q} (s id) : OpStep q (some id) s (unwatch s id)
  | init {u} (s k) : OpStep true u s (initH s k)
  /-- uv_close: CLOSING, the type's teardown ends in uv__handle_stop, uv__make_close_pending -/
  | close {u} (s id f) : id ∈ hids s → getF s id = some f → f.closing = false → f.closed = false →
      OpStep true u s { s with c := s.c.apply id closeK, closing := id :: s.closing }

namespace OpStep
variable {q : Bool} {u : Option Nat}

theorem refl (s : State) : OpStep q u s s := .frame rfl
theorem then_frame {a b c : State} (h : OpStep q u a b) (hk : key c = key b) : OpStep q u a c := h.trans (.frame hk)
theorem frame_then {a b c : State} (hk : key b = key a) (h : OpStep q u b c) : OpStep q u a c := (frame hk).trans h
theorem ite {c : Prop} [Decidable c] {s : State} {a b : State × Ret} (ha : c → OpStep q u s a.1) (hb : ¬c → OpStep q u s b.1) :
    OpStep q u s (if c then a else b).1 := by
  split
  · exact ha ‹_›
  · exact hb ‹_›
theorem start (s : State) (id : Nat) (h : Open s.c id) : OpStep q u s (hStart s id) := .kern (.start s id h)
theorem stop (s : State) (id : Nat) : OpStep q u s (hStop s id) := .kern (.stop s id)

end OpStep

variable {q : Bool} {u : Option Nat}

theorem timerStop_step (s : State) (id : Nat) : OpStep q u s (timerStop s id) :=
  .frame_then (b := { s with tm := Timer.stop s.tm id }) rfl (.stop _ id)

theorem timerStart_step (s : State) (id a b : Nat) : OpStep q u s (timerStart s id a b).1 := by
  unfold timerStart
  split
  · exact .refl _
  · rename_i hg
    simp only
    split
    · exact .refl _
    · have ho : Open s.c id := fun f hf => by
        have : hClosing f = false := by simpa [getF, hf] using hg
        exact (hClosing_false this).1
      exact (OpStep.stop s id).trans
        (.frame_then (b := { hStop s id with tm := (Timer.start s.tm id a b).1 }) rfl (.start _ id ho.stop))

theorem timerAgain_step (s : State) (id : Nat) : OpStep q u s (timerAgain s id).1 := by
  unfold timerAgain
  simp only
  split
  · exact .refl _
  · split
    · exact (timerStop_step s id).trans (timerStart_step ..)
    · exact .refl _

theorem watcherStart_step (s : State) (k : WKind) (id : Nat) (h : Open s.c id) : OpStep q u s (watcherStart s k id) := by
  unfold watcherStart
  split
  · exact .refl _
  · exact .frame_then (key_setWList ..) (.start _ id (h.of_key (key_setWList ..)))

theorem watcherStop_step (s : State) (k : WKind) (id : Nat) : OpStep q (some id) s (watcherStop s k id) := by
  unfold watcherStop
  split
  · exact .refl _
  · exact .frame_then (key_setWList ..) ((OpStep.unwatch _ id).trans (.stop _ id))

theorem pollStop_step (s : State) (id : Nat) : OpStep q u s (pollStop s id) :=
  (OpStep.frame_then (key_ioStop s (.h id) POLLALL) (.stop _ id)).then_frame rfl

theorem pollStart_step (s : State) (id mask : Nat) (h : Open s.c id) : OpStep q u s (pollStart s id mask) := by
  unfold pollStart
  simp only
  have ho : Open (pollStop s id).c id := (h.of_key (key_ioStop s (.h id) POLLALL)).stop
  split
  · exact pollStop_step s id
  · exact (pollStop_step s id).trans (.frame_then (key_ioStart ..) (.start _ id (ho.of_key (key_ioStart ..))))

theorem streamListen_step (s : State) (id : Nat) (h : Open s.c id) : OpStep q u s (streamListen s id) :=
  have hk : key (ioStart (modH s id fun h => { h with io := { h.io with hasFd := true } }) (.h id) POLLIN) = key s :=
    (key_ioStart ..).trans (key_modH _ _ _ (fun _ => rfl))
  .frame_then hk (.start _ id (h.of_key hk))

theorem udpRecvStart_step (s : State) (id : Nat) (h : Open s.c id) : OpStep q u s (udpRecvStart s id).1 := by
  unfold udpRecvStart
  split
  · exact .refl _
  · exact streamListen_step s id h

theorem udpRecvStop_step (s : State) (id : Nat) : OpStep q u s (udpRecvStop s id) := by
  unfold udpRecvStop
  simp only
  split
  · exact .frame_then (key_ioStop ..) (.stop _ id)
  · exact .frame (key_ioStop ..)

theorem udpSendmsg_step (s : State) (id : Nat) (h : Open s.c id) : OpStep q u s (udpSendmsg s id) := by
  unfold udpSendmsg
  split
  · exact .refl _
  · split
    · exact .refl _
    · exact (OpStep.req (.move s id 1 h)).then_frame (key_ioFeed ..)

theorem udpSendKick_step (s : State) (id : Nat) (a b : Bool) (h : Open s.c id) : OpStep q u s (udpSendKick s id a b) := by
  unfold udpSendKick
  split
  · simp only
    split
    · exact udpSendmsg_step s id h
    · split
      · exact (udpSendmsg_step s id h).then_frame (key_ioStart ..)
      · exact udpSendmsg_step s id h
  · exact .frame (key_ioStart ..)

theorem udpSend_step (s : State) (id : Nat) (h : Open s.c id) : OpStep q u s (udpSend s id) := by
  unfold udpSend
  split
  · exact .refl _
  · exact ((OpStep.req (.enqueue s id h)).trans (.start _ id h)).trans (udpSendKick_step _ id _ _ (Open.start h))

theorem fsEventStop_step (s : State) (id : Nat) : OpStep q u s (fsEventStop s id) := by
  unfold fsEventStop
  split
  · exact .refl _
  · exact .stop s id

theorem submit_step (s : State) (api : Api) : OpStep q u s (submit s api) := by
  unfold submit
  simp only
  split
  · split
    · exact .frame_then (key_ringInit s) (.req (.ring _ api))
    · exact .frame_then (key_ringInit s) (.req (.work _ api))
  · exact .req (.work s api)

theorem pipeConnectBad_step (s : State) (id : Nat) (ho : Open s.c id) (h : ∀ h, getH s id = some h → h.connReq = none) :
    OpStep q u s (pipeConnectBad s id) :=
  (OpStep.req (.connect s id ho h)).then_frame (key_ioFeed ..)

theorem updF_same {fl : List (Nat × HFlags)} {id : Nat} {f : HFlags} (h : lookF fl id = some f) : updF fl id f = fl := by
  induction fl with
  | nil => rfl
  | cons e t ih =>
    by_cases he : (e.1 == id) = true
    · simp [lookF, he] at h
      have : e.1 = id := by simpa using he
      simp [updF, ← h, ← this]
    · have he' : (e.1 == id) = false := by simpa using he
      simp [lookF, he'] at h
      simp [updF, he', ih h]

theorem apply_stop_inactive (c : Core) (id : Nat) (h : ((c.get id).map (·.active)).getD false = false) :
    c.apply id handleStop = c := by
  unfold Core.apply
  cases hg : c.get id with
  | none => rfl
  | some f =>
    simp [hg] at h
    have : handleStop (toHK f c.ah) = toHK f c.ah := by simp [handleStop, toHK, h]
    simp only [this]
    have h2 : ofHK (toHK f c.ah) = f := by cases f; rfl
    rw [h2, updF_same (by simpa [Core.get] using hg)]
    rfl

theorem key_hStop_inactive (s : State) (id : Nat) (h : ((getF s id).map (·.active)).getD false = false) :
    key s = key (hStop s id) := by
  simp only [key, hStop, withKernel, apply_stop_inactive s.c id h]

/-- every type's teardown amounts to uv__handle_stop, for an idle/prepare/check handle after unlinking it from
    the detached queue -/
theorem key_closeKind (s : State) (k : Kind) (id : Nat) :
    ∃ b : Bool, key (closeKind s k id) = key (hStop (if b then unwatch s id else s) id) := by
  have hst : ∀ {t x : State}, key t = key x → key (hStop t id) = key (hStop x id) := by
    intro t x ht
    simp only [key, Prod.mk.injEq] at ht
    simp only [key, hStop, withKernel, ht]
  have hw : ∀ wk, ∃ b : Bool, key (watcherStop s wk id) = key (hStop (if b then unwatch s id else s) id) := by
    intro wk
    unfold watcherStop
    split
    · rename_i hg
      exact ⟨false, key_hStop_inactive s id (by simpa using hg)⟩
    · exact ⟨true, hst (x := unwatch s id) (by cases wk <;> rfl)⟩
  have hcl : key (modH (hStop (ioClose s id) id) id fun h => { h with io := { h.io with hasFd := false } }) =
      key (hStop s id) := by
    refine Eq.trans (key_modH _ _ _ ?_) (hst (key_ioClose s id))
    intro _; rfl
  cases k with
  | timer => exact ⟨false, rfl⟩
  | idle => exact hw .idle
  | prepare => exact hw .prepare
  | check => exact hw .check
  | async => exact ⟨false, hst (t := { modH s id (fun h => { h with pending := true }) with
      asyncs := s.asyncs.filter (· != id), asyncLocal := s.asyncLocal.filter (· != id) }) (key_modH s id _ (fun _ => rfl))⟩
  | poll => exact ⟨false, hst (key_ioStop s (.h id) POLLALL)⟩
  | tcp => exact ⟨false, hcl⟩
  | pipe => exact ⟨false, hcl⟩
  | udp => exact ⟨false, hcl⟩
  | signal => exact ⟨false, rfl⟩
  | fsEvent =>
    refine ⟨false, ?_⟩
    unfold closeKind fsEventStop
    simp only
    split
    · rename_i hg
      exact key_hStop_inactive s id (by simpa using hg)
    · rfl

theorem key_closeH (s : State) (k : Kind) (id : Nat) : ∃ b : Bool, key (closeH s k id) =
    key (if b then unwatch { s with c := s.c.apply id closeK, closing := id :: s.closing } id
      else { s with c := s.c.apply id closeK, closing := id :: s.closing }) := by
  obtain ⟨b, h⟩ := key_closeKind (withKernel s id setClosing) k id
  refine ⟨b, ?_⟩
  cases b <;>
  · simp only [Bool.false_eq_true, if_false, if_true] at h ⊢
    simp only [key, Prod.mk.injEq] at h
    simp only [key, closeH, makeClosePending, h]
    simp only [hStop, withKernel, unwatch, apply_apply]
    rfl

theorem closeH_step (s : State) (k : Kind) (id : Nat) {f : HFlags} (hi : id ∈ hids s) (hf : getF s id = some f)
    (hc : hClosing f = false) : OpStep true (some id) s (closeH s k id) := by
  have h0 : OpStep true (some id) s _ := .close s id f hi hf (hClosing_false hc).1 (hClosing_false hc).2
  obtain ⟨b, h⟩ := key_closeH s k id
  cases b
  · exact h0.then_frame h
  · exact (h0.trans (.unwatch _ id)).then_frame h

/-- the handle an API call may unlink from the detached watcher queue -/
def unwatched : Op → Option Nat
  | .stop id | .close id => some id
  | _ => none

theorem applyOp_step (s : State) (o : Op) : OpStep true (unwatched o) s (applyOp s o).1 := by
  have hill : ∀ {u}, OpStep true u s (illegal s).1 := .frame rfl
  unfold applyOp
  by_cases hc : s.closed = true
  · rw [if_pos hc]; exact hill
  · rw [if_neg hc]
    cases o with
    | init k => exact .init s k
    | start id a b =>
      simp only
      split
      · exact hill
      · rename_i h f hg
        have ho : hClosing f = false → Open s.c id := Open.of_getHF hg
        split
        · exact hill
        · split
          · exact timerStart_step s id a b
          · exact .ite (fun _ => hill) fun hc => pollStart_step s id a (ho (by simp at hc; exact hc.1))
          · exact .ite (fun _ => hill) fun hc => watcherStart_step s .idle id (ho (by simpa using hc))
          · exact .ite (fun _ => hill) fun hc => watcherStart_step s .prepare id (ho (by simpa using hc))
          · exact .ite (fun _ => hill) fun hc => watcherStart_step s .check id (ho (by simpa using hc))
          · exact .ite (fun _ => hill) fun hc => .start s id (ho (by simpa using hc))
          · split
            · exact hill
            · rename_i hc
              split
              · exact .refl _
              · exact .frame_then (key_initInotify s) (.start _ id ((ho (by simpa using hc)).of_key (key_initInotify s)))
          · exact .ite (fun _ => hill) fun hc => udpRecvStart_step s id (ho (by simpa using hc))
          · exact .ite (fun _ => hill) fun hc => streamListen_step s id (ho (by simpa using hc))
          · exact .ite (fun _ => hill) fun hc => streamListen_step s id (ho (by simp at hc; exact hc.1))
          · exact hill
    | stop id =>
      simp only
      split
      · exact hill
      · split
        · exact hill
        · split
          · exact timerStop_step s id
          · exact watcherStop_step s .idle id
          · exact watcherStop_step s .prepare id
          · exact watcherStop_step s .check id
          · exact pollStop_step s id
          · exact .stop s id
          · exact fsEventStop_step s id
          · exact udpRecvStop_step s id
          · exact hill
    | again id =>
      simp only
      split
      · exact .ite (fun _ => timerAgain_step s id) fun _ => hill
      · exact hill
    | setRepeat id v =>
      simp only
      split
      · exact .ite (fun _ => .frame rfl) fun _ => hill
      · exact hill
    | ref id =>
      simp only
      split
      · exact .ite (fun _ => hill) fun _ => .kern (.ref s id)
      · exact hill
    | unref id =>
      simp only
      split
      · exact .ite (fun _ => hill) fun _ => .kern (.unref s id)
      · exact hill
    | close id =>
      simp only
      split
      · rename_i h f hg
        split
        · exact hill
        · rename_i hc
          exact closeH_step s h.kind id (getH_some_mem (getHF_getH hg)) (getHF_getF hg) (by simp at hc; exact hc.2)
      · exact hill
    | asyncSend id =>
      simp only
      split
      · exact .ite (fun _ => .frame (key_asyncSend s id)) fun _ => hill
      · exact hill
    | bind id =>
      simp only
      split
      · exact .ite (fun _ => .frame (key_modH _ _ _ (fun _ => rfl))) fun _ => hill
      · exact hill
    | udpSend id =>
      simp only
      split
      · rename_i h f hg
        split
        · rename_i hc
          exact udpSend_step s id (Open.of_getHF hg (by simp at hc; exact hc.2))
        · exact hill
      · exact hill
    | work api =>
      simp only
      split
      · exact hill
      · exact submit_step s api
    | useIoUring | stopLoop | updateTime | advance => exact .frame rfl
    | workNull | getAlive | getBackendTimeout | getNow => exact .refl _
    | reject api => simp only; split <;> first | exact .refl _ | exact hill
    | connectBad id =>
      simp only
      split
      · rename_i h f hg
        split
        · rename_i hc
          refine pipeConnectBad_step s id (Open.of_getHF hg (by simp at hc; exact hc.1.1.2)) fun h' hh' => ?_
          rw [getHF_getH hg] at hh'
          cases hh'
          simp only [Bool.and_eq_true] at hc
          simpa using hc.2
        · exact hill
      · exact hill
    | cancel r =>
      simp only
      split
      · exact .req (.cancel s r)
      · exact hill
    | isActive id | hasRef id | isClosing id =>
      simp only
      split
      · exact .ite (fun _ => hill) fun _ => .refl _
      · exact hill
    | udpSendBad id | dueIn id | env n id =>
      simp only
      split
      · exact .ite (fun _ => .refl _) fun _ => hill
      · exact hill
    | bad t => exact hill

theorem initLoop_step (clock0 : Nat) (metrics : Bool) (oracle : List PollRes) :
    OpStep true none { clock := clock0, metrics := metrics, oracle := oracle } (initLoop clock0 metrics oracle) := by
  unfold initLoop
  extract_lets s0 s1 s2 s3 s4 s5 s6 s7 s8
  -- each intermediate state is made opaque as soon as the step into it is recorded
  have h2 : OpStep true none s0 s2 := .frame (key_ioStart ..)
  clear_value s2
  have h3 : OpStep true none s0 s3 := h2.trans (.init s2 .signal)
  clear_value s3
  have h5 : OpStep true none s0 s5 := (h3.trans (.kern (.unref s3 0))).trans (.kern (.internal s4 0))
  clear_value s5
  have h6 : OpStep true none s0 s6 := h5.then_frame (key_ioStart ..)
  clear_value s6
  have h7 : OpStep true none s0 s7 := h6.trans (.init s6 .async)
  clear_value s7
  exact (h7.trans (.kern (.unref s7 1))).trans (.kern (.internal s8 1))

end UvModel.Loop
