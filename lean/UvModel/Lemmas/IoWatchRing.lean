import UvModel.Lemmas.IoWatchKCore
/-! C14: the io_uring ctl ring (`prep`/`flushOnce`/`flushAll`, linux.c:1257-1358) and the watcher-queue
application in both ctl modes preserve the kernel-side invariant in its form with submissions in flight, `RCore` -/
namespace UvModel.IoWatch

/-- a pending submission succeeds: its entry carries the mask afterwards -/
theorem RCore.success {t : St} {k k' : Kernel} {L L' : List Ctl} (r : RCore t k L) (c : Ctl) (hc : c ∈ L)
    (o : Nat) (ho : k.ofdAt c.2.1 = some o)
    (hof : ∀ g, k'.ofdAt g = k.ofdAt g)
    (hm : ∀ o' g, k'.maskAt o' g = if o' = o ∧ g = c.2.1 then some c.2.2.1 else k.maskAt o' g)
    (hsub : ∀ x ∈ L', x ∈ L) (hcov : ∀ x ∈ L, x ∈ L' ∨ x = c) : RCore t k' L' := by
  obtain ⟨p1, p2, p3, p4, p5, _, _⟩ := r.pend c hc
  have lvc := r.live _ p1 p5
  refine ⟨r.multi, ?_, ?_, ?_, r.uniq, r.quiet, ?_, r.queued⟩
  · intro x hx
    obtain ⟨q1, q2, q3, q4, q5, q6, q7⟩ := r.pend x (hsub x hx)
    refine ⟨q1, q2, q3, q4, q5, q6, fun hmod => ?_⟩
    obtain ⟨o2, a1, a2⟩ := q7 hmod
    refine ⟨o2, by rw [hof]; exact a1, ?_⟩
    rw [hm]; split
    · simp
    · exact a2
  · intro id hl hne hno
    by_cases e : id = c.2.2.2
    · subst e
      refine ⟨o, by rw [hof, ← p2]; exact ho, ?_⟩
      rw [hm, ← p2, if_pos ⟨rfl, rfl⟩, p3, p4]
    · have hno' : ∀ x ∈ L, x.2.2.2 ≠ id := by
        intro x hx
        rcases hcov x hx with h | h
        · exact hno x h
        · rw [h]; exact fun h' => e h'.symm
      obtain ⟨o2, a1, a2⟩ := r.armed id hl hne hno'
      refine ⟨o2, by rw [hof]; exact a1, ?_⟩
      rw [hm, if_neg]; exact a2
      intro hk
      have hpj : (getW t id).pevents ≠ Mask.none := fun h0 => hne (r.quiet id h0)
      have l1 := (r.live id hl hpj).2.2.2
      have l2 := lvc.2.2.2
      rw [hk.2, p2, l2] at l1; simp at l1; exact e l1.symm
  · intro o' g h; rw [hm] at h
    by_cases hk : o' = o ∧ g = c.2.1
    · obtain ⟨rfl, rfl⟩ := hk
      exact ⟨by rw [hof]; exact ho, c.2.2.2, p1, p2.symm, lvc.1, by rw [lvc.2.1]; simp⟩
    · rw [if_neg hk] at h
      obtain ⟨a, b⟩ := r.owned o' g h
      exact ⟨by rw [hof]; exact a, b⟩
  · intro id hl hp
    have l := r.live id hl hp
    exact ⟨l.1, l.2.1, by rw [hof]; exact l.2.2.1, l.2.2.2⟩

/-- an ADD answered EEXIST is replaced by a MOD; the kernel is unchanged -/
theorem RCore.retry {t : St} {k : Kernel} {L L' : List Ctl} (r : RCore t k L) (c : Ctl) (hc : c ∈ L)
    (o : Nat) (ho : k.ofdAt c.2.1 = some o) (hne : k.maskAt o c.2.1 ≠ none)
    (hsub : ∀ x ∈ L', x ∈ L ∨ x = (CtlOp.mod, c.2.1, c.2.2.1, c.2.2.2))
    (hin : (CtlOp.mod, c.2.1, c.2.2.1, c.2.2.2) ∈ L') (hcov : ∀ x ∈ L, x ∈ L' ∨ x = c) : RCore t k L' := by
  obtain ⟨p1, p2, p3, p4, p5, _, _⟩ := r.pend c hc
  refine ⟨r.multi, ?_, ?_, r.owned, r.uniq, r.quiet, r.live, r.queued⟩
  · intro x hx
    rcases hsub x hx with h | h
    · exact r.pend x h
    · rw [h]; exact ⟨p1, p2, p3, p4, p5, by simp, fun _ => ⟨o, ho, hne⟩⟩
  · intro id hl hev hno
    have e : id ≠ c.2.2.2 := fun h => hno _ hin h.symm
    apply r.armed id hl hev
    intro x hx
    rcases hcov x hx with h | h
    · exact hno x h
    · rw [h]; exact fun h' => e h'.symm

theorem flushStep_spec {t : St} {k : Kernel} {rs rem : List Ctl} (bad : Bool) (c : Ctl)
    (r : RCore t k (rs ++ c :: rem)) :
    RCore t (flushStep (k, rs, bad) c).1 ((flushStep (k, rs, bad) c).2.1 ++ rem) ∧
    (flushStep (k, rs, bad) c).2.2 = bad ∧
    ((flushStep (k, rs, bad) c).2.1 = rs ∨ (c.1 = .add ∧ ∃ x, x.1 = CtlOp.mod ∧ x.2.2.2 = c.2.2.2 ∧ x.2.1 = c.2.1 ∧
      (flushStep (k, rs, bad) c).2.1 = rs ++ [x])) ∧
    KFrame k (flushStep (k, rs, bad) c).1 [c.2.1] := by
  have hc : c ∈ rs ++ c :: rem := by simp
  obtain ⟨p1, p2, p3, p4, p5, p6, p7⟩ := r.pend c hc
  have lvc := r.live _ p1 p5
  obtain ⟨op, fd, m, id⟩ := c
  simp only at p1 p2 p3 p4 p5 p6 p7 lvc
  cases ho : k.ofdAt fd with
  | none => rw [← p2, ho] at lvc; simp at lvc
  | some o =>
    have hsub : ∀ x ∈ rs ++ rem, x ∈ rs ++ (op, fd, m, id) :: rem := by
      intro x hx; rcases List.mem_append.mp hx with h | h
      · exact List.mem_append_left _ h
      · exact List.mem_append_right _ (List.mem_cons_of_mem _ h)
    have hcov : ∀ x ∈ rs ++ (op, fd, m, id) :: rem, x ∈ rs ++ rem ∨ x = (op, fd, m, id) := by
      intro x hx; rcases List.mem_append.mp hx with h | h
      · left; exact List.mem_append_left _ h
      · rcases List.mem_cons.mp h with h | h
        · right; exact h
        · left; exact List.mem_append_right _ h
    have hmod : op = .mod → k.maskAt o fd ≠ none := by
      intro h; obtain ⟨o2, a1, a2⟩ := p7 h
      rw [ho] at a1; cases a1; exact a2
    rcases ctl_add_mod k op fd o m (some id) ho p6 hmod with ⟨h0, hm⟩ | ⟨hadd, hne, e1⟩
    · have hof : ∀ g, (k.ctl op fd m (some id)).1.ofdAt g = k.ofdAt g := fun g => ctl_ofdAt ..
      have e : flushStep (k, rs, bad) (op, fd, m, id) = ((k.ctl op fd m (some id)).1, rs, bad) := by
        unfold flushStep; simp only [h0, ↓reduceIte]
      rw [e]
      refine ⟨r.success (op, fd, m, id) hc o ho hof hm hsub hcov, rfl, Or.inl rfl, hof, ?_⟩
      intro o' g hg; rw [hm, if_neg]; intro h; exact hg (by simp [h.2])
    · subst hadd
      have e : flushStep (k, rs, bad) (CtlOp.add, fd, m, id) = (k, rs ++ [(CtlOp.mod, fd, m, id)], bad) := by
        unfold flushStep; simp [e1]
      rw [e]
      refine ⟨?_, rfl, Or.inr ⟨rfl, (CtlOp.mod, fd, m, id), rfl, rfl, rfl, rfl⟩, KFrame.refl _ _⟩
      refine r.retry (CtlOp.add, fd, m, id) hc o ho hne ?_ (by simp) ?_
      · intro x hx; simp at hx
        rcases hx with h | h | h
        · left; exact List.mem_append_left _ h
        · right; exact h
        · left; exact List.mem_append_right _ (List.mem_cons_of_mem _ h)
      · intro x hx
        rcases hcov x hx with h | h
        · left; rcases List.mem_append.mp h with h | h
          · simp [h]
          · simp [h]
        · right; exact h

theorem flushFold_spec {t : St} (rem : List Ctl) : ∀ (k : Kernel) (rs : List Ctl) (bad : Bool),
    RCore t k (rs ++ rem) →
    RCore t (rem.foldl flushStep (k, rs, bad)).1 (rem.foldl flushStep (k, rs, bad)).2.1 ∧
    (rem.foldl flushStep (k, rs, bad)).2.2 = bad ∧
    (∀ x ∈ (rem.foldl flushStep (k, rs, bad)).2.1, x ∈ rs ∨
      (x.1 = CtlOp.mod ∧ ∃ y ∈ rem, y.2.2.2 = x.2.2.2 ∧ y.2.1 = x.2.1)) ∧
    ((∀ x ∈ rem, x.1 = CtlOp.mod) → (rem.foldl flushStep (k, rs, bad)).2.1 = rs) ∧
    KFrame k (rem.foldl flushStep (k, rs, bad)).1 (rem.map (·.2.1)) := by
  induction rem with
  | nil =>
    intro k rs bad r
    simp only [List.append_nil] at r
    exact ⟨r, rfl, fun x hx => Or.inl hx, fun _ => rfl, KFrame.refl _ _⟩
  | cons c rem ih =>
    intro k rs bad r
    obtain ⟨s1, s2, s3, s4⟩ := flushStep_spec bad c r
    simp only [List.foldl_cons]
    have hpair : flushStep (k, rs, bad) c = ((flushStep (k, rs, bad) c).1, (flushStep (k, rs, bad) c).2.1, bad) := by
      apply Prod.ext; rfl; apply Prod.ext; rfl; exact s2
    rw [hpair]
    obtain ⟨i1, i2, i3, i4, i5⟩ := ih (flushStep (k, rs, bad) c).1 (flushStep (k, rs, bad) c).2.1 bad s1
    refine ⟨i1, i2, ?_, ?_, ?_⟩
    · intro x hx
      rcases i3 x hx with h | h
      · rcases s3 with e | ⟨_, y, hy, hy2, hy3, e⟩
        · left; rw [e] at h; exact h
        · rw [e] at h; rcases List.mem_append.mp h with h | h
          · left; exact h
          · right; simp at h; rw [h]; exact ⟨hy, c, by simp, hy2.symm, hy3.symm⟩
      · right; obtain ⟨h1, y, hy, h2⟩ := h; exact ⟨h1, y, List.mem_cons_of_mem _ hy, h2⟩
    · intro hall
      have hc : c.1 = CtlOp.mod := hall c (by simp)
      rw [i4 (fun x hx => hall x (List.mem_cons_of_mem _ hx))]
      rcases s3 with e | ⟨e, _⟩
      · exact e
      · rw [hc] at e; cases e
    · have := KFrame.trans s4 i5
      exact this.mono (by intro x hx; simpa using hx)

theorem flushOnce_spec {t : St} (r : RS t) :
    RS (flushOnce t) ∧ (flushOnce t).aborted = t.aborted ∧ (flushOnce t).ring = t.ring ∧
    (∀ x ∈ (flushOnce t).sq, x.1 = CtlOp.mod ∧ ∃ y ∈ t.sq, y.2.2.2 = x.2.2.2 ∧ y.2.1 = x.2.1) ∧
    ((∀ x ∈ t.sq, x.1 = CtlOp.mod) → (flushOnce t).sq = []) ∧
    KFrame t.k (flushOnce t).k (t.sq.map (·.2.1)) := by
  have r0 : RCore t t.k ([] ++ t.sq) := by rw [List.nil_append]; exact r
  obtain ⟨f1, f2, f3, f4, f5⟩ := flushFold_spec t.sq t.k [] false r0
  generalize hres : t.sq.foldl flushStep (t.k, [], false) = res at f1 f2 f3 f4 f5
  have e : flushOnce t = { t with k := res.1, sq := res.2.1 } := by
    unfold flushOnce; simp only [hres, f2, Bool.false_eq_true, ↓reduceIte]
  rw [e]
  refine ⟨f1.frame rfl rfl rfl rfl, rfl, rfl, ?_, f4, f5⟩
  intro x hx
  rcases f3 x hx with h | h
  · simp at h
  · exact h

theorem RS.push {t : St} (r : RS t) (c : Ctl) (hc : PendOk t t.k c) : RS { t with sq := t.sq ++ [c] } := by
  have r' : RCore t t.k (t.sq ++ [c]) := by
    refine ⟨r.multi, ?_, ?_, r.owned, r.uniq, r.quiet, r.live, r.queued⟩
    · intro x hx; rcases List.mem_append.mp hx with h | h
      · exact r.pend x h
      · simp at h; rw [h]; exact hc
    · intro id hl hne hno
      exact r.armed id hl hne (fun x hx => hno x (List.mem_append_left _ hx))
  exact r'.frame rfl rfl rfl rfl

theorem prep_spec {t : St} (c : Ctl) (r1 : RS { t with sq := t.sq ++ [c] }) :
    RS (prep t c) ∧ (prep t c).aborted = t.aborted ∧ (prep t c).ring = t.ring ∧
    (∀ x ∈ (prep t c).sq, ∃ y ∈ t.sq ++ [c], y.2.2.2 = x.2.2.2 ∧ y.2.1 = x.2.1) ∧
    KFrame t.k (prep t c).k ((t.sq ++ [c]).map (·.2.1)) := by
  generalize hs1 : ({ t with sq := t.sq ++ [c] } : St) = t1 at r1
  have hk1 : t1.k = t.k := by rw [← hs1]
  have hsq1 : t1.sq = t.sq ++ [c] := by rw [← hs1]
  have ha1 : t1.aborted = t.aborted ∧ t1.ring = t.ring := by rw [← hs1]; exact ⟨rfl, rfl⟩
  have e : prep t c = if t1.sq.length = 256 then
      (if (flushOnce t1).sq.length = 256 then flushOnce (flushOnce t1) else flushOnce t1) else t1 := by
    unfold prep; rw [← hs1]
  rw [e]
  split
  · obtain ⟨a1, a3, a5, a6, _, a8⟩ := flushOnce_spec r1
    have ids1 : ∀ x ∈ (flushOnce t1).sq, ∃ y ∈ t.sq ++ [c], y.2.2.2 = x.2.2.2 ∧ y.2.1 = x.2.1 := by
      intro x hx; obtain ⟨_, y, hy, h⟩ := a6 x hx; exact ⟨y, by rw [← hsq1]; exact hy, h⟩
    split
    · obtain ⟨b1, b3, b5, b6, _, b8⟩ := flushOnce_spec a1
      refine ⟨b1, by rw [b3, a3]; exact ha1.1, by rw [b5, a5]; exact ha1.2, ?_, ?_⟩
      · intro x hx; obtain ⟨_, y, hy, h⟩ := b6 x hx
        obtain ⟨z, hz, h'⟩ := ids1 y hy
        exact ⟨z, hz, h'.1.trans h.1, h'.2.trans h.2⟩
      · rw [← hk1, ← hsq1]
        refine (KFrame.trans a8 b8).mono ?_
        intro g hg; rcases List.mem_append.mp hg with h | h
        · exact h
        · obtain ⟨x, hx, hxg⟩ := List.mem_map.mp h
          obtain ⟨_, y, hy, hy2⟩ := a6 x hx
          exact List.mem_map.mpr ⟨y, hy, by rw [hy2.2]; exact hxg⟩
    · refine ⟨a1, by rw [a3]; exact ha1.1, by rw [a5]; exact ha1.2, ids1, ?_⟩
      rw [← hk1, ← hsq1]; exact a8
  · refine ⟨r1, ha1.1, ha1.2, ?_, ?_⟩
    · intro x hx; rw [hsq1] at hx; exact ⟨x, hx, rfl, rfl⟩
    · rw [hk1]; exact KFrame.refl _ _

theorem RS.armPush {t : St} (r : RS t) (id : Nat) (hid : id < t.ws.length)
    (hp : (getW t id).pevents ≠ Mask.none) (hfresh : ∀ x ∈ t.sq, x.2.2.2 ≠ id) :
    RS { arm t id with sq := t.sq ++ [ctlOf t id] } := by
  refine RCore.frame (t := arm t id) (RCore.update (L' := t.sq ++ [ctlOf t id]) r id _ hid
    ⟨rfl, .inr (.inr ⟨_, List.mem_append_right _ (List.mem_singleton_self _), rfl⟩), fun h => h, fun h => h,
      fun h1 h2 _ => ⟨h1, h2⟩, fun h => r.live id hid h, fun h => (r.queued id h).2⟩ (fun c hc => ?_)
    fun c hc => List.mem_append_left _ hc) rfl rfl rfl rfl
  rcases List.mem_append.mp hc with h | h
  · exact .inl ⟨h, hfresh c h⟩
  · rw [List.mem_singleton.mp h]
    have hw : getW (setW t id { getW t id with events := (getW t id).pevents }) id =
        { getW t id with events := (getW t id).pevents } := by rw [getW_setW, if_pos ⟨rfl, hid⟩]
    refine .inr ?_
    unfold PendOk ctlOf
    simp only [hw]
    refine ⟨by simpa using hid, trivial, trivial, trivial, hp, ?_, fun hmod => ?_⟩
    · split <;> simp
    · have hev : (getW t id).events ≠ Mask.none := fun h0 => by simp [h0] at hmod
      obtain ⟨o, a1, a2⟩ := r.armed id hid hev hfresh
      exact ⟨o, a1, by rw [a2]; simp⟩

/-- direct mode: the submission is executed at once (an ADD answered EEXIST repeated as MOD) -/
theorem ctlApply_spec {t : St} (c : Ctl) (r1 : RS { t with sq := t.sq ++ [c] }) :
    RS (ctlApply t c) ∧ (ctlApply t c).aborted = t.aborted ∧ KFrame t.k (ctlApply t c).k [c.2.1] := by
  have r : RCore t t.k (t.sq ++ [c]) := RCore.frame r1 rfl rfl rfl rfl
  have hc : c ∈ t.sq ++ [c] := by simp
  obtain ⟨p1, p2, _, _, p5, p6, p7⟩ := r.pend c hc
  have lvc := r.live _ p1 p5
  obtain ⟨hs, hsq, _, hmu⟩ := blankKer_fields (blankKer_ctlApply t c)
  cases ho : t.k.ofdAt c.2.1 with
  | none => rw [← p2, ho] at lvc; simp at lvc
  | some o =>
    have hmod : c.1 = .mod → t.k.maskAt o c.2.1 ≠ none := by
      intro h; obtain ⟨o2, a1, a2⟩ := p7 h
      rw [ho] at a1; cases a1; exact a2
    have key : (∀ o' g, (ctlApply t c).k.maskAt o' g =
          if o' = o ∧ g = c.2.1 then some c.2.2.1 else t.k.maskAt o' g) ∧
        (∀ g, (ctlApply t c).k.ofdAt g = t.k.ofdAt g) ∧ (ctlApply t c).aborted = t.aborted := by
      rcases ctl_add_mod t.k c.1 c.2.1 o c.2.2.1 (some c.2.2.2) ho p6 hmod with ⟨h0, hm⟩ | ⟨hadd, hne, e⟩
      · rw [show ctlApply t c = (ctl t c.1 c.2.1 c.2.2.1 (some c.2.2.2)).1 from if_pos h0]
        exact ⟨hm, fun g => ctl_ofdAt .., rfl⟩
      · obtain ⟨h0, hm⟩ := ctl_mod_ok t.k c.2.1 o c.2.2.1 (some c.2.2.2) ho hne
        rw [hadd] at e
        unfold ctlApply ctl
        simp only [hadd, e, h0, if_neg (show ¬(-17 : Int) = 0 by decide), and_self, ne_eq, not_true_eq_false,
          if_true, if_false, and_true]
        exact ⟨hm, fun g => ctl_ofdAt ..⟩
    obtain ⟨hm, hof, hab⟩ := key
    have r2 := r.success c hc o ho hof hm (fun x hx => List.mem_append_left _ hx)
      (fun x hx => by simpa using hx)
    refine ⟨?_, hab, hof, fun o' g hg => ?_⟩
    · unfold RS; rw [hsq]; exact r2.frame hs.1 hs.2.1 hs.2.2.2 hmu
    · rw [hm, if_neg]; intro h; exact hg (by simp [h.2])

theorem applyOne_spec {t : St} (r : RS t) (id : Nat) (hid : id < t.ws.length)
    (hp : (getW t id).pevents ≠ Mask.none) (hfresh : ∀ x ∈ t.sq, x.2.2.2 ≠ id) :
    RS (applyOne t id) ∧ (applyOne t id).ring = t.ring ∧ (applyOne t id).aborted = t.aborted ∧
    (∀ x ∈ (applyOne t id).sq, (t.ring = true ∧ x.2.2.2 = id ∧ x.2.1 = (getW t id).fd) ∨
      ∃ y ∈ t.sq, y.2.2.2 = x.2.2.2 ∧ y.2.1 = x.2.1) ∧
    KFrame t.k (applyOne t id).k (t.sq.map (·.2.1) ++ [(getW t id).fd]) := by
  have ra : RS { arm t id with sq := (arm t id).sq ++ [ctlOf t id] } := r.armPush id hid hp hfresh
  rw [applyOne_eq]
  cases hr : t.ring
  · rw [if_neg Bool.false_ne_true]
    obtain ⟨c1, c2, c3⟩ := ctlApply_spec _ ra
    refine ⟨c1, (blankKer_fields (blankKer_ctlApply ..)).2.2.1.trans hr, c2, fun x hx => .inr ⟨x, ?_, rfl, rfl⟩,
      c3.mono fun g hg => List.mem_append_right _ hg⟩
    rwa [(blankKer_fields (blankKer_ctlApply ..)).2.1] at hx
  · rw [if_pos rfl]
    obtain ⟨p1, p3, p4, p5, p6⟩ := prep_spec _ ra
    refine ⟨p1, p4.trans hr, p3, fun x hx => ?_, p6.mono fun g hg => by rwa [List.map_append] at hg⟩
    obtain ⟨y, hy, h⟩ := p5 x hx
    rcases List.mem_append.mp hy with h' | h'
    · exact .inr ⟨y, h', h⟩
    · left; simp at h'; rw [← h.1, ← h.2, h']; exact ⟨rfl, rfl, rfl⟩

theorem applyFold_spec (l : List Nat) : ∀ {t : St}, RS t → (t.ring = true → l.Nodup) →
    (∀ a ∈ l, a < t.ws.length ∧ (getW t a).pevents ≠ Mask.none ∧ ∀ x ∈ t.sq, x.2.2.2 ≠ a) →
    RS (l.foldl applyOne t) ∧ (l.foldl applyOne t).aborted = t.aborted ∧
    KFrame t.k (l.foldl applyOne t).k (t.sq.map (·.2.1) ++ l.map (fun a => (getW t a).fd)) ∧
    (∀ x ∈ (l.foldl applyOne t).sq, x.2.1 ∈ t.sq.map (·.2.1) ++ l.map (fun a => (getW t a).fd)) := by
  induction l with
  | nil =>
    intro t r _ _
    exact ⟨r, rfl, KFrame.refl _ _, fun x hx => List.mem_append_left _ (List.mem_map.mpr ⟨x, hx, rfl⟩)⟩
  | cons a rest ih =>
    intro t r hnd hl
    simp only [List.foldl_cons]
    obtain ⟨ha1, ha2, ha3⟩ := hl a (by simp)
    obtain ⟨s1, s2, s3, s4, s5⟩ := applyOne_spec r a ha1 ha2 ha3
    obtain ⟨i1, i3, i4, i5⟩ := ih s1 (fun h => (List.nodup_cons.mp (hnd (s2 ▸ h))).2) (by
      intro b hb
      obtain ⟨hb1, hb2, hb3⟩ := hl b (List.mem_cons_of_mem _ hb)
      refine ⟨by rw [applyOne_len]; exact hb1, by rw [applyOne_getW_of W.pevents t a rfl]; exact hb2, ?_⟩
      intro x hx
      rcases s4 x hx with h | ⟨y, hy, h⟩
      · rw [h.2.1]; intro e; rw [e] at hnd; exact (List.nodup_cons.mp (hnd h.1)).1 hb
      · rw [← h.1]; exact hb3 y hy)
    have conv : ∀ g, g ∈ (applyOne t a).sq.map (·.2.1) ++ rest.map (fun b => (getW (applyOne t a) b).fd) →
        g ∈ t.sq.map (·.2.1) ++ (a :: rest).map (fun b => (getW t b).fd) := by
      intro g h
      rcases List.mem_append.mp h with h | h
      · obtain ⟨x, hx, hxg⟩ := List.mem_map.mp h
        rcases s4 x hx with h' | ⟨y, hy, h'⟩
        · apply List.mem_append_right; rw [← hxg, h'.2.2]; simp
        · apply List.mem_append_left; exact List.mem_map.mpr ⟨y, hy, by rw [h'.2]; exact hxg⟩
      · obtain ⟨b, hb, hbg⟩ := List.mem_map.mp h
        apply List.mem_append_right
        exact List.mem_map.mpr ⟨b, List.mem_cons_of_mem _ hb, by rw [← hbg, applyOne_getW_of W.fd t a rfl]⟩
    refine ⟨i1, by rw [i3, s3], ?_, fun x hx => conv _ (i5 x hx)⟩
    refine (KFrame.trans s5 i4).mono ?_
    intro g hg
    rcases List.mem_append.mp hg with h | h
    · rcases List.mem_append.mp h with h | h
      · exact List.mem_append_left _ h
      · simp at h; apply List.mem_append_right; rw [h]; simp
    · exact conv g h

theorem flushOnce_nil (x : St) (h : x.sq = []) : flushOnce x = x := by
  cases x; simp only at h; subst h; rfl

theorem flushAll_of_sq_nil {s : St} (h : s.sq = []) : flushAll s = s := by
  unfold flushAll; rw [flushOnce_nil _ h, flushOnce_nil _ h]

/-- `uv__io_poll`'s queue application followed by the flush before `epoll_pwait`, in either ctl mode: the
kernel invariant holds again, no `abort()`, and only the queued watchers' descriptors were touched.  A repeated
queue entry hurts only where submissions wait in the ring (a MOD behind its own pending ADD), hence `hnd` -/
theorem applyQueue_spec {s : St} (c : KCore s) (hnd : s.ring = true → s.wq.Nodup) :
    KCore (flushAll (applyQueue s)) ∧ (flushAll (applyQueue s)).aborted = s.aborted ∧
    KFrame s.k (flushAll (applyQueue s)).k (s.wq.map fun a => (getW s a).fd) ∧
    (applyQueue s).aborted = s.aborted := by
  have c0 := c.setWq [] fun id h => nomatch h
  obtain ⟨f1, f3, f4, f5⟩ := applyFold_spec s.wq c0.toRS hnd (by
    intro a ha
    have := c.queued a ha
    exact ⟨this.1, this.2, by intro x hx; rw [c0.sq] at hx; simp at hx⟩)
  have hF : ∀ g, g ∈ ({ s with wq := [] } : St).sq.map (·.2.1) ++ s.wq.map (fun a => (getW s a).fd) →
      g ∈ s.wq.map fun a => (getW s a).fd := by
    intro g hg; rw [c0.sq] at hg; exact hg
  obtain ⟨a1, a3, _, a6, _, a8⟩ := flushOnce_spec f1
  obtain ⟨b1, b3, _, _, b7, b8⟩ := flushOnce_spec a1
  have hsq : (flushOnce (flushOnce (applyQueue s))).sq = [] := b7 (fun x hx => (a6 x hx).1)
  refine ⟨b1.toK hsq, b3.trans (a3.trans f3), ?_, f3⟩
  refine (KFrame.trans (KFrame.trans f4 a8) b8).mono ?_
  intro g hg
  rcases List.mem_append.mp hg with h | h
  · rcases List.mem_append.mp h with h | h
    · exact hF g h
    · obtain ⟨x, hx, hxg⟩ := List.mem_map.mp h
      exact hF g (by rw [← hxg]; exact f5 x hx)
  · obtain ⟨x, hx, hxg⟩ := List.mem_map.mp h
    obtain ⟨_, y, hy, hy2⟩ := a6 x hx
    exact hF g (by rw [← hxg, ← hy2.2]; exact f5 y hy)

/-- direct mode: the kernel invariant survives `uv__io_poll`'s queue application (and the no-op flush) -/
theorem KCore.applyQueue {s : St} (c : KCore s) (hr : s.ring = false) : KCore (flushAll (applyQueue s)) :=
  (applyQueue_spec c fun h => by rw [hr] at h; cases h).1

end UvModel.IoWatch
