import UvModel.Lemmas.AsyncInv
/-! Handle memory: no sender is inside uv_async_send on released memory (`MemSafe`) under the user contract that
the close callback does not release a handle with a send in flight (`Contract`, `ReachC`). -/
namespace UvModel.Async
variable {s s' : State} {a : Act}

/-- the user contract: the close callback releases the handle memory only when no uv_async_send call on it is in flight -/
def Contract (s : State) (a : Act) : Prop :=
  a = .closeCbs → ∀ (t : Nat) (x : Sender), s.snd[t]? = some x → x.pc ≠ .idle → (s.hs x.h).unlinked = false

inductive ReachC : State → Prop
  | init (nh ns cap : Nat) : ReachC (init nh ns cap)
  | step {s s' : State} {a : Act} : ReachC s → Contract s a → step? s a = some s' → ReachC s'

/-- no thread is inside uv_async_send on a handle whose memory has been released -/
def MemSafe (s : State) : Prop :=
  ∀ (t : Nat) (x : Sender), s.snd[t]? = some x → x.pc ≠ .idle → (s.hs x.h).freed = false

theorem memSafe_step (hL : InvL s) (hM : MemSafe s) (hC : Contract s a)
    (hs : step? s a = some s') : MemSafe s' := by
  intro t' y hy hp
  cases step?_step hs with
  | begin t h x _ _ _ ho =>
    simp only [setSnd, setH, upd_proj HS.freed]
    rcases getElem?_set_some hy with ⟨-, rfl⟩ | ⟨-, hy⟩
    · exact (hL.open_flags ho).2.2
    · exact hM t' y hy hp
  | snd t x x' v e hx hop =>
    have hf : v.freed = (s.hs x.h).freed := by rw [hop.frame]
    simp only [setSnd, setH, upd_proj HS.freed hf]
    rcases getElem?_set_some hy with ⟨-, rfl⟩ | ⟨-, hy⟩
    · exact hop.h_eq ▸ hM t x hx hop.active
    · exact hM t' y hy hp
  | loop _ hop =>
    rw [hop.snd_eq] at hy
    have := hM t' y hy hp
    rcases hop.hs_cases y.h with e | ⟨-, -, -, -, e⟩ | ⟨r, -, e⟩ | ⟨r, -, -, e⟩ <;> rw [e] <;> exact this
  | close h r _ _ _ =>
    simpa only [setH, upd_proj HS.freed] using hM t' y hy hp
  | fork _ =>
    simp only [List.getElem?_map, Option.map_eq_some_iff] at hy
    obtain ⟨x, -, rfl⟩ := hy; exact absurd rfl hp
  | eintr w => exact hM t' y hy hp
  | closeCbs _ =>
    dsimp only; rw [if_neg (by rw [hC rfl t' y hy hp]; nofun)]
    exact hM t' y hy hp

theorem reachC_step (h : ReachC s) (a : Act) (hc : Contract s a) : ReachC (step s a) :=
  step_elim h fun _ hs => h.step hc hs

theorem contract_of_all_idle (h : ∀ x ∈ s.snd, x.pc = .idle) : Contract s a :=
  fun _ _ x hx hp => absurd (h x (List.mem_of_getElem? hx)) hp

theorem reachC_inv (h : ReachC s) : InvL s ∧ MemSafe s := by
  induction h with
  | init nh ns cap =>
    refine ⟨(inv_init nh ns cap).L, ?_⟩
    intro t x hx hp; simp [init, List.getElem?_replicate] at hx; obtain ⟨_, rfl⟩ := hx; simp at hp
  | step _ hC hs ih => exact ⟨invL_step ih.1 hs, memSafe_step ih.1 ih.2 hC hs⟩

end UvModel.Async
