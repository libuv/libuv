import UvModel.Accept
import UvModel.Lemmas.IfLeaves
/-! C07, sending side.  First the decision of `uv__check_before_write` for a handle to send.  Then the uv_write2
queue and the uv__write attempts: `Att` says what one write attempt does to the state, and both invariants are
carried across anything that satisfies `Att`.  `idCount` and `hadHandle` are used in the statements of `Props/C07Send`. -/
namespace UvModel.Accept

theorem checkBeforeWrite_open {s : WStream} (hfd : 0 ≤ s.fd) (hw : s.writable = true) (h : Int) :
    checkBeforeWrite s (some h) =
      if s.isPipe = true ∧ s.ipc = true then (if h < 0 then EBADF else 0) else EINVAL := by
  rw [checkBeforeWrite, if_neg (Int.not_lt.mpr hfd), hw]
  cases s.isPipe <;> cases s.ipc <;> rfl

theorem checkBeforeWrite_neg (s : WStream) {h : Int} (hbad : ¬(s.isPipe = true ∧ s.ipc = true) ∨ h < 0) :
    checkBeforeWrite s (some h) < 0 :=
  iteInduction (motive := fun e : Int => e < 0) (fun _ => by decide) fun _ =>
  iteInduction (motive := fun e : Int => e < 0) (fun _ => by decide) fun _ =>
  iteInduction (motive := fun e : Int => e < 0) (fun _ => by decide) fun h1 =>
  iteInduction (motive := fun e : Int => e < 0) (fun _ => by decide) fun h2 =>
  hbad.elim (fun hb => absurd (by simpa using h1) hb) fun hb => absurd hb h2

theorem tryWrite2Check_idle {s : WStream} (hc : s.connecting = false) (hq : s.wqSize = 0)
    (send : Option Int) : tryWrite2Check s send = write2Check s send := by
  rw [tryWrite2Check, hc, hq]
  rfl

def idCount (s : SSt) (r : Nat) : Nat := s.log.countP fun e => e.1 == r

/-- the request was submitted with a handle -/
def hadHandle (s : SSt) (r : Nat) : Bool := s.orig.any fun e => e.1 == r && e.2.isSome

theorem carried_le_succeeded (s : SSt) (r : Nat) : carried s r ≤ succeeded s r := by
  unfold carried succeeded
  apply List.countP_mono_left
  intro e _ h
  simp only [Bool.and_eq_true] at h ⊢
  exact ⟨h.1.1, h.2⟩

theorem succeeded_le_idCount (s : SSt) (r : Nat) : succeeded s r ≤ idCount s r := by
  unfold succeeded idCount
  apply List.countP_mono_left
  intro e _ h
  simp only [Bool.and_eq_true] at h
  exact h.1

/-- what `send_handle_once` and `send_handle_kept_until_sent` need; preserved by every step on its own -/
structure SInv (s : SSt) : Prop where
  sorted : (s.queue.map (·.id)).Pairwise (· < ·)
  lt : ∀ q ∈ s.queue, q.id < s.nextId
  fresh : ∀ q ∈ s.queue, q.handle.isSome = true → succeeded s q.id = 0
  once : ∀ r, carried s r ≤ 1
  unused : ∀ r, s.nextId ≤ r → idCount s r = 0

theorem sinv_init : SInv {} := by
  constructor <;> simp [carried, idCount]

theorem succeeded_fresh {s : SSt} (hs : SInv s) {r : Nat} (hr : s.nextId ≤ r) : succeeded s r = 0 :=
  Nat.eq_zero_of_le_zero (hs.unused r hr ▸ succeeded_le_idCount s r)

theorem sinv_enq (s : SSt) (b : Nat) (h : Option Nat) (hs : SInv s) : SInv (enq s b h) := by
  refine ⟨?_, fun q hq => ?_, fun q hq hh => ?_, hs.once, fun r hr => hs.unused r (Nat.le_of_succ_le hr)⟩
  · show ((s.queue ++ [_]).map _).Pairwise _
    rw [List.map_append, List.pairwise_append]
    refine ⟨hs.sorted, List.pairwise_singleton .., fun a ha b hb => ?_⟩
    obtain ⟨q, hq, rfl⟩ := List.mem_map.mp ha
    exact List.mem_singleton.mp hb ▸ hs.lt q hq
  · rcases List.mem_append.mp hq with hq | hq
    · exact Nat.lt_succ_of_lt (hs.lt q hq)
    · rw [List.mem_singleton.mp hq]; exact Nat.lt_succ_self _
  · rcases List.mem_append.mp hq with hq | hq
    · exact hs.fresh q hq hh
    · rw [List.mem_singleton.mp hq]; exact succeeded_fresh hs (Nat.le_refl _)

/-- What one `uv__write` iteration does when `req` heads the queue: one log entry for `req`; the queue
loses `req`, or keeps it in place: with its handle after an error that is not final, without it after a
short transfer. -/
structure Att (s : SSt) (req : WReq) (rest : List WReq) (r : Int) (t : SSt) : Prop where
  head : s.queue = req :: rest
  log : t.log = s.log ++ [(req.id, req.handle, r)]
  nextId : t.nextId = s.nextId
  orig : t.orig = s.orig
  done : t.done = s.done ∨ ∃ st : Int, t.done = s.done ++ [(req.id, st)] ∧ (st = 0 → 0 ≤ r)
  queue : t.queue = rest ∨ ∃ req', t.queue = req' :: rest ∧ req'.id = req.id ∧
    (req'.handle = req.handle ∧ r < 0 ∨ req'.handle = none ∧ 0 ≤ r)

variable {s t : SSt} {req : WReq} {rest : List WReq} {r : Int}

theorem Att.carried_eq (a : Att s req rest r t) (x : Nat) : carried t x =
    carried s x + if (req.id == x && req.handle.isSome && decide (0 ≤ r)) = true then 1 else 0 := by
  simp only [carried, a.log, List.countP_append, List.countP_singleton]

theorem Att.succeeded_eq (a : Att s req rest r t) (x : Nat) : succeeded t x =
    succeeded s x + if (req.id == x && decide (0 ≤ r)) = true then 1 else 0 := by
  simp only [succeeded, a.log, List.countP_append, List.countP_singleton]

theorem Att.idCount_eq (a : Att s req rest r t) (x : Nat) : idCount t x =
    idCount s x + if (req.id == x) = true then 1 else 0 := by
  simp only [idCount, a.log, List.countP_append, List.countP_singleton]

theorem att_attempt (hq : s.queue = req :: rest) (r : Int) :
    Att s req rest r (attempt s r) := by
  unfold attempt
  rw [hq]
  exact iteInduction
    (fun hr => iteInduction (fun _ => ⟨hq, rfl, rfl, rfl, .inr ⟨0, rfl, fun _ => hr⟩, .inl rfl⟩)
      fun _ => ⟨hq, rfl, rfl, rfl, .inl rfl, .inr ⟨_, rfl, rfl, .inr ⟨rfl, hr⟩⟩⟩)
    fun hr => iteInduction (fun _ => ⟨hq, rfl, rfl, rfl, .inl rfl, .inr ⟨req, rfl, rfl, .inl ⟨rfl, by omega⟩⟩⟩)
      fun _ => ⟨hq, rfl, rfl, rfl, .inr ⟨r, rfl, fun h0 => by omega⟩, .inl rfl⟩

theorem sinv_after (a : Att s req rest r t) (hs : SInv s) : SInv t := by
  obtain ⟨h1, h2, h3, h4, h5⟩ := hs
  rw [a.head] at h1 h2 h3
  rw [List.map_cons, List.pairwise_cons] at h1
  have hreq := h2 req List.mem_cons_self
  have hne : ∀ q ∈ rest, (req.id == q.id) = false := fun q hq' =>
    beq_false_of_ne (Nat.ne_of_lt (h1.1 q.id (List.mem_map_of_mem hq')))
  have hfresh : ∀ q ∈ rest, q.handle.isSome = true → succeeded t q.id = 0 := fun q hq' hh => by
    rw [a.succeeded_eq, h3 q (List.mem_cons_of_mem _ hq') hh, hne q hq']; rfl
  have hlt : ∀ q ∈ rest, q.id < t.nextId := fun q hq' => a.nextId ▸ h2 q (List.mem_cons_of_mem _ hq')
  have honce : ∀ x, carried t x ≤ 1 := fun x => by
    rw [a.carried_eq]
    split
    · -- the entry counts: the handle is still attached, so nothing has succeeded yet
      next hc =>
      simp only [Bool.and_eq_true, beq_iff_eq] at hc
      have := h3 req List.mem_cons_self hc.1.2
      have := carried_le_succeeded s req.id
      rw [← hc.1.1]; omega
    · exact h4 x
  have hunused : ∀ x, t.nextId ≤ x → idCount t x = 0 := fun x hx => by
    rw [a.nextId] at hx
    rw [a.idCount_eq, h5 x hx,
      if_neg (ne_true_of_eq_false (beq_false_of_ne (Nat.ne_of_lt (Nat.lt_of_lt_of_le hreq hx))))]
  refine ⟨?_, ?_, ?_, honce, hunused⟩ <;> rcases a.queue with hq' | ⟨req', hq', hid, hh⟩ <;> rw [hq']
  · exact h1.2
  · rw [List.map_cons, List.pairwise_cons, hid]; exact h1
  · exact hlt
  · intro q hm
    rcases List.mem_cons.mp hm with rfl | hm
    · rw [hid, a.nextId]; exact hreq
    · exact hlt q hm
  · exact hfresh
  · intro q hm hs
    rcases List.mem_cons.mp hm with rfl | hm
    · -- the head still has its handle: the attempt failed, so still nothing succeeded
      rcases hh with ⟨hh, hr⟩ | ⟨hh, -⟩
      · rw [hid, a.succeeded_eq, h3 req List.mem_cons_self (hh ▸ hs), if_neg (by simp; omega)]
      · rw [hh] at hs; cases hs
    · exact hfresh q hm hs

theorem sinv_attempt (s : SSt) (r : Int) (hs : SInv s) : SInv (attempt s r) := by
  cases hq : s.queue with
  | nil => rw [attempt, hq]; exact hs
  | cons req rest => exact sinv_after (att_attempt hq r) hs

theorem sinv_step (s : SSt) (op : SOp) (h : SInv s) : SInv (sstep s op) := by
  cases op with
  | enq b hd => exact sinv_enq s b hd h
  | attempt r => exact sinv_attempt s r h

theorem sinv_run (ops : List SOp) : ∀ s, SInv s → SInv (srun s ops) := by
  induction ops with
  | nil => intro s h; exact h
  | cons op rest ih => intro s h; exact ih _ (sinv_step s op h)

/-- a request submitted with a handle has sent it as soon as one of its syscalls succeeded (with
`SInv.once`: exactly once); a queued request that lost its handle has had a successful syscall.
Kept apart from `SInv` because it is preserved only together with it (`sentInv_enq`). -/
structure SentInv (s : SSt) : Prop where
  exact : ∀ r, hadHandle s r = true → 1 ≤ succeeded s r → 1 ≤ carried s r
  sent : ∀ q ∈ s.queue, q.handle = none → hadHandle s q.id = true → 1 ≤ succeeded s q.id
  keys : ∀ e ∈ s.orig, e.1 < s.nextId
  fin : ∀ r, (r, (0 : Int)) ∈ s.done → 1 ≤ succeeded s r

theorem sentInv_init : SentInv {} := by
  constructor <;> simp [hadHandle]

theorem hadHandle_fresh (s : SSt) (h : ∀ e ∈ s.orig, e.1 < s.nextId) (r : Nat) (hr : s.nextId ≤ r) :
    hadHandle s r = false := by
  simp only [hadHandle, List.any_eq_false]
  intro e he
  simp [beq_false_of_ne (Nat.ne_of_lt (Nat.lt_of_lt_of_le (h e he) hr))]

theorem sentInv_enq (s : SSt) (b : Nat) (h : Option Nat) (hs : SInv s) (h2 : SentInv s) : SentInv (enq s b h) := by
  obtain ⟨k1, k2, k3, k4⟩ := h2
  have hh : ∀ r, hadHandle (enq s b h) r = (hadHandle s r || (s.nextId == r && h.isSome)) := by
    intro r; simp [hadHandle, enq, List.any_append]
  refine ⟨fun r hr hsu => ?_, fun q hq hn hq2 => ?_, fun e he => ?_, k4⟩
  · rw [hh, Bool.or_eq_true] at hr
    rcases hr with hr | hr
    · exact k1 r hr hsu
    · obtain rfl : s.nextId = r := by simp at hr; exact hr.1
      exact absurd (succeeded_fresh hs (Nat.le_refl _) ▸ (hsu : 1 ≤ succeeded s s.nextId)) (by decide)
  · rcases List.mem_append.mp hq with hq | hq
    · have := hs.lt q hq
      rw [hh, show (s.nextId == q.id) = false by simp; omega] at hq2
      exact k2 q hq hn (by simpa using hq2)
    · obtain rfl := List.mem_singleton.mp hq
      rw [hh, hadHandle_fresh s k3 s.nextId (Nat.le_refl _), show h = none from hn] at hq2
      simp at hq2
  · rcases List.mem_append.mp he with he | he
    · exact Nat.lt_succ_of_lt (k3 e he)
    · rw [List.mem_singleton.mp he]; exact Nat.lt_succ_self _

theorem sentInv_after (a : Att s req rest r t) (h2 : SentInv s) : SentInv t := by
  obtain ⟨k1, k2, k3, k4⟩ := h2
  have hreq : req ∈ s.queue := a.head ▸ List.mem_cons_self
  have hh : ∀ x, hadHandle t x = hadHandle s x := fun x => by rw [hadHandle, a.orig, hadHandle]
  have hsmono : ∀ x, succeeded s x ≤ succeeded t x := fun x => by rw [a.succeeded_eq]; exact Nat.le_add_right ..
  have hcmono : ∀ x, carried s x ≤ carried t x := fun x => by rw [a.carried_eq]; exact Nat.le_add_right ..
  have hsucc : 0 ≤ r → 1 ≤ succeeded t req.id := fun hr => by
    rw [a.succeeded_eq, if_pos (by simp [hr])]; exact Nat.le_add_left ..
  have hrest : ∀ q ∈ rest, q.handle = none → hadHandle t q.id = true → 1 ≤ succeeded t q.id :=
    fun q hm hn hq2 => Nat.le_trans (k2 q (a.head ▸ List.mem_cons_of_mem _ hm) hn (hh _ ▸ hq2)) (hsmono _)
  refine ⟨fun x hx hsu => ?_, ?_, a.orig ▸ a.nextId ▸ k3, fun x hx => ?_⟩
  · rw [hh] at hx
    by_cases h0 : 1 ≤ succeeded s x
    · exact Nat.le_trans (k1 x hx h0) (hcmono x)
    · -- the first success of `x` is this attempt, and `req` = `x` still carried its handle
      rw [a.succeeded_eq] at hsu
      split at hsu
      · next hc =>
        obtain ⟨rfl, hr⟩ : req.id = x ∧ 0 ≤ r := by simpa using hc
        cases hhd : req.handle with
        | none => exact absurd (k2 req hreq hhd hx) h0
        | some hd => rw [a.carried_eq, if_pos (by simp [hhd, hr])]; exact Nat.le_add_left ..
      · exact absurd hsu h0
  · rcases a.queue with hq' | ⟨req', hq', hid, hd⟩ <;> rw [hq']
    · exact hrest
    · intro q hm hn hq2
      rcases List.mem_cons.mp hm with rfl | hm
      · rcases hd with ⟨hd, -⟩ | ⟨-, hr⟩
        · rw [hid, hh] at hq2
          rw [hid]
          exact Nat.le_trans (k2 req hreq (hd ▸ hn) hq2) (hsmono _)
        · exact hid ▸ hsucc hr
      · exact hrest q hm hn hq2
  · rcases a.done with hd | ⟨st, hd, hst⟩ <;> rw [hd] at hx
    · exact Nat.le_trans (k4 x hx) (hsmono x)
    · rcases List.mem_append.mp hx with hx | hx
      · exact Nat.le_trans (k4 x hx) (hsmono x)
      · obtain ⟨rfl, rfl⟩ := Prod.mk.inj (List.mem_singleton.mp hx)
        exact hsucc (hst rfl)

theorem sentInv_run (ops : List SOp) : ∀ s, SInv s → SentInv s → SentInv (srun s ops) := by
  induction ops with
  | nil => intro s _ h2; exact h2
  | cons op rest ih =>
    intro s h h2
    refine ih _ (sinv_step s op h) ?_
    cases op with
    | enq b hd => exact sentInv_enq s b hd h h2
    | attempt r =>
      cases hq : s.queue with
      | nil => rw [sstep, attempt, hq]; exact h2
      | cons req rest => exact sentInv_after (att_attempt hq r) h2

end UvModel.Accept
