import UvModel.Lemmas.AsyncWakeup
/-! The combined invariant `Inv` of the reachable states (and `SendsLe`, which stands alone), and two consequences stated for any state with `Inv`: a handle
whose uv__async_close returned stays closed, and some thread is enabled while a callback is owed. -/
namespace UvModel.Async
variable {s s' : State} {a : Act}

structure Inv (s : State) : Prop where
  L : InvL s
  S : InvS s
  W : NoLost s
  C : CbLe s
  J : SeenOrPending s
  B : InvB s

theorem inv_init (nh ns cap : Nat) : Inv (init nh ns cap) := by
  refine ⟨?_, ?_, ?_, ?_, ?_, ?_⟩
  · constructor <;> simp [init, qMustBeEmpty]
  · constructor <;> simp [init, List.getElem?_replicate] <;> grind
  · intro h; simp [init]
  · intro h; simp [init]
  · intro t x hx hp; simp [init, List.getElem?_replicate] at hx; obtain ⟨_, rfl⟩ := hx; simp [published] at hp
  · constructor
    · intro h; simp [init, List.countP_replicate, critB]
    · intro t x hx hp; simp [init, List.getElem?_replicate] at hx; obtain ⟨_, rfl⟩ := hx; simp at hp

theorem inv_step (hI : Inv s) (hs : step? s a = some s') : Inv s' :=
  ⟨invL_step hI.L hs, invS_step hI.S hs, noLost_step hI.L hI.S hI.W hs, cbLe_step hI.L hI.C hs,
   seenOrPending_step hI.S hI.J hs, invB_step hI.L hI.S hI.B hs⟩

theorem inv_reachable (h : Reachable s) : Inv s := by
  obtain ⟨nh, ns, cap, acts, rfl⟩ := h
  exact run_elim (fun _ _ _ => inv_step) (inv_init nh ns cap) acts

theorem sendsLe_reachable (h : Reachable s) : SendsLe s := by
  obtain ⟨nh, ns, cap, acts, rfl⟩ := h
  refine run_elim (fun _ _ _ => sendsLe_step) (fun h => ?_) acts
  have : (List.replicate ns ({} : Sender)).countP (preX h) = 0 := by
    rw [List.countP_eq_zero]; intro a ha; rw [List.mem_replicate] at ha; simp [ha.2, preX]
  simp [init, this]

theorem reachable_run {s : State} (h : Reachable s) (acts : List Act) : Reachable (run s acts) := by
  obtain ⟨nh, ns, cap, a0, rfl⟩ := h
  exact ⟨nh, ns, cap, a0 ++ acts, by simp [run, List.foldl_append]⟩

theorem closed_step {h : Nat} (hL : InvL s) (hu : (s.hs h).unlinked = true)
    (hs : step? s a = some s') : (s'.hs h).unlinked = true ∧ (s'.hs h).cbs = (s.hs h).cbs := by
  by_cases ha : a = .loop
  · subst ha
    rcases (step?_loop hs).hs_cases h with e | ⟨hl, -, -, -, -⟩ | ⟨r, hl, -⟩ | ⟨r, -, -, e⟩
    · rw [e]; exact ⟨hu, rfl⟩
    · exact absurd (hL.scanIn h hl) (hL.unl h hu).2
    · rw [(hL.cloPc h r (.inl hl)).2] at hu; cases hu
    · rw [e]; exact ⟨rfl, rfl⟩
  · have e : s'.hs h = _ := nonloop_loopFieldsEq hs ha h
    rw [e]; exact ⟨hu, rfl⟩

theorem closed_run {h : Nat} (hI : Inv s) (hu : (s.hs h).unlinked = true) (acts : List Act) :
    ((run s acts).hs h).unlinked = true ∧ ((run s acts).hs h).cbs = (s.hs h).cbs :=
  (run_elim (P := fun s' => Inv s' ∧ (s'.hs h).unlinked = true ∧ (s'.hs h).cbs = (s.hs h).cbs)
    (fun _ _ _ ⟨hi, hu', hc⟩ hs => ⟨inv_step hi hs, (closed_step hi.L hu' hs).1, (closed_step hi.L hu' hs).2.trans hc⟩)
    ⟨hI, hu, rfl⟩ acts).2

theorem owed_implies_some_thread_enabled (hI : Inv s) (h : Nat)
    (hp : (s.hs h).pending ≠ 0) (ho : (s.hs h).closing = false) :
    (step? s .loop).isSome = true ∨ ∃ t, (step? s (.snd t)).isSome = true := by
  by_cases hb : step? s .loop = none
  · right
    rcases loop_blocked.mp hb with ⟨hl, he⟩ | ⟨k, r, hl, hk⟩
    · rcases hI.W h hp ho with h2 | ⟨t, x, hx, hw⟩ | h2
      · omega
      · exact ⟨t, snd_enabled hx (by rw [hw]; nofun)⟩
      · rw [willScan, hl] at h2; exact h2.elim
    · have := hI.B.busyEq k (hI.L.cloPc k r (.inr hl)).2
      obtain ⟨x, hx, hc⟩ := List.countP_pos_iff.mp (by omega : 0 < s.snd.countP (critB k))
      obtain ⟨t, ht⟩ := List.getElem?_of_mem hx
      exact ⟨t, snd_enabled ht fun hid => by simp [critB, hid] at hc⟩
  · exact .inl (Option.isSome_iff_ne_none.mpr hb)

end UvModel.Async
