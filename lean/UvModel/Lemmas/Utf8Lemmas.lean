import UvModel.Utf8
import UvModel.Lemmas.BitArith
/-!
  `uv__utf8_decode1` against Table 3-7.  The C code moves the low bits of the lead byte of a shorter
  sequence into virtual continuation bytes, so one arithmetic reading of `finish` (`finish_eq_some`)
  serves all lengths; a row of the table is then a range condition on the assembled value.
-/
namespace UvModel.Utf8
open UvModel.Bits

theorem ne_and_c0 {x : Nat} (hx : x < 256) : 0x80 ≠ (0xC0 &&& x) ↔ ¬ isCont x := by
  rw [and_c0]; omega

theorem compose (a b c d : Nat) (hb : b < 64) (hc : c < 64) (hd : d < 64) :
    (a <<< 18) ||| (b <<< 12) ||| (c <<< 6) ||| d = a * 262144 + b * 4096 + c * 64 + d := by
  rw [Nat.or_assoc, Nat.or_assoc, shl_or c 6 d hd, shl_or b 12 _ (by omega), shl_or a 18 _ (by omega),
    ← Nat.add_assoc, ← Nat.add_assoc]

theorem guard_eq_some {p : Prop} [Decidable p] {u v n : Nat} {r : R} :
    (if p then (none, u) else r) = (some v, n) ↔ ¬ p ∧ r = (some v, n) := by
  by_cases h : p
  · rw [if_pos h]; exact ⟨nofun, fun e => absurd h e.1⟩
  · rw [if_neg h]; exact ⟨fun e => ⟨h, e⟩, fun e => e.2⟩

/-- the three range checks of idna.c:125-132 on the assembled value: not overlong, at most U+10FFFF,
    not a surrogate -/
abbrev Checks (min w : Nat) : Prop := min ≤ w ∧ w ≤ 0x10FFFF ∧ ¬ (0xD800 ≤ w ∧ w ≤ 0xDFFF)

theorem finish_eq_some {min a b c d used v n : Nat} (hb : b < 256) (hc : c < 256) (hd : d < 256) :
    finish min a b c d used = (some v, n) ↔
      ((isCont b ∧ isCont c ∧ isCont d) ∧
        Checks min (a * 262144 + (b - 128) * 4096 + (c - 128) * 64 + (d - 128))) ∧
      a * 262144 + (b - 128) * 4096 + (c - 128) * 64 + (d - 128) = v ∧ used = n := by
  unfold finish
  rw [guard_eq_some, ne_and_c0 hb, ne_and_c0 hc, ne_and_c0 hd]
  by_cases hk : isCont b ∧ isCont c ∧ isCont d
  · have e : ∀ x, isCont x → x &&& 63 = x - 128 := fun x hx => by rw [and63]; omega
    simp only [e b hk.1, e c hk.2.1, e d hk.2.2]
    rw [compose a _ _ _ (by omega) (by omega) (by omega)]
    simp only [guard_eq_some, Prod.mk.injEq, Option.some.injEq, Nat.not_lt, gt_iff_lt, ge_iff_le,
      eq_true hk.1, eq_true hk.2.1, eq_true hk.2.2, not_true_eq_false, or_self, not_false_eq_true, true_and,
      and_assoc]
  · exact ⟨fun h => absurd hk (by omega), fun h => absurd h.1.1 hk⟩

theorem lo2_le (a b : Nat) : lo2 a ≤ b ↔ 0x80 ≤ b ∧ (a = 0xE0 → 0xA0 ≤ b) ∧ (a = 0xF0 → 0x90 ≤ b) := by
  unfold lo2; split
  · omega
  · split <;> omega

theorem le_hi2 (a b : Nat) : b ≤ hi2 a ↔ b ≤ 0xBF ∧ (a = 0xED → b ≤ 0x9F) ∧ (a = 0xF4 → b ≤ 0x8F) := by
  unfold hi2; split
  · omega
  · split <;> omega

theorem finish2 {a d v n : Nat} (h1 : 0xBF < a) (h2 : a ≤ 0xDF) (hd : d < 256) :
    finish 0x80 0 0x80 (0x80 ||| (a &&& 31)) d 2 = (some v, n) ↔
      (0xC2 ≤ a ∧ a ≤ 0xDF) ∧ isCont d ∧ (a - 0xC0) * 64 + (d - 0x80) = v ∧ 2 = n := by
  have ea : a - 0xC0 = a % 32 := by omega
  rw [Nat.and_two_pow_sub_one_eq_mod a 5, or80 _ (by omega), finish_eq_some (by omega) (by omega) hd, ea]
  simp only [Nat.zero_mul, Nat.zero_add, Nat.sub_self, Nat.add_sub_cancel_left]
  -- `omega` reads the whole context: what it does not need is cleared
  clear ea hd
  refine (and_congr_left' ⟨?_, ?_⟩).trans and_assoc
  · rintro ⟨⟨-, -, kd⟩, g1, g2, g3⟩
    omega
  · rintro ⟨t, kd⟩
    omega

theorem finish3 {a c d v n : Nat} (h1 : 0xDF < a) (h2 : a ≤ 0xEF) (hc : c < 256) (hd : d < 256) :
    finish 0x800 0 (0x80 ||| (a &&& 15)) c d 3 = (some v, n) ↔
      (lo2 a ≤ c ∧ c ≤ hi2 a ∧ isCont d) ∧ (a - 0xE0) * 4096 + (c - 0x80) * 64 + (d - 0x80) = v ∧ 3 = n := by
  have ea : a - 0xE0 = a % 16 := by omega
  rw [Nat.and_two_pow_sub_one_eq_mod a 4, or80 _ (by omega), finish_eq_some (by omega) hc hd, ea, lo2_le, le_hi2]
  simp only [Nat.zero_mul, Nat.zero_add, Nat.add_sub_cancel_left]
  clear ea hc hd
  refine and_congr_left' ⟨?_, ?_⟩
  · rintro ⟨⟨-, kc, kd⟩, g1, g2, g3⟩
    omega
  · rintro ⟨t1, t2, kd⟩
    omega

theorem finish4 {a b c d v n : Nat} (h1 : 0xEF < a) (h2 : a ≤ 0xF7) (hb : b < 256) (hc : c < 256)
    (hd : d < 256) :
    finish 0x10000 (a &&& 7) b c d 4 = (some v, n) ↔
      (0xF0 ≤ a ∧ a ≤ 0xF4) ∧ (lo2 a ≤ b ∧ b ≤ hi2 a ∧ isCont c ∧ isCont d) ∧
        (a - 0xF0) * 262144 + (b - 0x80) * 4096 + (c - 0x80) * 64 + (d - 0x80) = v ∧ 4 = n := by
  have ea : a - 0xF0 = a % 8 := by omega
  rw [Nat.and_two_pow_sub_one_eq_mod a 3, finish_eq_some hb hc hd, ea, lo2_le, le_hi2]
  clear ea hb hc hd
  refine (and_congr_left' ⟨?_, ?_⟩).trans and_assoc
  · rintro ⟨⟨kb, kc, kd⟩, g1, g2, g3⟩
    omega
  · rintro ⟨t0, t1, t2, kc, kd⟩
    omega

theorem bytes_cons {a : Nat} {l : List Nat} (h : Bytes (a :: l)) : a < 256 ∧ Bytes l :=
  ⟨h a List.mem_cons_self, fun b hb => h b (List.mem_cons_of_mem a hb)⟩

theorem decode1_ascii {a : Nat} (h : a < 128) (rest : List Nat) : decode1 (a :: rest) = (some a, 1) := by
  rw [decode1, if_pos h]

/-- the fall-through `switch` of idna.c:81-115 reads `need a` trailing bytes or gives up; this and the
    next three lemmas are its branches, by the class of the lead byte -/
theorem decode1_nolead {a : Nat} (h1 : 128 ≤ a) (h2 : a ≤ 0xBF ∨ 0xF7 < a) (rest : List Nat) :
    decode1 (a :: rest) = (none, 1) := by
  have n1 : ¬ a < 128 := by omega
  by_cases h : a > 0xF7
  · simp only [decode1, decode1Slow, if_neg n1, if_pos h]
  · have n3 : ¬ a > 0xEF := by omega
    have n4 : ¬ (a > 0xDF ∧ a ≤ 0xEF) := by omega
    have n5 : ¬ (a > 0xBF ∧ a ≤ 0xDF) := by omega
    match rest with
    | [] | [_] | [_, _] | _ :: _ :: _ :: _ =>
      simp only [decode1, decode1Slow, case2, case1, case0, if_neg n1, if_neg h, if_neg n3, if_neg n4, if_neg n5]

theorem decode1_lead2 {a : Nat} (h1 : 0xBF < a) (h2 : a ≤ 0xDF) (rest : List Nat) :
    decode1 (a :: rest) =
      match rest with
      | d :: _ => finish 0x80 0 0x80 (0x80 ||| (a &&& 31)) d 2
      | _ => (none, 1) := by
  have n1 : ¬ a < 128 := by omega
  have n2 : ¬ a > 0xF7 := by omega
  have n3 : ¬ a > 0xEF := by omega
  have n4 : ¬ (a > 0xDF ∧ a ≤ 0xEF) := by omega
  have p5 : a > 0xBF ∧ a ≤ 0xDF := ⟨h1, h2⟩
  match rest with
  | [] | [_] | [_, _] | _ :: _ :: _ :: _ =>
    simp only [decode1, decode1Slow, case2, case1, case0, if_neg n1, if_neg n2, if_neg n3, if_neg n4, if_pos p5]

theorem decode1_lead3 {a : Nat} (h1 : 0xDF < a) (h2 : a ≤ 0xEF) (rest : List Nat) :
    decode1 (a :: rest) =
      match rest with
      | c :: d :: _ => finish 0x800 0 (0x80 ||| (a &&& 15)) c d 3
      | _ => (none, 1) := by
  have n1 : ¬ a < 128 := by omega
  have n2 : ¬ a > 0xF7 := by omega
  have n3 : ¬ a > 0xEF := by omega
  have p4 : a > 0xDF ∧ a ≤ 0xEF := ⟨h1, h2⟩
  have n5 : ¬ (a > 0xBF ∧ a ≤ 0xDF) := by omega
  match rest with
  | [] | [_] | [_, _] | _ :: _ :: _ :: _ =>
    simp only [decode1, decode1Slow, case2, case1, case0, if_neg n1, if_neg n2, if_neg n3, if_pos p4, if_neg n5]

theorem decode1_lead4 {a : Nat} (h1 : 0xEF < a) (h2 : a ≤ 0xF7) (rest : List Nat) :
    decode1 (a :: rest) =
      match rest with
      | b :: c :: d :: _ => finish 0x10000 (a &&& 7) b c d 4
      | _ => (none, 1) := by
  have n1 : ¬ a < 128 := by omega
  have n2 : ¬ a > 0xF7 := by omega
  have n4 : ¬ (a > 0xDF ∧ a ≤ 0xEF) := by omega
  have n5 : ¬ (a > 0xBF ∧ a ≤ 0xDF) := by omega
  match rest with
  | [] | [_] | [_, _] | _ :: _ :: _ :: _ =>
    simp only [decode1, decode1Slow, case2, case1, case0, if_neg n1, if_neg n2, if_pos h1, if_neg n4, if_neg n5]

theorem lead_cases (a : Nat) :
    a < 128 ∨ (0xBF < a ∧ a ≤ 0xDF) ∨ (0xDF < a ∧ a ≤ 0xEF) ∨ (0xEF < a ∧ a ≤ 0xF7) ∨
      (128 ≤ a ∧ (a ≤ 0xBF ∨ 0xF7 < a)) := by
  omega

theorem decode1_iff_spec (l : List Nat) (hl : Bytes l) (v n : Nat) :
    decode1 l = (some v, n) ↔ spec l = some (v, n) := by
  match l, hl with
  | [], _ => simp only [decode1, spec, reduceCtorEq, Prod.mk.injEq, false_and]
  | a :: rest, hl =>
    rcases lead_cases a with h | h | h | h | h
    · rw [decode1_ascii h]
      simp only [spec, if_pos (Nat.le_of_lt_succ h), Prod.mk.injEq, Option.some.injEq]
    · have n1 : ¬ a ≤ 0x7F := by omega
      rw [decode1_lead2 h.1 h.2]
      simp only [spec, if_neg n1]
      match rest, hl with
      | [], _ => simp only [reduceCtorEq, Prod.mk.injEq, false_and, ite_self]
      | d :: r, hl =>
        simp only []
        rw [finish2 h.1 h.2 (hl d (by simp)), if_neg (by omega : ¬ (0xE0 ≤ a ∧ a ≤ 0xEF)),
          if_neg (by omega : ¬ (0xF0 ≤ a ∧ a ≤ 0xF4)), Option.ite_none_right_eq_some,
          Option.ite_none_right_eq_some, Option.some.injEq, Prod.mk.injEq]
    · have n1 : ¬ a ≤ 0x7F := by omega
      have n2 : ¬ (0xC2 ≤ a ∧ a ≤ 0xDF) := by omega
      have p3 : 0xE0 ≤ a ∧ a ≤ 0xEF := by omega
      rw [decode1_lead3 h.1 h.2]
      simp only [spec, if_neg n1, if_neg n2, if_pos p3]
      match rest, hl with
      | [], _ | [_], _ => simp only [reduceCtorEq, Prod.mk.injEq, false_and]
      | c :: d :: r, hl =>
        simp only []
        rw [finish3 h.1 h.2 (hl c (by simp)) (hl d (by simp)), Option.ite_none_right_eq_some,
          Option.some.injEq, Prod.mk.injEq]
    · have n1 : ¬ a ≤ 0x7F := by omega
      have n2 : ¬ (0xC2 ≤ a ∧ a ≤ 0xDF) := by omega
      have n3 : ¬ (0xE0 ≤ a ∧ a ≤ 0xEF) := by omega
      rw [decode1_lead4 h.1 h.2]
      simp only [spec, if_neg n1, if_neg n2, if_neg n3]
      match rest, hl with
      | [], _ | [_], _ | [_, _], _ => simp only [reduceCtorEq, Prod.mk.injEq, false_and, ite_self]
      | b :: c :: d :: r, hl =>
        simp only []
        rw [finish4 h.1 h.2 (hl b (by simp)) (hl c (by simp)) (hl d (by simp)),
          Option.ite_none_right_eq_some, Option.ite_none_right_eq_some, Option.some.injEq, Prod.mk.injEq]
    · rw [decode1_nolead h.1 h.2]
      simp only [spec, reduceCtorEq, Prod.mk.injEq, false_and, false_iff]
      rw [if_neg (by omega), if_neg (by omega), if_neg (by omega), if_neg (by omega)]
      nofun

theorem finish_le {min a b c d used v n : Nat} (h : finish min a b c d used = (some v, n)) :
    v ≤ 0x10FFFF := by
  unfold finish at h
  simp only [guard_eq_some, Prod.mk.injEq, Option.some.injEq] at h
  omega

theorem decode1_le {l : List Nat} {v n : Nat} (h : decode1 l = (some v, n)) : v ≤ 0x10FFFF := by
  match l with
  | [] => cases h
  | a :: rest =>
    rcases lead_cases a with c | c | c | c | c
    · rw [decode1_ascii c] at h; cases h; omega
    · rw [decode1_lead2 c.1 c.2] at h
      match rest, h with
      | [], h => cases h
      | _ :: _, h => exact finish_le h
    · rw [decode1_lead3 c.1 c.2] at h
      match rest, h with
      | [], h | [_], h => cases h
      | _ :: _ :: _, h => exact finish_le h
    · rw [decode1_lead4 c.1 c.2] at h
      match rest, h with
      | [], h | [_], h | [_, _], h => cases h
      | _ :: _ :: _ :: _, h => exact finish_le h
    · rw [decode1_nolead c.1 c.2] at h; cases h

theorem decode1_short {a : Nat} {rest : List Nat} (ha : 128 ≤ a) (h : rest.length < need a) :
    decode1 (a :: rest) = (none, 1) := by
  unfold need at h
  rcases lead_cases a with c | c | c | c | c
  · omega
  · rw [if_neg (by omega), if_neg (by omega), if_pos c.1] at h
    rw [decode1_lead2 c.1 c.2]
    match rest, h with
    | [], _ => rfl
    | _ :: _, h => simp only [List.length_cons] at h; omega
  · rw [if_neg (by omega), if_pos c.1] at h
    rw [decode1_lead3 c.1 c.2]
    match rest, h with
    | [], _ | [_], _ => rfl
    | _ :: _ :: _, h => simp only [List.length_cons] at h; omega
  · rw [if_pos c.1] at h
    rw [decode1_lead4 c.1 c.2]
    match rest, h with
    | [], _ | [_], _ | [_, _], _ => rfl
    | _ :: _ :: _ :: _, h => simp only [List.length_cons] at h; omega
  · exact decode1_nolead c.1 c.2 rest

theorem spec_le (l : List Nat) (hl : Bytes l) (v n : Nat) (h : spec l = some (v, n)) : v ≤ 0x10FFFF :=
  decode1_le ((decode1_iff_spec l hl v n).mpr h)

theorem bytes_drop {l : List Nat} (h : Bytes l) (k : Nat) : Bytes (l.drop k) :=
  fun b hb => h b (List.mem_of_mem_drop hb)

theorem decodeAll_eq_specAll (l : List Nat) (hl : Bytes l) : decodeAll l = specAll l := by
  fun_induction decodeAll l with
  | case1 => rw [specAll]
  | case2 a rest v n hd ih =>
    rw [specAll, (decode1_iff_spec _ hl v n).mp hd]
    simp only [ih (bytes_drop (bytes_cons hl).2 _)]
  | case3 a rest n hd =>
    cases hs : spec (a :: rest) with
    | none => rw [specAll, hs]
    | some p =>
      have := (decode1_iff_spec _ hl p.1 p.2).mpr hs
      rw [hd] at this; cases this

theorem specAll_le (l : List Nat) (hl : Bytes l) (vs : List Nat) (h : specAll l = some vs) :
    ∀ v ∈ vs, v ≤ 0x10FFFF := by
  fun_induction specAll l generalizing vs with
  | case1 => simp at h; subst h; simp
  | case2 a rest v n hs ih =>
    simp only [Option.map_eq_some_iff] at h
    obtain ⟨vs', h1, rfl⟩ := h
    intro x hx
    rcases List.mem_cons.mp hx with rfl | hx
    · exact spec_le _ hl _ n hs
    · exact ih (bytes_drop (bytes_cons hl).2 _) vs' h1 x hx
  | case3 a rest hs => simp at h

theorem specAll_length (l : List Nat) (vs : List Nat) (h : specAll l = some vs) : vs.length ≤ l.length := by
  fun_induction specAll l generalizing vs with
  | case1 => simp at h; subst h; simp
  | case2 a rest v n hs ih =>
    simp only [Option.map_eq_some_iff] at h
    obtain ⟨vs', h1, rfl⟩ := h
    have := ih vs' h1
    simp only [List.length_cons, List.length_drop] at this ⊢
    omega
  | case3 a rest hs => simp at h

/-- unfold both decoders, split the hypothesis `h : _ = some _`, substitute, split the goal, `omega` -/
macro "crunch" h:ident : tactic => `(tactic|
  (simp only [spec, decode1A, finishA, isCont] at $h:ident ⊢
   repeat' split at $h:ident
   all_goals (try omega)
   all_goals (simp only [Option.some.injEq, Prod.mk.injEq, reduceCtorEq] at $h:ident)
   all_goals (obtain ⟨rfl, rfl⟩ := $h:ident)
   all_goals (repeat' split)
   all_goals first | omega | (simp only [Prod.mk.injEq, Option.some.injEq, and_true, true_and] <;> omega) | (exfalso; omega)))

end UvModel.Utf8
