import UvModel.Lemmas.LoopPhaseSteps
/-!
  Closing bookkeeping seen from the handle flags: the handles that are CLOSING and not yet CLOSED are exactly
  the members of `closing_handles` plus the chain detached by `uv__run_closing_handles`, each once; outside
  that phase the detached chain is empty.
  `BInv`: ids in `handle_queue` are distinct, below `nextId`, have a record; every CLOSING ∧ ¬CLOSED one is
  queued; the queue has no duplicates and every queued id is CLOSING ∧ ¬CLOSED.
  `BStep s s'`: the detached chain is untouched and, from `BInv s`, `BInv s'` holds and CLOSED entries stay
  CLOSED (needed inside `uv__finish_close`, whose request callbacks run before the record is unlinked).  For a
  state without `BInv`, `BStep` only says that the detached chain is untouched.
  `BStep` holds of every constructor of `Reach0`/`Reach`.  The closing phase is not a `BStep` (it pops the detached
  chain): `finishClose_b` unfolds `finishClose` itself, because `BInv` has to be re-established across the window
  in which the handle is CLOSED but still linked.
-/
namespace UvModel.Loop
open UvModel.HandleKernels
namespace Reqs

def cflag (f : HFlags) : Bool := f.closing && !f.closed
/-- (CLOSING ∧ ¬CLOSED, CLOSED) -/
def fg (f : HFlags) : Bool × Bool := (cflag f, f.closed)
def fm (fl : List (Nat × HFlags)) : List (Nat × Bool × Bool) := fl.map (fun e => (e.1, fg e.2))
def bq (s : State) := (fm s.c.fl, s.nextId, s.handles.map (·.id), s.closing, s.closingLocal)

def BInvP (p : List (Nat × Bool × Bool) × Nat × List Nat × List Nat × List Nat) : Prop :=
  (p.1.map (·.1)).Nodup ∧ (∀ a ∈ p.1.map (·.1), a < p.2.1) ∧ (∀ a ∈ p.1.map (·.1), a ∈ p.2.2.1) ∧
  (∀ e ∈ p.1, e.2.1 = true → e.1 ∈ p.2.2.2.2 ++ p.2.2.2.1) ∧
  (p.2.2.2.2 ++ p.2.2.2.1).Nodup ∧ (∀ j ∈ p.2.2.2.2 ++ p.2.2.2.1, (j, true, false) ∈ p.1)
def BInv (s : State) : Prop := BInvP (bq s)

/-- `BInv` is preserved, the detached chain is untouched, CLOSED handles stay CLOSED -/
def BStep (s s' : State) : Prop :=
  s'.closingLocal = s.closingLocal ∧
  (BInv s → BInv s' ∧ ∀ j, (j, false, true) ∈ fm s.c.fl → (j, false, true) ∈ fm s'.c.fl)

theorem BStep.cl {s s' : State} (h : BStep s s') : s'.closingLocal = s.closingLocal := h.1
theorem BStep.inv {s s' : State} (h : BStep s s') (hi : BInv s) : BInv s' := (h.2 hi).1
theorem BStep.closed {s s' : State} (h : BStep s s') (hi : BInv s) {j : Nat} (hj : (j, false, true) ∈ fm s.c.fl) :
    (j, false, true) ∈ fm s'.c.fl := (h.2 hi).2 j hj

theorem BStep.refl (s : State) : BStep s s := ⟨rfl, fun hi => ⟨hi, fun _ h => h⟩⟩
theorem BStep.trans {a b c : State} (h1 : BStep a b) (h2 : BStep b c) : BStep a c :=
  ⟨h2.1.trans h1.1, fun hi => ⟨h2.inv (h1.inv hi), fun _ hj => h2.closed (h1.inv hi) (h1.closed hi hj)⟩⟩
theorem BStep.of_bq {s s' : State} (h : bq s' = bq s) : BStep s s' := by
  refine ⟨?_, fun hi => ⟨?_, ?_⟩⟩
  · simp only [bq, Prod.mk.injEq] at h; exact h.2.2.2.2
  · unfold BInv; rw [h]; exact hi
  · simp only [bq, Prod.mk.injEq] at h; intro j hj; rw [h.1]; exact hj
theorem fm_updF_same {fl : List (Nat × HFlags)} {id : Nat} {f f' : HFlags} (h : lookF fl id = some f)
    (hc : fg f' = fg f) : fm (updF fl id f') = fm fl := by
  induction fl with
  | nil => rfl
  | cons e t ih =>
    by_cases he : (e.1 == id) = true
    · simp only [lookF, he, if_true, Option.some.injEq] at h
      have : e.1 = id := by simpa using he
      simp [updF, fm, hc, ← h, this]
    · have he' : (e.1 == id) = false := by simpa using he
      simp only [lookF, he', Bool.false_eq_true, if_false] at h
      have := ih h
      simp only [fm] at this
      simp [updF, he', fm, this]

theorem fm_apply (c : Core) (id : Nat) (k : HK → HK) (hk : ∀ f ah, fg (ofHK (k (toHK f ah))) = fg f) :
    fm (c.apply id k).fl = fm c.fl := by
  unfold Core.apply
  cases hg : c.get id with
  | none => rfl
  | some f => exact fm_updF_same (by simpa [Core.get] using hg) (hk f c.ah)

theorem fg_start (f : HFlags) (ah : Int) : fg (ofHK (handleStart (toHK f ah))) = fg f := by
  rcases f with ⟨a, r, c, d, i⟩; cases a <;> cases r <;> simp [handleStart, toHK, ofHK, cflag, fg]
theorem fg_stop (f : HFlags) (ah : Int) : fg (ofHK (handleStop (toHK f ah))) = fg f := by
  rcases f with ⟨a, r, c, d, i⟩; cases a <;> cases r <;> simp [handleStop, toHK, ofHK, cflag, fg]
theorem fg_ref (f : HFlags) (ah : Int) : fg (ofHK (handleRef (toHK f ah))) = fg f := by
  rcases f with ⟨a, r, c, d, i⟩; cases a <;> cases r <;> cases c <;> simp [handleRef, toHK, ofHK, cflag, fg]
theorem fg_unref (f : HFlags) (ah : Int) : fg (ofHK (handleUnref (toHK f ah))) = fg f := by
  rcases f with ⟨a, r, c, d, i⟩; cases a <;> cases r <;> cases c <;> simp [handleUnref, toHK, ofHK, cflag, fg]
theorem fg_internal (f : HFlags) (ah : Int) : fg (ofHK (setInternal (toHK f ah))) = fg f := by
  rcases f with ⟨a, r, c, d, i⟩; simp [setInternal, toHK, ofHK, cflag, fg]

theorem bq_withKernel (s : State) (id : Nat) (k : HK → HK) (hk : ∀ f ah, fg (ofHK (k (toHK f ah))) = fg f) :
    bq (withKernel s id k) = bq s := by
  simp only [bq, withKernel, fm_apply _ _ _ hk]

/-! ### `bq` is part of the handle view -/
theorem bq_of_hview {s s' : State} (h : hview s' = hview s) : bq s' = bq s := by
  simp only [hview, Prod.mk.injEq] at h
  simp only [bq, h]
theorem bq_of_key {s s' : State} (h : key s' = key s) : bq s' = bq s := bq_of_hview (hview_of_key h)

theorem bq_modH (s : State) (id : Nat) (g : Handle → Handle) (hg : ∀ h, (g h).id = h.id) : bq (modH s id g) = bq s :=
  bq_of_hview (hview_modH s id g hg)
@[simp] theorem bq_hStart (s : State) (id : Nat) : bq (hStart s id) = bq s := bq_withKernel _ _ _ fg_start
@[simp] theorem bq_invalidate (s : State) (id : Nat) : bq (invalidate s id) = bq s := rfl
@[simp] theorem bq_emit (s : State) (e : Event) : bq (emit s e) = bq s := by
  unfold emit; split <;> rfl
theorem bq_cbEv (ph : Phase) (k : CbKind) (id : Nat) (a b : Int) (s : State) : bq (cbEv ph k id a b s) = bq s :=
  bq_emit ..

theorem keys_fm (fl : List (Nat × HFlags)) : (fm fl).map (·.1) = fl.map (·.1) := by
  simp [fm, List.map_map, Function.comp_def]

theorem keys_updF (fl : List (Nat × HFlags)) (id : Nat) (f' : HFlags) : (updF fl id f').map (·.1) = fl.map (·.1) := by
  induction fl with
  | nil => rfl
  | cons e t ih =>
    simp only [updF]
    split
    · rename_i he
      have : e.1 = id := by simpa using he
      simp [this]
    · simp [ih]

theorem mem_fm_updF {fl : List (Nat × HFlags)} {id : Nat} {f' : HFlags} {p : Nat × Bool × Bool}
    (h : p ∈ fm (updF fl id f')) : p ∈ fm fl ∨ p = (id, fg f') := by
  induction fl with
  | nil => simp [updF, fm] at h
  | cons e t ih =>
    simp only [updF] at h
    split at h
    · simp only [fm, List.map_cons, List.mem_cons] at h ⊢
      rcases h with h | h
      · exact Or.inr h
      · exact Or.inl (Or.inr h)
    · simp only [fm, List.map_cons, List.mem_cons] at h ⊢
      rcases h with h | h
      · exact Or.inl (Or.inl h)
      · rcases ih h with h | h
        · exact Or.inl (Or.inr h)
        · exact Or.inr h

theorem fm_updF_mem {fl : List (Nat × HFlags)} {id : Nat} {f f' : HFlags} (h : lookF fl id = some f) :
    (id, fg f') ∈ fm (updF fl id f') := by
  induction fl with
  | nil => simp [lookF] at h
  | cons e t ih =>
    by_cases he : (e.1 == id) = true
    · simp [updF, he, fm]
    · have he' : (e.1 == id) = false := by simpa using he
      simp only [lookF, he', Bool.false_eq_true, if_false] at h
      have := ih h
      simp only [updF, he', Bool.false_eq_true, if_false, fm, List.map_cons, List.mem_cons]
      exact Or.inr this

theorem nodup_keys_inj {β : Type} {m : List (Nat × β)} (hn : (m.map (·.1)).Nodup) {p q : Nat × β}
    (hp : p ∈ m) (hq : q ∈ m) (hk : p.1 = q.1) : p = q := by
  induction m with
  | nil => cases hp
  | cons a t ih =>
    simp only [List.map_cons, List.nodup_cons, List.mem_map, not_exists, not_and] at hn
    rcases List.mem_cons.mp hp with hp | hp <;> rcases List.mem_cons.mp hq with hq | hq
    · rw [hp, hq]
    · exact absurd (by rw [← hk, hp]) (hn.1 q hq)
    · exact absurd (by rw [hk, hq]) (hn.1 p hp)
    · exact ih hn.2 hp hq

theorem mem_fm_eraseF {fl : List (Nat × HFlags)} {id : Nat} (hn : (fl.map (·.1)).Nodup) {p : Nat × Bool × Bool}
    (h : p ∈ fm (eraseF fl id)) : p ∈ fm fl ∧ p.1 ≠ id := by
  induction fl with
  | nil => simp [eraseF, fm] at h
  | cons e t ih =>
    simp only [List.map_cons, List.nodup_cons] at hn
    simp only [eraseF] at h
    split at h
    · rename_i he
      have he' : e.1 = id := by simpa using he
      refine ⟨by simp only [fm, List.map_cons, List.mem_cons]; exact Or.inr h, ?_⟩
      intro hp
      apply hn.1
      have : p.1 ∈ (fm t).map (·.1) := List.mem_map.mpr ⟨p, h, rfl⟩
      rw [keys_fm] at this
      rw [he', ← hp]; exact this
    · rename_i he
      simp only [fm, List.map_cons, List.mem_cons] at h ⊢
      rcases h with h | h
      · refine ⟨Or.inl h, ?_⟩
        rw [h]; simpa using he
      · have := ih hn.2 h
        exact ⟨Or.inr this.1, this.2⟩

theorem mem_fm_updF_ne {fl : List (Nat × HFlags)} {id : Nat} {f' : HFlags} {p : Nat × Bool × Bool}
    (h : p ∈ fm fl) (hne : p.1 ≠ id) : p ∈ fm (updF fl id f') := by
  induction fl with
  | nil => simp [fm] at h
  | cons e t ih =>
    simp only [fm, List.map_cons, List.mem_cons] at h
    simp only [updF]
    split
    · rename_i he
      have he' : e.1 = id := by simpa using he
      simp only [fm, List.map_cons, List.mem_cons]
      rcases h with h | h
      · rw [h] at hne; exact absurd he' hne
      · exact Or.inr h
    · simp only [fm, List.map_cons, List.mem_cons]
      rcases h with h | h
      · exact Or.inl h
      · exact Or.inr (ih h)

theorem mem_fm_eraseF_ne {fl : List (Nat × HFlags)} {id : Nat} {p : Nat × Bool × Bool}
    (h : p ∈ fm fl) (hne : p.1 ≠ id) : p ∈ fm (eraseF fl id) := by
  induction fl with
  | nil => simp [fm] at h
  | cons e t ih =>
    simp only [fm, List.map_cons, List.mem_cons] at h
    simp only [eraseF]
    split
    · rename_i he
      have he' : e.1 = id := by simpa using he
      rcases h with h | h
      · rw [h] at hne; exact absurd he' hne
      · exact h
    · simp only [fm, List.map_cons, List.mem_cons]
      rcases h with h | h
      · exact Or.inl h
      · exact Or.inr (ih h)

theorem lookF_mem_fm {fl : List (Nat × HFlags)} {id : Nat} {f : HFlags} (h : lookF fl id = some f) : (id, fg f) ∈ fm fl := by
  induction fl with
  | nil => simp [lookF] at h
  | cons e t ih =>
    by_cases he : (e.1 == id) = true
    · simp only [lookF, he, if_true, Option.some.injEq] at h
      have : e.1 = id := by simpa using he
      simp [fm, ← h, ← this]
    · have he' : (e.1 == id) = false := by simpa using he
      simp only [lookF, he', Bool.false_eq_true, if_false] at h
      simp only [fm, List.map_cons, List.mem_cons]
      exact Or.inr (ih h)

theorem keys_eraseF_sub (fl : List (Nat × HFlags)) (id : Nat) : ((eraseF fl id).map (·.1)).Sublist (fl.map (·.1)) := by
  induction fl with
  | nil => exact List.Sublist.refl _
  | cons e t ih =>
    simp only [eraseF]
    split
    · exact List.sublist_cons_self _ _
    · exact List.Sublist.cons_cons _ ih

theorem addHandle_bstep (s : State) (k : Kind) : BStep s (addHandle s k) := by
  have hb : bq (addHandle s k) = (fm s.c.fl ++ [(s.nextId, false, false)], s.nextId + 1, s.handles.map (·.id) ++ [s.nextId],
      s.closing, s.closingLocal) := by
    simp [bq, addHandle, Core.add, fm, fg, cflag, ofHK, handleInit]
  refine ⟨rfl, fun hi => ⟨?_, ?_⟩⟩
  · obtain ⟨h1, h2, h3, h4, h5, h6⟩ := hi
    unfold BInv; rw [hb]
    simp only [bq] at h1 h2 h3 h4 h5 h6
    refine ⟨?_, ?_, ?_, ?_, h5, ?_⟩
    · simp only [List.map_append, List.map_cons, List.map_nil]
      refine List.nodup_append.mpr ⟨h1, by simp, ?_⟩
      intro a ha b hb
      have := h2 a ha
      simp only [List.mem_singleton] at hb
      omega
    · intro a ha
      simp only [List.map_append, List.map_cons, List.map_nil, List.mem_append, List.mem_singleton] at ha
      rcases ha with ha | ha
      · have := h2 a ha; show a < s.nextId + 1; omega
      · show a < s.nextId + 1; omega
    · intro a ha
      simp only [List.map_append, List.map_cons, List.map_nil, List.mem_append, List.mem_singleton] at ha
      show a ∈ s.handles.map (·.id) ++ [s.nextId]
      rcases ha with ha | ha
      · exact List.mem_append_left _ (h3 a ha)
      · exact List.mem_append_right _ (by simp [ha])
    · intro e he ht
      simp only [List.mem_append, List.mem_singleton] at he
      rcases he with he | he
      · exact h4 e he ht
      · rw [he] at ht; cases ht
    · intro j hj
      exact List.mem_append_left _ (h6 j hj)
  · intro j hj
    have : fm (addHandle s k).c.fl = fm s.c.fl ++ [(s.nextId, false, false)] := by
      simp only [bq, Prod.mk.injEq] at hb; exact hb.1
    rw [this]; exact List.mem_append_left _ hj

theorem initH_bstep (s : State) (k : Kind) : BStep s (initH s k) := by
  unfold initH
  simp only
  have ha := addHandle_bstep s k
  cases k with
  | timer => exact ha.trans (BStep.of_bq rfl)
  | async => exact ha.trans (BStep.of_bq (by rw [bq_hStart]; rfl))
  | poll => exact ha.trans (BStep.of_bq (bq_modH _ _ _ (fun _ => rfl)))
  | _ => exact ha

theorem fg_closeK {f : HFlags} (hd : f.closed = false) (ah : Int) : fg (ofHK (closeK (toHK f ah))) = (true, false) := by
  rcases f with ⟨a, r, c, d, i⟩; simp at hd; cases a <;> cases r <;> simp [closeK, setClosing, handleStop, toHK, ofHK, fg, cflag, hd]

theorem close_bstep (s : State) (id : Nat) (f : HFlags) (hf : getF s id = some f)
    (hc : f.closing = false) (hd : f.closed = false) :
    BStep s { s with c := s.c.apply id closeK, closing := id :: s.closing } := by
  have hl : lookF s.c.fl id = some f := by simpa [getF, Core.get] using hf
  have hfl : (s.c.apply id closeK).fl = updF s.c.fl id (ofHK (closeK (toHK f s.c.ah))) := by
    unfold Core.apply
    have : s.c.get id = some f := hf
    simp only [this]
  generalize hs' : ({ s with c := s.c.apply id closeK, closing := id :: s.closing } : State) = s'
  have hb : bq s' = (fm (updF s.c.fl id (ofHK (closeK (toHK f s.c.ah)))), s.nextId, s.handles.map (·.id),
      id :: s.closing, s.closingLocal) := by
    subst hs'; simp only [bq, hfl]
  have hold : (id, false, false) ∈ fm s.c.fl := by
    have := lookF_mem_fm hl
    simpa [fg, cflag, hc, hd] using this
  refine ⟨by simp only [bq, Prod.mk.injEq] at hb; exact hb.2.2.2.2, fun hi => ⟨?_, ?_⟩⟩
  · obtain ⟨h1, h2, h3, h4, h5, h6⟩ := hi
    unfold BInv; rw [hb]
    simp only [bq] at h1 h2 h3 h4 h5 h6
    have hk : (fm (updF s.c.fl id (ofHK (closeK (toHK f s.c.ah))))).map (·.1) = (fm s.c.fl).map (·.1) := by
      simp only [keys_fm, keys_updF]
    have hnot : id ∉ s.closingLocal ++ s.closing := by
      intro hm
      have := nodup_keys_inj h1 (h6 id hm) hold rfl
      simp at this
    refine ⟨by rw [hk]; exact h1, by rw [hk]; exact h2, by rw [hk]; exact h3, ?_, ?_, ?_⟩
    · intro e he ht
      show e.1 ∈ s.closingLocal ++ id :: s.closing
      rcases mem_fm_updF he with h | h
      · have := h4 e h ht
        simp only [List.mem_append, List.mem_cons] at this ⊢
        rcases this with h | h
        · exact Or.inl h
        · exact Or.inr (Or.inr h)
      · simp [h]
    · show (s.closingLocal ++ id :: s.closing).Nodup
      exact (List.perm_middle.nodup_iff).mpr (List.nodup_cons.mpr ⟨hnot, h5⟩)
    · intro j hj
      have hj' : j = id ∨ j ∈ s.closingLocal ++ s.closing := by
        have : j ∈ s.closingLocal ++ id :: s.closing := hj
        simp only [List.mem_append, List.mem_cons] at this ⊢
        rcases this with h | h | h
        · exact Or.inr (Or.inl h)
        · exact Or.inl h
        · exact Or.inr (Or.inr h)
      rcases hj' with rfl | hj'
      · have := fm_updF_mem (f' := ofHK (closeK (toHK f s.c.ah))) hl
        rw [fg_closeK hd] at this
        exact this
      · refine mem_fm_updF_ne (h6 j hj') ?_
        intro heq
        exact hnot (heq ▸ hj')
  · intro j hj
    have : fm s'.c.fl = fm (updF s.c.fl id (ofHK (closeK (toHK f s.c.ah)))) := by
      simp only [bq, Prod.mk.injEq] at hb; exact hb.1
    rw [this]
    refine mem_fm_updF_ne hj ?_
    intro heq
    -- the entry of `id` is not CLOSED
    have h1 : ((fm s.c.fl).map (·.1)).Nodup := hi.1
    have := nodup_keys_inj h1 hj hold heq
    simp at this

end Reqs
open Reqs

theorem KStep.bstep {s s' : State} (h : KStep s s') : BStep s s' := by
  cases h with
  | start id _ => exact .of_bq (bq_hStart ..)
  | stop id => exact .of_bq (bq_withKernel _ _ _ fg_stop)
  | ref id => exact .of_bq (bq_withKernel _ _ _ fg_ref)
  | unref id => exact .of_bq (bq_withKernel _ _ _ fg_unref)
  | internal id => exact .of_bq (bq_withKernel _ _ _ fg_internal)

theorem OpStep.bstep {q : Bool} {u : Option Nat} {s s' : State} (h : OpStep q u s s') : BStep s s' := by
  induction h with
  | frame h => exact .of_bq (bq_of_key h)
  | trans _ _ ih1 ih2 => exact ih1.trans ih2
  | kern h => exact h.bstep
  | req h => exact .of_bq (bq_of_hview h.hview)
  | unwatch => exact .of_bq rfl
  | init s k => exact initH_bstep s k
  | close s id f _ hf hc hd => exact close_bstep s id f hf hc hd

theorem CbStep.bstep {s s' : State} (h : CbStep s s') : BStep s s' := by
  induction h with
  | quiet h => exact h.bstep
  | call s o => exact ((applyOp_step s o).bstep.trans (.of_bq (bq_emit ..))).trans (.of_bq (bq_emit ..))
  | emit s ev _ => exact .of_bq (bq_emit s ev)
  | trans _ _ ih1 ih2 => exact ih1.trans ih2

theorem Reach0.bstep {ph : Phase} {s s' : State} (h : Reach0 ph s s') : BStep s s' := by
  induction h with
  | cb h => exact h.bstep
  | trans _ _ ih1 ih2 => exact ih1.trans ih2
  | handleCb => exact .of_bq (bq_cbEv ..)
  | drain => exact .of_bq (bq_modH _ _ _ (fun _ => rfl))
  | watchers => exact .of_bq rfl
  | udpDone s id h r st rest =>
    exact .of_bq ((bq_cbEv ..).trans (bq_modH s id (fun h => { h with wcq := rest, sqc := h.sqc - 1 }) (fun _ => rfl)))
  | connDone s id =>
    exact .of_bq ((bq_cbEv ..).trans ((bq_of_key (key_ioStop _ (.h id) POLLOUT)).trans
      (bq_modH s id (fun h => { h with connReq := none }) (fun _ => rfl))))
  | workDone => exact .of_bq (bq_cbEv ..)
  | destroy s id h r s2 _ _ hcb =>
    exact ((BStep.of_bq (bq_cbEv ..)).trans hcb.bstep).trans (.of_bq (bq_modH _ _ _ (fun _ => rfl)))

theorem Reach.bstep {s s' : State} (h : Reach s s') : BStep s s' := by
  induction h with
  | base h => exact h.bstep
  | trans _ _ ih1 ih2 => exact ih1.trans ih2
  | halt s => exact .of_bq rfl
  | ask s => exact .of_bq rfl
  | polled s => exact .of_bq (bq_emit ..)

namespace Reqs

theorem runCb_bstep (sc : Script) (ph : Phase) (k : CbKind) (key : CbKey) (id : Nat) (a b : Int) (occ : Nat) (s : State) :
    BStep s (runCb sc ph k key id a b occ s) :=
  (BStep.of_bq (bq_cbEv ..)).trans (runCb_cb ..).bstep

theorem lookF_none_keys {fl : List (Nat × HFlags)} {id : Nat} (h : lookF fl id = none) : id ∉ fl.map (·.1) := by
  induction fl with
  | nil => simp
  | cons e t ih =>
    by_cases he : (e.1 == id) = true
    · simp [lookF, he] at h
    · have he' : (e.1 == id) = false := by simpa using he
      simp only [lookF, he', Bool.false_eq_true, if_false] at h
      simp only [List.map_cons, List.mem_cons, not_or]
      exact ⟨by simp at he'; omega, ih h⟩

theorem fg_setClosed (f : HFlags) (ah : Int) : fg (ofHK (setClosed (toHK f ah))) = (false, true) := by
  rcases f with ⟨a, r, c, d, i⟩; simp [setClosed, toHK, ofHK, fg, cflag]

/-- `uv__finish_close` of the head `id` of the detached chain -/
theorem finishClose_b (sc : Script) (id : Nat) (s0 : State) (rest : List Nat) (h0 : s0.closingLocal = id :: rest)
    (hi : BInv s0) :
    BInv (finishClose sc id { s0 with closingLocal := rest }) ∧
    (finishClose sc id { s0 with closingLocal := rest }).closingLocal = rest := by
  obtain ⟨i1, i2, i3, i4, i5, i6⟩ := hi
  simp only [bq, h0] at i1 i2 i3 i4 i5 i6
  generalize hs : ({ s0 with closingLocal := rest } : State) = s
  have e1 : s.c = s0.c := by subst hs; rfl
  have e2 : s.nextId = s0.nextId := by subst hs; rfl
  have e3 : s.handles = s0.handles := by subst hs; rfl
  have e4 : s.closing = s0.closing := by subst hs; rfl
  have e5 : s.closingLocal = rest := by subst hs; rfl
  -- `id` is queued exactly once and its entry is CLOSING ∧ ¬CLOSED
  have hn5 : id ∉ rest ++ s0.closing ∧ (rest ++ s0.closing).Nodup := by
    simpa only [List.cons_append, List.nodup_cons] using i5
  have hid : (id, true, false) ∈ fm s0.c.fl := i6 id (by simp)
  have hx : ∀ e ∈ fm s0.c.fl, e.2.1 = true → e.1 ≠ id → e.1 ∈ rest ++ s0.closing := by
    intro e he ht hne
    have := i4 e he ht
    simp only [List.cons_append, List.mem_cons] at this
    rcases this with h | h
    · exact absurd h hne
    · exact h
  have h6' : ∀ j ∈ rest ++ s0.closing, (j, true, false) ∈ fm s0.c.fl ∧ j ≠ id := by
    intro j hj
    refine ⟨i6 j (by simp only [List.cons_append, List.mem_cons]; exact Or.inr hj), ?_⟩
    intro heq; exact hn5.1 (heq ▸ hj)
  -- the record exists
  have hhid : id ∈ s0.handles.map (·.id) := i3 id (List.mem_map.mpr ⟨_, hid, rfl⟩)
  unfold finishClose
  split
  · rename_i hg
    exact absurd (show id ∈ s.handles.map (·.id) from e3 ▸ hhid) ((getH_none_iff _ id).mp hg)
  · rename_i h hg
    simp only
    -- flags of `id`
    obtain ⟨f, hl⟩ : ∃ f, lookF s0.c.fl id = some f := by
      cases hl : lookF s0.c.fl id with
      | some f => exact ⟨f, rfl⟩
      | none =>
        exfalso
        apply lookF_none_keys hl
        rw [← keys_fm]
        exact List.mem_map.mpr ⟨_, hid, rfl⟩
    have hfl : (s.c.apply id setClosed).fl = updF s0.c.fl id (ofHK (setClosed (toHK f s0.c.ah))) := by
      rw [e1]; unfold Core.apply
      have : s0.c.get id = some f := hl
      simp only [this]
    have hk : (fm (s.c.apply id setClosed).fl).map (·.1) = (fm s0.c.fl).map (·.1) := by
      rw [hfl]; simp only [keys_fm, keys_updF]
    have hmem : (id, false, true) ∈ fm (s.c.apply id setClosed).fl := by
      rw [hfl]
      have := fm_updF_mem (f' := ofHK (setClosed (toHK f s0.c.ah))) hl
      rw [fg_setClosed] at this
      exact this
    -- after `flags |= UV_HANDLE_CLOSED`
    have b1 : BInv (withKernel s id setClosed) := by
      refine ⟨by simp only [bq, withKernel]; rw [hk]; exact i1, by simp only [bq, withKernel]; rw [hk, e2]; exact i2,
        by simp only [bq, withKernel]; rw [hk, e3]; exact i3, ?_, ?_, ?_⟩
      · intro e he ht
        simp only [bq, withKernel, e4, e5] at he ⊢
        have hn1 : ((fm (s.c.apply id setClosed).fl).map (·.1)).Nodup := by rw [hk]; exact i1
        have hne : e.1 ≠ id := by
          intro heq
          have := nodup_keys_inj hn1 he hmem heq
          rw [this] at ht; cases ht
        rw [hfl] at he
        rcases mem_fm_updF he with h | h
        · exact hx e h ht hne
        · rw [h] at hne; exact absurd rfl hne
      · simp only [bq, withKernel, e4, e5]; exact hn5.2
      · intro j hj
        simp only [bq, withKernel, e4, e5] at hj ⊢
        rw [hfl]
        exact mem_fm_updF_ne (h6' j hj).1 (h6' j hj).2
    have c1 : (withKernel s id setClosed).closingLocal = rest := e5
    generalize hs2 : (if h.kind == .udp then udpFinishClose sc .closing id (withKernel s id setClosed)
        else if h.kind == .pipe || h.kind == .tcp then streamDestroy sc id (withKernel s id setClosed)
        else withKernel s id setClosed) = s2
    have st2 : BStep (withKernel s id setClosed) s2 := by
      rw [← hs2]
      split
      · exact (udpFinishClose_reach ..).bstep
      · split
        · exact (streamDestroy_reach ..).bstep
        · exact BStep.refl _
    have st3 : BStep (withKernel s id setClosed) (withKernel s2 id handleUnref) :=
      st2.trans (BStep.of_bq (bq_withKernel _ _ _ fg_unref))
    have b2 : BInv (withKernel s2 id handleUnref) := st3.inv b1
    have c2 : (withKernel s2 id handleUnref).closingLocal = rest := st3.cl.trans c1
    have m2 : (id, false, true) ∈ fm (withKernel s2 id handleUnref).c.fl := st3.closed b1 hmem
    generalize withKernel s2 id handleUnref = s3 at b2 c2 m2
    split
    · exact ⟨b2, c2⟩
    · have st4 := runCb_bstep sc .closing .close (.c id) id (flagBits ‹HFlags›) 0 0
        { s3 with c := s3.c.remove id, handles := s3.handles.filter (·.id != id) }
      refine ⟨st4.inv ?_, st4.cl.trans c2⟩
      obtain ⟨j1, j2, j3, j4, j5, j6⟩ := b2
      simp only [bq] at j1 j2 j3 j4 j5 j6
      have hsub : ((fm (eraseF s3.c.fl id)).map (·.1)).Sublist ((fm s3.c.fl).map (·.1)) := by
        rw [keys_fm, keys_fm]; exact keys_eraseF_sub _ _
      refine ⟨?_, ?_, ?_, ?_, j5, ?_⟩
      · exact List.Sublist.nodup hsub j1
      · intro a ha; exact j2 a (hsub.subset ha)
      · intro a ha
        show a ∈ (s3.handles.filter (·.id != id)).map (·.id)
        obtain ⟨p, hp, hpa⟩ := List.mem_map.mp ha
        have hne := (mem_fm_eraseF (by rw [← keys_fm]; exact j1) hp).2
        obtain ⟨x, hx1, hx2⟩ := List.mem_map.mp (j3 a (hsub.subset ha))
        refine List.mem_map.mpr ⟨x, List.mem_filter.mpr ⟨hx1, ?_⟩, hx2⟩
        rw [← hpa] at hx2
        simp [hx2, hne]
      · intro e he ht
        exact j4 e (mem_fm_eraseF (by rw [← keys_fm]; exact j1) he).1 ht
      · intro j hj
        refine mem_fm_eraseF_ne (j6 j hj) ?_
        intro heq
        have := nodup_keys_inj j1 (j6 j hj) m2 heq
        simp at this

theorem runClosingLoop_b (sc : Script) (fuel : Nat) (s : State) (hi : BInv s) :
    BInv (runClosingLoop sc fuel s) ∧ (s.closingLocal.length ≤ fuel → (runClosingLoop sc fuel s).closingLocal = []) := by
  induction fuel generalizing s with
  | zero =>
    refine ⟨hi, ?_⟩
    intro hl
    exact List.eq_nil_of_length_eq_zero (Nat.le_zero.mp hl)
  | succ n ih =>
    unfold runClosingLoop
    split
    · rename_i hc
      exact ⟨hi, fun _ => hc⟩
    · rename_i id rest hc
      have hf := finishClose_b sc id s rest hc hi
      have := ih _ hf.1
      refine ⟨this.1, ?_⟩
      intro hl
      apply this.2
      rw [hf.2]
      simp only [hc, List.length_cons] at hl
      omega

/-- boundary invariant: `BInv` and nothing detached -/
def BB (s : State) : Prop := BInv s ∧ s.closingLocal = []

theorem BStep.bb {s s' : State} (h : BStep s s') (hb : BB s) : BB s' := ⟨h.inv hb.1, h.cl.trans hb.2⟩

theorem runClosing_bb (sc : Script) (s : State) (hb : BB s) : BB (runClosing sc s) := by
  unfold runClosing
  obtain ⟨⟨i1, i2, i3, i4, i5, i6⟩, hl⟩ := hb
  simp only [bq, hl, List.nil_append] at i4 i5 i6
  have h1 : BInv { s with closingLocal := s.closing, closing := [] } := by
    refine ⟨i1, i2, i3, ?_, ?_, ?_⟩
    · intro e he ht
      simp only [bq, List.append_nil]
      exact i4 e he ht
    · simp only [bq, List.append_nil]; exact i5
    · intro j hj
      simp only [bq, List.append_nil] at hj
      exact i6 j hj
  have := runClosingLoop_b sc (s.closing.length + 1) _ h1
  exact ⟨this.1, this.2 (Nat.le_succ _)⟩

theorem runMain_bb (sc : Script) (fuel : Nat) (prog : List MainOp) (s : State) (hb : BB s) : BB (runMain sc fuel s prog) :=
  runMain_keeps (fun h => h.bstep.bb) runClosing_bb sc fuel prog s hb

theorem initLoop_bb (clock0 : Nat) (metrics : Bool) (oracle : List PollRes) : BB (initLoop clock0 metrics oracle) := by
  refine (initLoop_step clock0 metrics oracle).bstep.bb ⟨⟨List.nodup_nil, ?_, ?_, ?_, List.nodup_nil, ?_⟩, rfl⟩ <;>
    intro a h <;> cases h

/-- at every API boundary of `main`: nothing is detached, and `closing_handles` holds exactly the handles that
    are CLOSING and not yet CLOSED, each once -/
theorem closing_queued (sc : Script) (fuel clock0 : Nat) (metrics : Bool) (oracle : List PollRes) (prog : List MainOp) :
    let s := runMain sc fuel (initLoop clock0 metrics oracle) prog
    s.closingLocal = [] ∧ s.closing.Nodup ∧
    (∀ e ∈ s.c.fl, e.2.closing = true → e.2.closed = false → e.1 ∈ s.closing) ∧
    (∀ id ∈ s.closing, ∃ e ∈ s.c.fl, e.1 = id ∧ e.2.closing = true ∧ e.2.closed = false) := by
  intro s
  obtain ⟨⟨_, _, _, i4, i5, i6⟩, hl⟩ := runMain_bb sc fuel prog _ (initLoop_bb clock0 metrics oracle)
  simp only [bq, hl, List.nil_append] at i4 i5 i6
  refine ⟨hl, i5, ?_, ?_⟩
  · intro e he h1 h2
    exact i4 (e.1, fg e.2) (List.mem_map.mpr ⟨e, he, rfl⟩) (by simp [fg, cflag, h1, h2])
  · intro id hid
    obtain ⟨e, he, heq⟩ := List.mem_map.mp (i6 id hid)
    simp only [fg, cflag, Prod.mk.injEq, Bool.and_eq_true, Bool.not_eq_true'] at heq
    exact ⟨e, he, heq.1, heq.2.1.1, heq.2.2⟩

end Reqs
end UvModel.Loop
