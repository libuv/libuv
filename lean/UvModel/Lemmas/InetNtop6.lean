import UvModel.Lemmas.InetPton6
/-!
  `inet_ntop6` in closed form.  The eight words are `l ++ zeros ++ r` with the zeros the run chosen by the scan
  (`bestRun_cases`), and the text printed is `joinX l ++ "::" ++ tail6` (`ntop6Text_cases`); its length, its
  character set and the grammar's reading of it (hence the round trip through `inet_pton6`) are read off that.
-/
namespace UvModel.Inet

theorem hexVal_hexDigit (d : Nat) (h : d < 16) : hexVal (hexDigit d) = some d := by
  unfold hexDigit hexVal
  by_cases h10 : d < 10
  · rw [if_pos h10, if_pos (by omega), Nat.add_sub_cancel_left]
  · rw [if_neg h10, if_neg (by omega), if_pos (by omega), Nat.add_sub_cancel_left]

/-- characters `inet_ntop6` may print -/
def OkChar6 (c : Nat) : Prop := (48 ≤ c ∧ c ≤ 57) ∨ (97 ≤ c ∧ c ≤ 102) ∨ c = 58 ∨ c = 46

theorem okChar6_colon : OkChar6 58 := .inr (.inr (.inl rfl))

theorem okChar6_ne_zero (c : Nat) (h : OkChar6 c) : c ≠ 0 := by
  unfold OkChar6 at h; omega

theorem fmtX16_len (w : Nat) : 1 ≤ (fmtX16 w).length ∧ (fmtX16 w).length ≤ 4 := by
  unfold fmtX16; (repeat' split) <;> simp

theorem fmtX16_step (w : Nat) (h16 : 16 ≤ w) (h : w < 65536) :
    fmtX16 w = fmtX16 (w / 16) ++ [hexDigit (w % 16)] := by
  have lt {k} (hk : w < 16 * k) : w / 16 < k := Nat.div_lt_of_lt_mul hk
  have ge {k} (hk : ¬ w < k * 16) : ¬ w / 16 < k :=
    Nat.not_lt.2 ((Nat.le_div_iff_mul_le (by decide)).2 (Nat.not_lt.1 hk))
  unfold fmtX16
  rw [if_neg (by omega)]
  by_cases h1 : w < 256
  · rw [if_pos h1, if_pos (lt h1)]; rfl
  rw [if_neg h1, if_neg (ge h1)]
  by_cases h2 : w < 4096
  · rw [if_pos h2, if_pos (lt h2), Nat.div_div_eq_div_mul]; rfl
  · rw [if_neg h2, if_neg (ge h2), if_pos (lt h), Nat.div_div_eq_div_mul, Nat.div_div_eq_div_mul]; rfl

theorem fmtX16_digit (w : Nat) (h : w < 16) : fmtX16 w = [hexDigit w] := by
  unfold fmtX16; rw [if_pos h]

theorem fmtX16_mem (w : Nat) (h : w < 65536) : ∀ c ∈ fmtX16 w, ∃ d, d < 16 ∧ c = hexDigit d := by
  intro c hc
  by_cases h1 : w < 16
  · rw [fmtX16_digit w h1] at hc
    exact ⟨w, h1, List.mem_singleton.1 hc⟩
  · have hlt : w / 16 < w := Nat.div_lt_self (by omega) (by decide)
    rw [fmtX16_step w (by omega) h] at hc
    rcases List.mem_append.1 hc with hc | hc
    · exact fmtX16_mem (w / 16) (Nat.lt_trans hlt h) c hc
    · exact ⟨w % 16, Nat.mod_lt _ (by decide), List.mem_singleton.1 hc⟩
termination_by w
decreasing_by exact hlt

theorem hexFold_fmtX16 (w : Nat) (h : w < 65536) : hexFold (fmtX16 w) = w := by
  by_cases h1 : w < 16
  · rw [fmtX16_digit w h1]; simp [hexFold, hexVal_hexDigit w h1]
  · have hlt : w / 16 < w := Nat.div_lt_self (by omega) (by decide)
    rw [fmtX16_step w (by omega) h, hexFold_snoc, hexFold_fmtX16 (w / 16) (Nat.lt_trans hlt h),
      hexVal_hexDigit _ (Nat.mod_lt _ (by decide)), Option.getD_some, Nat.div_add_mod']
termination_by w
decreasing_by exact hlt

theorem fmtX16_isH16 (w : Nat) (h : w < 65536) : IsH16 (fmtX16 w) w := by
  have hl := fmtX16_len w
  refine ⟨fun h0 => by rw [h0] at hl; simp at hl, hl.2, fun c hc => ?_, hexFold_fmtX16 w h⟩
  obtain ⟨d, hd, rfl⟩ := fmtX16_mem w h c hc
  rw [hexVal_hexDigit d hd]; rfl

theorem fmtX16_ok (w : Nat) (h : w < 65536) : ∀ c ∈ fmtX16 w, OkChar6 c := by
  intro c hc
  obtain ⟨d, hd, rfl⟩ := fmtX16_mem w h c hc
  unfold hexDigit OkChar6
  split <;> omega

/-- each group preceded by ':' -/
def sepX (l : List Nat) : List Nat := l.flatMap fun w => 58 :: fmtX16 w

/-- hex groups separated by ':' -/
def joinX (l : List Nat) : List Nat := (sepX l).drop 1

theorem sepX_cons (w : Nat) (l : List Nat) : sepX (w :: l) = 58 :: joinX (w :: l) := rfl

theorem hexSeq_joinX (l : List Nat) : ∀ w, (∀ x ∈ w :: l, x < 65536) →
    HexSeq (joinX (w :: l)) ((w :: l).flatMap wbytes) := by
  induction l with
  | nil =>
    intro w hw
    simpa [joinX, sepX] using HexSeq.one (fmtX16_isH16 w (hw w (List.mem_cons_self ..)))
  | cons w' l ih =>
    intro w hw
    obtain ⟨hw, hl⟩ := List.forall_mem_cons.1 hw
    exact HexSeq.cons (fmtX16_isH16 w hw) (ih w' hl)

theorem joinX_seq (l : List Nat) (hl : ∀ w ∈ l, w < 65536) :
    Opt HexSeq (joinX l) (l.flatMap wbytes) := by
  cases l with
  | nil => exact .inl ⟨rfl, rfl⟩
  | cons w l => exact .inr (hexSeq_joinX l w hl)

theorem sepX_len (l : List Nat) : (sepX l).length ≤ 5 * l.length := by
  induction l with
  | nil => exact Nat.le_refl _
  | cons w l ih =>
    have := (fmtX16_len w).2
    simp only [sepX, List.flatMap_cons, List.length_append, List.length_cons] at ih ⊢
    omega

theorem joinX_len (l : List Nat) : (joinX l).length ≤ 5 * l.length :=
  Nat.le_trans (by rw [joinX, List.length_drop]; exact Nat.sub_le ..) (sepX_len l)

theorem sepX_ok (l : List Nat) (hl : ∀ w ∈ l, w < 65536) : ∀ c ∈ sepX l, OkChar6 c := by
  intro c hc
  obtain ⟨w, hw, hc⟩ := List.mem_flatMap.1 hc
  rcases List.mem_cons.1 hc with rfl | hc
  · exact okChar6_colon
  · exact fmtX16_ok w (hl w hw) c hc

theorem joinX_ok (l : List Nat) (hl : ∀ w ∈ l, w < 65536) : ∀ c ∈ joinX l, OkChar6 c :=
  fun c hc => sepX_ok l hl c (List.mem_of_mem_drop hc)

theorem getD_eq_getElem' (ws : List Nat) (i : Nat) (h : i < ws.length) : ws.getD i 0 = ws[i] := by
  rw [List.getD_eq_getElem?_getD, List.getElem?_eq_getElem h]; rfl

theorem getD_lt_of_all (src : List Nat) (hb : ∀ b ∈ src, b < 256) (j : Nat) : src.getD j 0 < 256 := by
  rw [List.getD_eq_getElem?_getD]
  cases h : src[j]? with
  | none => decide
  | some x => exact hb x (List.mem_of_getElem? h)

theorem wbytes_pair (a b : Nat) (ha : a < 256) (hb : b < 256) : wbytes (a * 256 + b) = [a, b] := by
  have e1 : (a * 256 + b) / 256 = a := by
    rw [Nat.mul_comm, Nat.mul_add_div (by decide), Nat.div_eq_of_lt hb]; rfl
  have e2 : (a * 256 + b) % 256 = b := by rw [Nat.mul_comm, Nat.mul_add_mod, Nat.mod_eq_of_lt hb]
  rw [wbytes, e1, e2, Nat.mod_eq_of_lt ha]

theorem flatMap_wbytes_pairs (src : List Nat) (hb : ∀ b ∈ src, b < 256) : ∀ n, 2 * n ≤ src.length →
    ((List.range n).map fun i => src.getD (2 * i) 0 * 256 + src.getD (2 * i + 1) 0).flatMap wbytes = src.take (2 * n) := by
  intro n
  induction n with
  | zero => intro; rfl
  | succ n ih =>
    intro hn
    have h0 : 2 * n < src.length := by omega
    have h1 : 2 * n + 1 < src.length := by omega
    rw [List.range_succ, List.map_append, List.flatMap_append, ih (by omega), List.map_singleton,
      List.flatMap_singleton, wbytes_pair _ _ (getD_lt_of_all src hb _) (getD_lt_of_all src hb _),
      getD_eq_getElem' src _ h0, getD_eq_getElem' src _ h1, show 2 * (n + 1) = 2 * n + 1 + 1 from rfl,
      List.take_succ_eq_append_getElem h1, List.take_succ_eq_append_getElem h0, List.append_assoc]
    rfl

theorem words_length (src : List Nat) : (words src).length = 8 := by simp [words]

theorem words_bytes (src : List Nat) (hl : src.length = 16) (hb : ∀ b ∈ src, b < 256) :
    (words src).flatMap wbytes = src := by
  rw [words, flatMap_wbytes_pairs src hb 8 (by omega), List.take_of_length_le (by omega)]

theorem words_getD (src : List Nat) (j : Nat) :
    (words src).getD j 0 = if j < 8 then src.getD (2 * j) 0 * 256 + src.getD (2 * j + 1) 0 else 0 := by
  unfold words
  split
  · rename_i h
    simp [List.getD_eq_getElem?_getD, List.getElem?_map, List.getElem?_range h]
  · rename_i h
    have : (List.range 8)[j]? = none := by simp; omega
    simp [List.getD_eq_getElem?_getD, List.getElem?_map, this]

theorem words_all_lt (src : List Nat) (hsrc : ∀ j, src.getD j 0 < 256) : ∀ w ∈ words src, w < 65536 := by
  intro w hw
  obtain ⟨j, -, rfl⟩ := List.mem_map.1 hw
  have := hsrc (2 * j)
  have := hsrc (2 * j + 1)
  omega

theorem flatMap_wbytes_len (l : List Nat) : (l.flatMap wbytes).length = 2 * l.length := by
  induction l with
  | nil => rfl
  | cons a t ih => rw [List.flatMap_cons, List.length_append, ih, wbytes_len, List.length_cons]; omega

theorem flatMap_wbytes_zero (n : Nat) : (List.replicate n 0).flatMap wbytes = List.replicate (2 * n) 0 := by
  induction n with
  | zero => rfl
  | succ n ih =>
    rw [List.replicate_succ, List.flatMap_cons, ih, show 2 * (n + 1) = 2 * n + 1 + 1 from rfl,
      List.replicate_succ, List.replicate_succ]
    rfl

theorem flatMap_wbytes_drop (l : List Nat) (k : Nat) : (l.drop k).flatMap wbytes = (l.flatMap wbytes).drop (2 * k) := by
  induction k generalizing l with
  | zero => rfl
  | succ k ih =>
    cases l with
    | nil => rfl
    | cons a t => rw [List.drop_succ_cons, ih, List.flatMap_cons]; rfl

/-- `r` is no run, or a run of `≥ m` zero words inside `[0, n)` -/
def ZRun (ws : List Nat) (r : Run) (m : Int) (n : Nat) : Prop :=
  r.base = -1 ∨ (0 ≤ r.base ∧ m ≤ r.len ∧ r.base + r.len ≤ n ∧
    ∀ j : Nat, r.base ≤ j → (j : Int) < r.base + r.len → ws.getD j 0 = 0)

theorem ZRun.mono {ws : List Nat} {r : Run} {m : Int} {n n' : Nat} (h : ZRun ws r m n) (hn : n ≤ n') :
    ZRun ws r m n' := by
  rcases h with h | ⟨h1, h2, h3, h4⟩
  · exact .inl h
  · exact .inr ⟨h1, h2, by omega, h4⟩

def ScanInv (ws : List Nat) (n : Nat) (st : Run × Run) : Prop :=
  ZRun ws st.1 1 n ∧ ZRun ws st.2 1 n ∧ (st.2.base ≠ -1 → st.2.base + st.2.len = n)

theorem scanStep_inv (ws : List Nat) (n : Nat) (st : Run × Run) (h : ScanInv ws n st) :
    ScanInv ws (n + 1) (scanStep ws st n) := by
  obtain ⟨hb, hc, hce⟩ := h
  have hb' := hb.mono (Nat.le_succ n)
  unfold scanStep
  by_cases hz : ws.getD n 0 = 0
  · rw [if_pos hz]
    by_cases hcb : st.2.base = -1
    · rw [if_pos hcb]
      refine ⟨hb', .inr ⟨Int.natCast_nonneg n, Int.le_refl 1, by dsimp only; omega, fun j hj1 hj2 => ?_⟩,
        fun _ => by dsimp only; omega⟩
      have : j = n := by dsimp only at hj1 hj2; omega
      rw [this]; exact hz
    · rw [if_neg hcb]
      have hce' := hce hcb
      rcases hc with hc | ⟨h1, h2, h3, h4⟩
      · exact absurd hc hcb
      refine ⟨hb', .inr ⟨h1, by dsimp only; omega, by dsimp only; omega, fun j hj1 hj2 => ?_⟩,
        fun _ => by dsimp only; omega⟩
      by_cases hjn : j = n
      · rw [hjn]; exact hz
      · exact h4 j hj1 (by dsimp only at hj2; omega)
  · rw [if_neg hz]
    by_cases hcb : st.2.base = -1
    · rw [if_neg (fun h => h hcb)]
      exact ⟨hb', .inl hcb, fun h => absurd hcb h⟩
    · rw [if_pos hcb]
      refine ⟨?_, .inl rfl, fun h => absurd rfl h⟩
      split
      · exact hc.mono (Nat.le_succ n)
      · exact hb'

theorem finishScan_spec (ws : List Nat) (st : Run × Run) (hb : ZRun ws st.1 1 8) (hc : ZRun ws st.2 1 8) :
    ZRun ws (finishScan st) 2 8 := by
  have hm : ZRun ws (if st.2.base ≠ -1 then (if st.1.base = -1 ∨ st.2.len > st.1.len then st.2 else st.1) else st.1)
      1 8 := by
    split
    · split
      · exact hc
      · exact hb
    · exact hb
  unfold finishScan
  dsimp only
  generalize (if st.2.base ≠ -1 then (if st.1.base = -1 ∨ st.2.len > st.1.len then st.2 else st.1) else st.1) = m
    at hm ⊢
  split
  · exact .inl rfl
  · rcases hm with hm | ⟨g1, g2, g3, g4⟩
    · exact .inl hm
    · exact .inr ⟨g1, by omega, g3, g4⟩

theorem bestRun_spec (ws : List Nat) : ZRun ws (bestRun ws) 2 8 := by
  have h0 : ScanInv ws 0 (⟨-1, 0⟩, ⟨-1, 0⟩) := ⟨.inl rfl, .inl rfl, fun h => absurd rfl h⟩
  have h1 := scanStep_inv ws 0 _ h0
  have h2 := scanStep_inv ws 1 _ h1
  have h3 := scanStep_inv ws 2 _ h2
  have h4 := scanStep_inv ws 3 _ h3
  have h5 := scanStep_inv ws 4 _ h4
  have h6 := scanStep_inv ws 5 _ h5
  have h7 := scanStep_inv ws 6 _ h6
  have h8 := scanStep_inv ws 7 _ h7
  exact finishScan_spec ws _ h8.1 h8.2.1

theorem bestRun_cases (ws : List Nat) :
    (bestRun ws).base = -1 ∨ ∃ b n : Nat, (bestRun ws).base = b ∧ (bestRun ws).len = n ∧ 2 ≤ n ∧ b + n ≤ 8 ∧
      ∀ j, b ≤ j → j < b + n → ws.getD j 0 = 0 := by
  rcases bestRun_spec ws with h | ⟨h0, h2, h3, hz⟩
  · exact .inl h
  · obtain ⟨b, hb⟩ := Int.eq_ofNat_of_zero_le h0
    obtain ⟨n, hn⟩ := Int.eq_ofNat_of_zero_le (Int.le_trans (by decide) h2)
    rw [hn] at h2
    rw [hb, hn] at h3 hz
    exact .inr ⟨b, n, hb, hn, by omega, by omega, fun j h1 h2 => hz j (by omega) (by omega)⟩

/-- the embedded `inet_ntop4` call always has room: it appends the dotted quad -/
theorem embedV4_spec (src tp : List Nat) (h : tp.length ≤ 30) :
    embedV4 src tp = .ok (tp ++ fmt4 (src.drop 12)) := by
  have hl := fmt4_len (src.drop 12)
  have hr : ntop4 (src.drop 12) (List.replicate (46 - tp.length) 0) (46 - tp.length) =
      (0, fmt4 (src.drop 12) ++ 0 :: (List.replicate (46 - tp.length) 0).drop ((fmt4 (src.drop 12)).length + 1)) := by
    rw [ntop4_spec _ _ _ (by simp) (by simp [SSIZE_MAX]; omega), if_neg (by omega)]
  unfold embedV4
  simp only [hr]
  simp [cstr_append_nul _ _ (fmt4_ne_zero _)]

/-- word `i` lies in the run that is printed as "::" -/
abbrev InRun (best : Run) (i : Nat) : Prop :=
  best.base ≠ -1 ∧ (i : Int) ≥ best.base ∧ (i : Int) < best.base + best.len

/-- the last two words are printed as an IPv4 address -/
abbrev V4At (best : Run) (ws : List Nat) (i : Nat) : Prop :=
  i = 6 ∧ best.base = 0 ∧ (best.len = 6 ∨ (best.len = 7 ∧ ws.getD 7 0 ≠ 1) ∨ (best.len = 5 ∧ ws.getD 5 0 = 0xffff))

section
variable (src ws : List Nat) (best : Run)

theorem fmt6Loop_in (i : Nat) (tp : List Nat) (h8 : i < 8) (h : InRun best i) :
    fmt6Loop src ws best i tp =
      fmt6Loop src ws best (i + 1) (if (i : Int) = best.base then tp ++ [58] else tp) := by
  rw [fmt6Loop, if_pos h8, if_pos h]

theorem fmt6Loop_hex (i : Nat) (tp : List Nat) (h8 : i < 8)
    (h : ¬ InRun best i) (hv : ¬ V4At best ws i) :
    fmt6Loop src ws best i tp = fmt6Loop src ws best (i + 1) (colon i tp ++ fmtX16 (ws.getD i 0)) := by
  rw [fmt6Loop, if_pos h8, if_neg h, if_neg hv]

theorem fmt6Loop_end (tp : List Nat) : fmt6Loop src ws best 8 tp = .ok tp := by
  rw [fmt6Loop, if_neg (by decide)]

theorem fmt6Loop_groups (hlen : ws.length = 8) : ∀ (d i : Nat) (tp : List Nat),
    1 ≤ i → i + d ≤ 8 → (∀ j, i ≤ j → j < i + d → ¬ InRun best j ∧ ¬ V4At best ws j) →
    fmt6Loop src ws best i tp = fmt6Loop src ws best (i + d) (tp ++ sepX ((ws.drop i).take d)) := by
  intro d
  induction d with
  | zero => intro i tp _ _ _; simp [sepX]
  | succ d ih =>
    intro i tp hi hid hout
    have hi8 : i < 8 := by omega
    have hiw : i < ws.length := hlen ▸ hi8
    obtain ⟨hin, hv⟩ := hout i (Nat.le_refl i) (Nat.lt_add_of_pos_right (Nat.succ_pos d))
    have e : tp ++ sepX ((ws.drop i).take (d + 1)) =
        colon i tp ++ fmtX16 (ws.getD i 0) ++ sepX ((ws.drop (i + 1)).take d) := by
      rw [List.drop_eq_getElem_cons hiw, List.take_succ_cons, getD_eq_getElem' ws i hiw, colon,
        if_pos (Nat.ne_of_gt hi)]
      simp [sepX]
    rw [fmt6Loop_hex src ws best i tp hi8 hin hv,
      ih (i + 1) _ (Nat.le_succ_of_le hi) (by omega) (fun j h1 h2 => hout j (Nat.le_of_succ_le h1) (by omega)), e,
      Nat.add_right_comm]
    rfl

variable {best} in
theorem inRun_iff {b n : Nat} (hb : best.base = b) (hn : best.len = n) (i : Nat) :
    InRun best i ↔ b ≤ i ∧ i < b + n := by
  unfold InRun; omega

theorem fmt6Loop_skip (b n : Nat) (tp : List Nat)
    (hb : best.base = b) (hn : best.len = n) (hbn : b + n ≤ 8) : ∀ m, 1 ≤ m → m ≤ n →
    fmt6Loop src ws best b tp = fmt6Loop src ws best (b + m) (tp ++ [58]) := by
  intro m
  induction m with
  | zero => intro h; exact absurd h (by decide)
  | succ m ih =>
    intro _ hm
    have hlt : b + m < b + n := Nat.add_lt_add_left hm b
    rw [← Nat.add_assoc]
    by_cases h0 : m = 0
    · subst h0
      rw [fmt6Loop_in src ws best b tp (Nat.lt_of_lt_of_le hlt hbn) ((inRun_iff hb hn b).2 ⟨Nat.le_refl b, hlt⟩),
        if_pos hb.symm]
    · rw [ih (Nat.pos_of_ne_zero h0) (Nat.le_of_lt hm),
        fmt6Loop_in src ws best (b + m) _ (Nat.lt_of_lt_of_le hlt hbn)
          ((inRun_iff hb hn _).2 ⟨Nat.le_add_right b m, hlt⟩),
        if_neg (by omega)]

theorem fmt6Loop_prefix (hlen : ws.length = 8) (b : Nat) (hb : b ≤ 8)
    (hout : ∀ j, j < b → ¬ InRun best j ∧ ¬ V4At best ws j) :
    fmt6Loop src ws best 0 [] = fmt6Loop src ws best b (joinX (ws.take b)) := by
  cases b with
  | zero => rfl
  | succ b =>
    match ws, hlen with
    | w :: ws', hlen =>
      obtain ⟨hin, hv⟩ := hout 0 (by omega)
      rw [fmt6Loop_hex _ _ _ 0 [] (by omega) hin hv,
        fmt6Loop_groups src (w :: ws') best hlen b 1 _ (Nat.le_refl 1) (by omega) (fun j h1 h2 => hout j (by omega)),
        Nat.add_comm 1 b]
      rfl

theorem fmt6Loop_norun (hb : best.base = -1) (hlen : ws.length = 8) :
    fmt6Loop src ws best 0 [] = .ok (joinX ws) := by
  rw [fmt6Loop_prefix src ws best hlen 8 (Nat.le_refl 8)
      (fun j _ => ⟨fun h => h.1 hb, fun h => by have := h.2.1; omega⟩),
    fmt6Loop_end, List.take_of_length_le (by omega)]

theorem fmt6Loop_run (b n : Nat) (hb : best.base = b) (hn : best.len = n)
    (hn1 : 1 ≤ n) (hbn : b + n ≤ 8) (hlen : ws.length = 8)
    (hnv : ¬ (b = 0 ∧ (n = 6 ∨ (n = 5 ∧ ws.getD 5 0 = 0xffff)))) :
    fmt6Loop src ws best 0 [] = .ok (joinX (ws.take b) ++ 58 :: sepX (ws.drop (b + n))) := by
  have hout : ∀ j, j < b ∨ b + n ≤ j → ¬ InRun best j ∧ ¬ V4At best ws j := by
    intro j hj
    refine ⟨fun h => by have := (inRun_iff hb hn j).1 h; omega, fun h => hnv ?_⟩
    obtain ⟨rfl, hb0, hc⟩ := h
    have hb0 : b = 0 := by omega
    rw [hn] at hc
    refine ⟨hb0, ?_⟩
    rcases hc with h6 | ⟨h7, _⟩ | ⟨h5, hf⟩
    · exact .inl (Int.ofNat_inj.1 h6)
    · -- the clause `best.len == 7 && words[7] != 1` of inet.c:125 can never fire: with a run `[0, 7)` word 6 is inside the run
      omega
    · exact .inr ⟨Int.ofNat_inj.1 h5, hf⟩
  have e : b + n + (8 - (b + n)) = 8 := Nat.add_sub_cancel' hbn
  rw [fmt6Loop_prefix src ws best hlen b (by omega) (fun j hj => hout j (.inl hj)),
    fmt6Loop_skip src ws best b n _ hb hn hbn n hn1 (Nat.le_refl n),
    fmt6Loop_groups src ws best hlen (8 - (b + n)) (b + n) _ (by omega) (Nat.le_of_eq e) (fun j h1 _ => hout j (.inr h1)),
    e, fmt6Loop_end, List.take_of_length_le (l := ws.drop (b + n)) (by rw [List.length_drop, hlen]; exact Nat.le_refl _),
    List.append_assoc]
  rfl

/-- IPv4-compatible form: six zero words, then the dotted quad -/
theorem fmt6Loop_v4_6 (hb : best.base = (0 : Nat)) (hn : best.len = (6 : Nat)) :
    fmt6Loop src ws best 0 [] = .ok (58 :: 58 :: fmt4 (src.drop 12)) := by
  obtain ⟨_, _⟩ := best
  subst hb hn
  simp [fmt6Loop, colon, embedV4_spec]

/-- IPv4-mapped form: five zero words, `ffff`, then the dotted quad -/
theorem fmt6Loop_v4_5 (hb : best.base = (0 : Nat)) (hn : best.len = (5 : Nat))
    (h5 : ws.getD 5 0 = 0xffff) :
    fmt6Loop src ws best 0 [] = .ok (58 :: 58 :: (fmtX16 0xffff ++ 58 :: fmt4 (src.drop 12))) := by
  obtain ⟨_, _⟩ := best
  subst hb hn
  simp at h5
  simp [fmt6Loop, colon, h5, fmtX16, hexDigit]
  rw [embedV4_spec _ _ (by decide)]
  rfl

end

/-- what is printed after "::" when the run is the words `[b, b+n)` -/
def tail6 (src ws : List Nat) (b n : Nat) : List Nat :=
  if b = 0 ∧ n = 6 then fmt4 (src.drop 12)
  else if b = 0 ∧ n = 5 ∧ ws.getD 5 0 = 0xffff then fmtX16 0xffff ++ 58 :: fmt4 (src.drop 12)
  else joinX (ws.drop (b + n))

/-- lines 135-137: a run reaching the end gets its second ':' after the loop -/
theorem ntop6Text_of_loop (src tp : List Nat) (h : fmt6Loop src (words src) (bestRun (words src)) 0 [] = .ok tp) :
    ntop6Text src = .ok (if (bestRun (words src)).base ≠ -1 ∧
      (bestRun (words src)).base + (bestRun (words src)).len = 8 then tp ++ [58] else tp) := by
  unfold ntop6Text; simp only [h]

theorem ntop6Text_run (src : List Nat) (b n : Nat) (hb : (bestRun (words src)).base = b)
    (hn : (bestRun (words src)).len = n) (hn1 : 1 ≤ n) (hbn : b + n ≤ 8) :
    ntop6Text src = .ok (joinX ((words src).take b) ++ 58 :: 58 :: tail6 src (words src) b n) := by
  have h8 : (bestRun (words src)).base ≠ -1 ∧ (bestRun (words src)).base + (bestRun (words src)).len = 8 ↔
      b + n = 8 := by omega
  unfold tail6
  by_cases h6 : b = 0 ∧ n = 6
  · rw [ntop6Text_of_loop src _ (fmt6Loop_v4_6 src (words src) _ (h6.1 ▸ hb) (h6.2 ▸ hn)),
      if_neg (mt h8.1 (by omega)), if_pos h6, h6.1]; rfl
  by_cases h5 : b = 0 ∧ n = 5 ∧ (words src).getD 5 0 = 0xffff
  · rw [ntop6Text_of_loop src _ (fmt6Loop_v4_5 src (words src) _ (h5.1 ▸ hb) (h5.2.1 ▸ hn) h5.2.2),
      if_neg (mt h8.1 (by omega)), if_neg h6, if_pos h5, h5.1]; rfl
  rw [ntop6Text_of_loop src _ (fmt6Loop_run src (words src) _ b n hb hn hn1 hbn (words_length src)
    (fun h => h.2.elim (fun h' => h6 ⟨h.1, h'⟩) (fun h' => h5 ⟨h.1, h'⟩))), if_neg h6, if_neg h5]
  have hD : ((words src).drop (b + n)).length + (b + n) = 8 := by
    rw [List.length_drop, words_length]; exact Nat.sub_add_cancel hbn
  cases hd : (words src).drop (b + n) with
  | nil =>
    rw [hd, List.length_nil, Nat.zero_add] at hD
    rw [if_pos (h8.2 hD)]
    simp [sepX, joinX]
  | cons w l =>
    rw [hd, List.length_cons] at hD
    rw [if_neg (mt h8.1 (by omega)), sepX_cons]

/-- `inet_ntop6` never fails; it prints the words separated by ':', with the chosen run of zero words as "::" -/
theorem ntop6Text_cases (src : List Nat) :
    ntop6Text src = .ok (joinX (words src)) ∨
    ∃ b n, 2 ≤ n ∧ b + n ≤ 8 ∧ (∀ j, b ≤ j → j < b + n → (words src).getD j 0 = 0) ∧
      ntop6Text src = .ok (joinX ((words src).take b) ++ 58 :: 58 :: tail6 src (words src) b n) := by
  rcases bestRun_cases (words src) with h | ⟨b, n, hb, hn, h2, h8, hz⟩
  · exact .inl (by
      rw [ntop6Text_of_loop src _ (fmt6Loop_norun src (words src) _ h (words_length src)), if_neg (fun h' => h'.1 h)])
  · exact .inr ⟨b, n, h2, h8, hz, ntop6Text_run src b n hb hn (by omega) h8⟩

theorem fmt4_ok (a : List Nat) (h : ∀ j, a.getD j 0 < 256) : ∀ c ∈ fmt4 a, OkChar6 c :=
  fmt4_forall a (.inr (.inr (.inr rfl))) fun j c hc => .inl (fmtU8_digits _ (Nat.lt_trans (h j) (by decide)) c hc)

theorem tail6_len (src ws : List Nat) (b n : Nat) (hlen : ws.length = 8) (hn : 2 ≤ n) (h8 : b + n ≤ 8) :
    (tail6 src ws b n).length + 5 * b ≤ 30 := by
  have h4 := (fmt4_len (src.drop 12)).2
  unfold tail6
  split
  · omega
  split
  · have := (fmtX16_len 0xffff).2
    simp only [List.length_append, List.length_cons]; omega
  · have := joinX_len (ws.drop (b + n))
    rw [List.length_drop] at this; omega

theorem tail6_ok (src ws : List Nat) (b n : Nat) (hws : ∀ w ∈ ws, w < 65536) (hsrc : ∀ j, src.getD j 0 < 256) :
    ∀ c ∈ tail6 src ws b n, OkChar6 c := by
  have h4 : ∀ c ∈ fmt4 (src.drop 12), OkChar6 c := fmt4_ok _ fun j => by
    simpa [List.getD_eq_getElem?_getD, List.getElem?_drop] using hsrc (12 + j)
  unfold tail6
  split
  · exact h4
  split
  · exact List.forall_mem_append.2 ⟨fmtX16_ok _ (by decide), List.forall_mem_cons.2 ⟨okChar6_colon, h4⟩⟩
  · exact joinX_ok _ fun w hw => hws w (List.mem_of_mem_drop hw)

/-- the text fits `tmp[46]` with its NUL and uses only `0-9a-f:.` -/
theorem ntop6Text_ok (src : List Nat) (hsrc : ∀ j, src.getD j 0 < 256) :
    ∃ t, ntop6Text src = .ok t ∧ t.length ≤ 41 ∧ ∀ c ∈ t, OkChar6 c := by
  have hws := words_all_lt src hsrc
  have hwl := words_length src
  rcases ntop6Text_cases src with h | ⟨b, n, h2, h8, -, h⟩
  · exact ⟨_, h, by have := joinX_len (words src); omega, joinX_ok _ hws⟩
  · refine ⟨_, h, ?_, List.forall_mem_append.2 ⟨joinX_ok _ fun w hw => hws w (List.mem_of_mem_take hw),
      List.forall_mem_cons.2 ⟨okChar6_colon, List.forall_mem_cons.2 ⟨okChar6_colon, tail6_ok src _ b n hws hsrc⟩⟩⟩⟩
    · have h1 := joinX_len ((words src).take b)
      have h3 := tail6_len src (words src) b n hwl h2 h8
      rw [List.length_take] at h1
      simp only [List.length_append, List.length_cons]
      omega

theorem ntop6_spec (src d t : List Nat) (size : Nat) (ht : ntop6Text src = .ok t) (hz : ∀ c ∈ t, c ≠ 0)
    (hn : size ≤ d.length) (hmax : size ≤ SSIZE_MAX + 1) :
    ntop6 src d size =
      if size ≤ t.length then (UV_ENOSPC, d) else (0, t ++ 0 :: d.drop (t.length + 1)) := by
  unfold ntop6
  simp only [ht]
  by_cases h : size ≤ t.length
  · rw [if_pos (by simp; omega), if_pos h]
  · rw [if_neg (by simp; omega), if_neg h, strscpy_spec d _ size hn hmax]
    have : cstr (t ++ [0]) = t := cstr_append_nul t [] hz
    rw [this]
    simp [show size ≠ 0 by omega, show t.length < size by omega]

theorem run_zero_decomp (ws : List Nat) (b n : Nat) (hbn : b + n ≤ ws.length)
    (hz : ∀ j, b ≤ j → j < b + n → ws.getD j 0 = 0) :
    ws = ws.take b ++ List.replicate n 0 ++ ws.drop (b + n) := by
  have h1 : (ws.drop b).take n = List.replicate n 0 := by
    apply List.ext_getElem
    · simp; omega
    · intro i h1 h2
      simp at h1 h2 ⊢
      have := hz (b + i) (by omega) (by omega)
      rwa [getD_eq_getElem' ws (b + i) (by omega)] at this
  conv => lhs; rw [← List.take_append_drop b ws, ← List.take_append_drop n (ws.drop b), h1, List.drop_drop]
  simp [List.append_assoc]

theorem dottedQuad_fmt4 (v : List Nat) (hl : v.length = 4) (hb : ∀ x ∈ v, x < 256) : DottedQuad (fmt4 v) v := by
  match v, hl with
  | [a, b, c, d], _ =>
    have := hb a (by simp); have := hb b (by simp); have := hb c (by simp); have := hb d (by simp)
    exact (dottedQuad_iff _ _).2 ⟨a, b, c, d, by omega, by omega, by omega, by omega, rfl, rfl⟩

/-- words `l`, a run of `n ≥ 1` zero words, words `r`: "l::R" is IPv6 text for them, `R` any spelling of `r` -/
theorem ipv6Text_of_run (ws : List Nat) (b n : Nat) (hlen : ws.length = 8) (hn : 1 ≤ n) (h8 : b + n ≤ 8)
    (hws : ∀ w ∈ ws, w < 65536) (hz : ∀ j, b ≤ j → j < b + n → ws.getD j 0 = 0) (R : List Nat)
    (hR : Opt GroupSeq R ((ws.drop (b + n)).flatMap wbytes)) :
    Ipv6Text (joinX (ws.take b) ++ 58 :: 58 :: R) (ws.flatMap wbytes) := by
  have hd : ws.flatMap wbytes =
      (ws.take b).flatMap wbytes ++ List.replicate (2 * n) 0 ++ (ws.drop (b + n)).flatMap wbytes := by
    conv => lhs; rw [run_zero_decomp ws b n (hlen ▸ h8) hz]
    rw [List.flatMap_append, List.flatMap_append, flatMap_wbytes_zero]
  have hl := congrArg List.length hd
  rw [flatMap_wbytes_len, hlen, List.length_append, List.length_append, List.length_replicate] at hl
  have := Ipv6Text.compressed (joinX_seq (ws.take b) fun w hw => hws w (List.mem_of_mem_take hw)) hR (by omega)
  rwa [Nat.sub_eq_of_eq_add (by omega : 16 = 2 * n + _), ← hd] at this

theorem tail6_groupSeq (src : List Nat) (hl : src.length = 16) (hby : ∀ x ∈ src, x < 256) (b n : Nat) :
    Opt GroupSeq (tail6 src (words src) b n) (((words src).drop (b + n)).flatMap wbytes) := by
  have hws := words_all_lt src (getD_lt_of_all src hby)
  have hq : GroupSeq (fmt4 (src.drop 12)) (((words src).drop 6).flatMap wbytes) := by
    rw [flatMap_wbytes_drop, words_bytes src hl hby]
    exact .quad (dottedQuad_fmt4 _ (by rw [List.length_drop, hl]) fun x hx => hby x (List.mem_of_mem_drop hx))
  unfold tail6
  split
  · rename_i h
    rw [h.1, h.2]
    exact .inr hq
  split
  · rename_i h
    have h5 : 5 < (words src).length := by rw [words_length]; decide
    rw [h.1, h.2.1, List.drop_eq_getElem_cons h5, List.flatMap_cons, ← getD_eq_getElem' _ 5 h5, h.2.2]
    exact .inr (.cons (fmtX16_isH16 _ (by decide)) hq)
  · exact (joinX_seq _ fun w hw => hws w (List.mem_of_mem_drop hw)).imp id hexSeq_groupSeq

theorem ntop6_grammar (src : List Nat) (hl : src.length = 16) (hby : ∀ x ∈ src, x < 256) :
    ∃ t, ntop6Text src = .ok t ∧ Ipv6Text t src := by
  have hwb := words_bytes src hl hby
  have hws := words_all_lt src (getD_lt_of_all src hby)
  rcases ntop6Text_cases src with h | ⟨b, n, h2, h8, hz, h⟩
  · rcases joinX_seq _ hws with ⟨-, h0⟩ | hs
    · rw [hwb] at h0; rw [h0] at hl; cases hl
    · rw [hwb] at hs
      exact ⟨_, h, Ipv6Text.full (hexSeq_groupSeq hs) hl⟩
  · have := ipv6Text_of_run (words src) b n (words_length src) (by omega) h8 hws hz _ (tail6_groupSeq src hl hby b n)
    rw [hwb] at this
    exact ⟨_, h, this⟩

theorem ntop6_pton6_all (src : List Nat) (hl : src.length = 16) (hby : ∀ x ∈ src, x < 256) :
    ∃ t, ntop6Text src = .ok t ∧ pton6 t = some src := by
  obtain ⟨t, ht, hg⟩ := ntop6_grammar src hl hby
  exact ⟨t, ht, pton6_complete t src hg⟩

end UvModel.Inet
