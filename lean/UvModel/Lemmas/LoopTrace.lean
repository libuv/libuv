import UvModel.Lemmas.LoopApiSteps
/-!
  No API operation emits a trace event or runs a callback: `tr (applyOp s o).1 = tr s`
  (trace and callback counter).  Events are produced only by `emit` (callbacks, polls, `stepOp`).
-/
namespace UvModel.Loop
open UvModel.HandleKernels

def tr (s : State) : List Event × Nat := (s.trace, s.ncbTotal)

theorem tr_of_hview {s s' : State} (h : hview s' = hview s) : tr s' = tr s := by
  simp only [hview, Prod.mk.injEq] at h
  simp only [tr, h]
theorem tr_of_rview {s s' : State} (h : rview s' = rview s) : tr s' = tr s := by
  simp only [rview, Prod.mk.injEq] at h
  simp only [tr, h]
theorem tr_of_key {s s' : State} (h : key s' = key s) : tr s' = tr s := tr_of_hview (hview_of_key h)

@[simp] theorem tr_initH (s : State) (k : Kind) : tr (initH s k) = tr s := by
  cases k <;> rfl

/-- no API call emits an event or runs a callback -/
theorem OpStep.tr {q : Bool} {u : Option Nat} {s s' : State} (h : OpStep q u s s') : tr s' = tr s := by
  induction h with
  | frame h => exact tr_of_key h
  | trans _ _ ih1 ih2 => exact ih2.trans ih1
  | kern h => exact tr_of_rview h.rview
  | req h => exact tr_of_hview h.hview
  | unwatch => rfl
  | init s k => exact tr_initH s k
  | close => rfl

@[simp] theorem tr_modH (s : State) (id : Nat) (g : Handle → Handle) : tr (modH s id g) = tr s := rfl
@[simp] theorem tr_hStop (s : State) (id : Nat) : tr (hStop s id) = tr s := rfl
@[simp] theorem tr_ioStop (s : State) (w : W) (ev : Nat) : tr (ioStop s w ev) = tr s := tr_of_key (key_ioStop ..)
@[simp] theorem tr_invalidate (s : State) (id : Nat) : tr (invalidate s id) = tr s := rfl
@[simp] theorem tr_makeClosePending (s : State) (id : Nat) : tr (makeClosePending s id) = tr s := rfl
@[simp] theorem tr_asyncClose (s : State) (id : Nat) : tr (asyncClose s id) = tr s := rfl
@[simp] theorem tr_udpSendEnqueue (s : State) (id : Nat) : tr (udpSendEnqueue s id) = tr s := rfl
theorem tr_applyOp (s : State) (o : Op) : tr (applyOp s o).1 = tr s := (applyOp_step s o).tr

end UvModel.Loop
