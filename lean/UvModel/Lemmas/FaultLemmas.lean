import UvModel.Fault
/-! Lemmas for C16 (`UvModel.Props.C16`): the retry loop as "first attempt that is not interrupted", accounting
vectors as a commutative group, and what `runFrom`, `balancedFrom`, `total` do on `++` and on the counted loops
of `uv_spawn` and `uv_os_environ`. -/
namespace UvModel.Fault

theorem retryFrom_eq_some (f : Nat → Outcome) {k : Nat} {o : Outcome} (fuel i : Nat) :
    retryFrom f fuel i = some (k, o) ↔
      o = f k ∧ (f k).isEintr = false ∧ i ≤ k ∧ k < i + fuel ∧ ∀ j, i ≤ j → j < k → (f j).isEintr = true := by
  induction fuel generalizing i with
  | zero =>
    rw [retryFrom]
    exact ⟨nofun, fun ⟨_, _, h1, h2, _⟩ => by omega⟩
  | succ fuel ih =>
    rw [retryFrom]
    by_cases hi : (f i).isEintr = true
    · rw [if_pos hi, ih]
      refine and_congr_right fun _ => and_congr_right fun hk => ?_
      have : i ≠ k := fun h => by rw [h, hk] at hi; cases hi
      constructor <;> rintro ⟨h1, h2, hall⟩
      · exact ⟨by omega, by omega, fun j hj1 hj2 => if hj : j = i then hj ▸ hi else hall j (by omega) hj2⟩
      · exact ⟨by omega, by omega, fun j hj1 hj2 => hall j (by omega) hj2⟩
    · rw [if_neg hi, Option.some.injEq, Prod.mk.injEq]
      constructor
      · rintro ⟨rfl, rfl⟩
        exact ⟨rfl, Bool.eq_false_iff.2 hi, Nat.le_refl _, by omega, fun j _ _ => by omega⟩
      · rintro ⟨ho, _, h1, _, hall⟩
        have : i = k := Nat.le_antisymm h1 (Nat.not_lt.1 fun hlt => hi (hall i (Nat.le_refl i) hlt))
        exact ⟨this, this ▸ ho.symm⟩

theorem retryFrom_isSome (f : Nat → Outcome) {k : Nat} (hk : (f k).isEintr = false) (fuel i : Nat)
    (h1 : i ≤ k) (h2 : k < i + fuel) : (retryFrom f fuel i).isSome = true := by
  induction fuel generalizing i with
  | zero => omega
  | succ fuel ih =>
    rw [retryFrom]
    split
    · next hi =>
      have : i ≠ k := fun h => by rw [h, hk] at hi; cases hi
      exact ih (i + 1) (by omega) (by omega)
    · rfl

theorem accepts_replicate (n : Nat) : accepts (List.replicate n Resp.accept) = n := by
  induction n with
  | zero => rfl
  | succ n ih => rw [List.replicate_succ, accepts, ih]

theorem attempt_pending_armed (s : WState) (r : Resp) : (attempt s r).queue ≠ [] → (attempt s r).pollout = true := by
  cases r <;> cases hq : s.queue <;> simp [attempt, hq]

@[simp] theorem D.add_reqs (a b : D) : (a + b).reqs = a.reqs + b.reqs := rfl
@[simp] theorem D.add_mem (a b : D) : (a + b).mem = a.mem + b.mem := rfl
@[simp] theorem D.add_fds (a b : D) : (a + b).fds = a.fds + b.fds := rfl
@[simp] theorem D.add_handles (a b : D) : (a + b).handles = a.handles + b.handles := rfl
@[simp] theorem D.add_queued (a b : D) : (a + b).queued = a.queued + b.queued := rfl
@[simp] theorem D.add_watches (a b : D) : (a + b).watches = a.watches + b.watches := rfl
@[simp] theorem D.neg_reqs (a : D) : (-a).reqs = -a.reqs := rfl
@[simp] theorem D.neg_mem (a : D) : (-a).mem = -a.mem := rfl
@[simp] theorem D.neg_fds (a : D) : (-a).fds = -a.fds := rfl
@[simp] theorem D.neg_handles (a : D) : (-a).handles = -a.handles := rfl
@[simp] theorem D.neg_queued (a : D) : (-a).queued = -a.queued := rfl
@[simp] theorem D.neg_watches (a : D) : (-a).watches = -a.watches := rfl
@[simp] theorem D.zero_reqs : D.zero.reqs = 0 := rfl
@[simp] theorem D.zero_mem : D.zero.mem = 0 := rfl
@[simp] theorem D.zero_fds : D.zero.fds = 0 := rfl
@[simp] theorem D.zero_handles : D.zero.handles = 0 := rfl
@[simp] theorem D.zero_queued : D.zero.queued = 0 := rfl
@[simp] theorem D.zero_watches : D.zero.watches = 0 := rfl

theorem D.add_assoc (a b c : D) : a + b + c = a + (b + c) := by ext <;> apply Int.add_assoc
theorem D.add_zero (a : D) : a + D.zero = a := by ext <;> apply Int.add_zero
theorem D.zero_add (a : D) : D.zero + a = a := by ext <;> apply Int.zero_add
theorem D.add_comm (a b : D) : a + b = b + a := by ext <;> apply Int.add_comm
theorem D.add_neg_cancel (a b : D) : a + b + -b = a := by ext <;> apply Int.add_neg_cancel_right

theorem net_append (a b : List Eff) : net (a ++ b) = net a + net b := by
  induction a with
  | nil => rw [List.nil_append, net, D.zero_add]
  | cons e es ih => rw [List.cons_append, net, net, ih, D.add_assoc]

theorem net_rep (n : Nat) (e : Eff) : net (rep n e) =
    ⟨n * e.delta.reqs, n * e.delta.mem, n * e.delta.fds, n * e.delta.handles, n * e.delta.queued, n * e.delta.watches⟩ := by
  induction n with
  | zero => simp [rep, net, D.zero]
  | succ n ih =>
    rw [rep, List.replicate_succ, net, ← rep, ih]
    ext <;> simp [Int.add_mul, Int.add_comm]

attribute [simp] net Eff.delta net_append net_rep

/-- equalities between accounting vectors whose effect lists are concrete up to `rep`: componentwise linear arithmetic -/
macro "d_arith" : tactic => `(tactic| (rw [D.ext_iff] <;> simp <;> omega))

theorem balancedFrom_append : ∀ (a b : Op) (acc : D),
    balancedFrom acc (a ++ b) = (balancedFrom acc a && balancedFrom (acc + total a) b) := by
  intro a b acc
  induction a generalizing acc with
  | nil => simp [balancedFrom, total, D.add_zero]
  | cons s rest ih => simp [balancedFrom, total, ih, D.add_assoc, Bool.and_assoc]

theorem total_append (a b : Op) : total (a ++ b) = total a + total b := by
  induction a with
  | nil => simp [total, D.zero_add]
  | cons s rest ih => simp [total, ih, D.add_assoc]

theorem balancedFrom_cons {acc acc' : D} {s : Step} {rest : Op} (hu : acc + net s.undo = D.zero)
    (he : acc + net s.eff = acc') (hr : balancedFrom acc' rest = true) : balancedFrom acc (s :: rest) = true := by
  rw [balancedFrom, hu, he, hr, decide_eq_true rfl, Bool.or_true, Bool.and_true]

/-- the core of `fault_atomic`, for an operation entered in state `st0` with effects `acc` already made -/
theorem runFrom_balanced {st0 : D} {e : Nat} : ∀ (op : Op) {acc st : D}, balancedFrom acc op = true → st = st0 + acc →
    ∀ k, runFrom op st (some (k, e)) = (st + total op, 0) ∨
      ∃ kind, runFrom op st (some (k, e)) = (st0, errCode kind e)
  | [], _, st, _, _, _ => .inl (by rw [runFrom, total, D.add_zero])
  | s :: rest, acc, st, hb, hst, k => by
    rw [balancedFrom, Bool.and_eq_true, Bool.or_eq_true, decide_eq_true_eq] at hb
    have ih := runFrom_balanced (e := e) rest hb.2 (show st + net s.eff = st0 + (acc + net s.eff) by rw [hst, D.add_assoc])
    rw [total, ← D.add_assoc]
    cases hf : s.fault with
    | none => simpa only [runFrom, hf] using ih k
    | some kind =>
      cases k with
      | zero =>
        have hz : acc + net s.undo = D.zero := by simpa [hf] using hb.1
        exact .inr ⟨kind, by simp only [runFrom, hf]; rw [hst, D.add_assoc, hz, D.add_zero]⟩
      | succ k => simpa only [runFrom, hf] using ih k

theorem errCode_neg (kind : FaultKind) (e : Nat) (he : 0 < e) : errCode kind e < 0 := by
  cases kind <;> simp [errCode, ENOMEM] <;> omega

theorem runFrom_append_skip : ∀ (a b : Op) (st : D) (k e : Nat),
    runFrom (a ++ b) st (some (nFaultPoints a + k, e)) = runFrom b (st + total a) (some (k, e))
  | [], b, st, k, e => by rw [List.nil_append, nFaultPoints, Nat.zero_add, total, D.add_zero]
  | s :: rest, b, st, k, e => by
    rw [List.cons_append, total, ← D.add_assoc, ← runFrom_append_skip rest b]
    cases hf : s.fault with
    | none => simp only [runFrom, nFaultPoints, hf, Option.isSome_none, Bool.false_eq_true, if_false, Nat.zero_add]
    | some kind =>
      rw [nFaultPoints, hf, Option.isSome_some, if_pos rfl, Nat.add_assoc, Nat.add_comm 1]
      simp only [runFrom, hf]

theorem spawnPairs_balanced (heap : Bool) : ∀ (n i : Nat),
    balancedFrom ⟨0, (if heap then 1 else 0), 2 * (i : Int), 0, 0, 0⟩ (spawnPairs heap n i) = true
  | 0, _ => rfl
  | n + 1, i => balancedFrom_cons (by cases heap <;> d_arith) (by d_arith) (spawnPairs_balanced heap n (i + 1))

theorem environCopies_balanced : ∀ (n i : Nat),
    balancedFrom ⟨0, 1 + (i : Int), 0, 0, 0, 0⟩ (environCopies n i) = true
  | 0, _ => rfl
  | n + 1, i => balancedFrom_cons (by d_arith) (by d_arith) (environCopies_balanced n (i + 1))

theorem spawnPairs_total (heap : Bool) : ∀ (n i : Nat), total (spawnPairs heap n i) = ⟨0, 0, 2 * (n : Int), 0, 0, 0⟩
  | 0, _ => rfl
  | n + 1, i => by rw [spawnPairs, total, spawnPairs_total heap n]; d_arith

theorem spawnPairs_nFaultPoints (heap : Bool) : ∀ (n i : Nat), nFaultPoints (spawnPairs heap n i) = n
  | 0, _ => rfl
  | n + 1, i => by rw [spawnPairs, nFaultPoints, spawnPairs_nFaultPoints heap n]; exact Nat.add_comm 1 n

theorem sumD_eraseIdx {l : List D} {i : Nat} {d : D} (h : l[i]? = some d) : sumD l = sumD (l.eraseIdx i) + d := by
  induction l generalizing i with
  | nil => cases h
  | cons x xs ih =>
    cases i with
    | zero => cases h; exact D.add_comm d (sumD xs)
    | succ i => rw [List.eraseIdx, sumD, sumD, ih (List.getElem?_cons_succ ▸ h), D.add_assoc]

end UvModel.Fault
