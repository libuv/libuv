import Lean.Meta.Tactic.Simp.RegisterCommand

/-- Normal form in which a generated kernel and its model kernel meet: `Option.map` / `Option.bind` /
    `some` moved to the leaves of the `if` cascade, branches with equal leaves merged, C tests
    (`decide`, `==`, `!=`, `&&`, `||` on `Int`) spelt as propositions, comparisons of casts of natural
    numbers made there, wraps of wrapped operands dropped. -/
register_simp_attr kernel_simp
