import UvModel.Accept
import UvModel.Lemmas.IfLeaves
/-! C07, connect side (uv__tcp_connect / uv_pipe_connect2 / uv__stream_connect / uv__stream_destroy).  The requests
a handle knows of form a list that grows only at its end; every operation keeps it or appends the next number
(`Move`), and both invariants are argued once, over `Move`.  `noOverlap` is the side condition in the statement of
`connect_cb_exactly_once_partial`. -/
namespace UvModel.Accept

/-- the requests the handle still knows of: those called back, then the pending one.  Requests are
numbered as they are submitted and complete one at a time, so this list only ever grows at its end,
by the next number. -/
def known (c : Conn) : List Nat := c.cbs.map (·.1) ++ c.connectReq.toList

/-- a destroyed handle is closing and has no request pending -/
def Flags (c : Conn) : Prop := c.destroyed = true → c.closing = true ∧ c.connectReq = none

/-- invariant of the connect bookkeeping: the known requests are submitted ones, in order of submission
(only a sublist: a pipe connect that overwrites a pending request drops it; `NoneLost` says none is missing) -/
structure CInv (c : Conn) : Prop where
  sub : (known c).Sublist (List.range c.nextReq)
  acc : c.accepted = List.range c.nextReq
  flags : Flags c

/-- no request is lost: completed or still pending -/
def NoneLost (c : Conn) : Prop := known c = List.range c.nextReq

/-- "the user does not start a pipe connect while one is pending on the same handle" -/
def noOverlap : Conn → List COp → Bool
  | _, [] => true
  | c, op :: rest =>
    (match op with
     | .pipeConnect a _ _ => c.connectReq.isNone || a != 0 || c.closing
     | _ => true) && noOverlap (cstep c op) rest

theorem cinv_init : CInv {} := ⟨.refl _, rfl, nofun⟩

theorem CInv.nodup {c : Conn} (h : CInv c) : (c.cbs.map (·.1)).Nodup :=
  ((List.sublist_append_left ..).trans h.sub).nodup List.nodup_range

theorem CInv.mem_accepted {c : Conn} (h : CInv c) {r : Nat} (hr : r ∈ c.cbs.map (·.1)) : r ∈ c.accepted :=
  h.acc ▸ h.sub.subset (List.mem_append_left _ hr)

theorem NoneLost.mem {c : Conn} (hn : NoneLost c) (h : CInv c) {r : Nat} (hr : r ∈ c.accepted) :
    r ∈ c.cbs.map (·.1) ∨ c.connectReq = some r := by
  have : r ∈ known c := hn ▸ h.acc ▸ hr
  exact (List.mem_append.mp this).imp_right Option.mem_toList.mp

/-- What one operation does to the bookkeeping: it keeps the known requests (possibly moving the
pending one to the completed ones), or it submits the next one.  `fresh` stands for whatever rules
out that a submission overwrites a pending request. -/
inductive Move (fresh : Prop) (c c' : Conn) : Prop
  | keep (hk : known c' = known c) (hn : c'.nextReq = c.nextReq) (ha : c'.accepted = c.accepted)
      (hf : Flags c → Flags c')
  | submit (ho : ¬c.closing = true) (hp : fresh → c.connectReq = none) (hk : c'.cbs = c.cbs)
      (hr : c'.connectReq = some c.nextReq) (hn : c'.nextReq = c.nextReq + 1)
      (ha : c'.accepted = c.accepted ++ [c.nextReq]) (hd : c'.destroyed = c.destroyed)

theorem CInv.move {p : Prop} {c c' : Conn} (h : CInv c) (m : Move p c c') : CInv c' := by
  cases m with
  | keep hk hn ha hf => exact ⟨hk ▸ hn ▸ h.sub, ha ▸ hn ▸ h.acc, hf h.flags⟩
  | submit ho _ hk hr hn ha hd =>
    refine ⟨?_, by rw [ha, hn, h.acc, List.range_succ], fun d => absurd (h.flags (hd ▸ d)).1 ho⟩
    rw [known, hk, hr, hn, List.range_succ]
    exact ((List.sublist_append_left ..).trans h.sub).append (.refl _)

theorem NoneLost.move {p : Prop} {c c' : Conn} (h : NoneLost c) (m : Move p c c') (hp : p) :
    NoneLost c' := by
  cases m with
  | keep hk hn _ _ => rw [NoneLost, hk, hn]; exact h
  | submit _ hf hk hr hn _ _ =>
    have h' : c.cbs.map (·.1) = List.range c.nextReq := by simpa [NoneLost, known, hf hp] using h
    rw [NoneLost, known, hk, hr, hn, List.range_succ, h']
    rfl

theorem known_complete (cbs : List (Nat × Int)) (req : Nat) (e : Int) :
    (cbs ++ [(req, e)]).map (·.1) ++ (none : Option Nat).toList = cbs.map (·.1) ++ (some req).toList := by
  simp

theorem move_cstep (c : Conn) (op : COp) : Move (noOverlap c [op] = true) c (cstep c op) := by
  cases op with
  | tcpBind r =>
    exact of_ite_fst (fun _ => .keep rfl rfl rfl id) fun _ =>
      of_ite_fst (fun _ => .keep rfl rfl rfl id) fun _ => .keep rfl rfl rfl id
  | tcpConnect e r =>
    exact of_ite_fst (fun _ => .keep rfl rfl rfl id) fun ho =>
      of_ite_fst (fun _ => .keep rfl rfl rfl id) fun hn =>
      have hp _ : c.connectReq = none := by simpa using hn
      of_ite_fst (fun _ => .submit ho hp rfl rfl rfl rfl rfl) fun _ =>
      of_ite_fst (fun _ => .keep rfl rfl rfl id) fun _ =>
      of_ite_fst (fun _ => .submit ho hp rfl rfl rfl rfl rfl) fun _ =>
      of_ite_fst (fun _ => .submit ho hp rfl rfl rfl rfl rfl) fun _ => .keep rfl rfl rfl id
  | pipeConnect a e r =>
    exact of_ite_fst (fun _ => .keep rfl rfl rfl id) fun ho =>
      of_ite_fst (fun _ => .keep rfl rfl rfl id) fun ha =>
      have hp h : c.connectReq = none := by simpa [noOverlap, ho, ha] using h
      of_ite_fst (fun _ => .submit ho hp rfl rfl rfl rfl rfl) fun _ =>
      of_ite_fst (fun _ => .submit ho hp rfl rfl rfl rfl rfl) fun _ => .submit ho hp rfl rfl rfl rfl rfl
  | io so =>
    rcases c with ⟨_ | req, de⟩
    · exact iteInduction (fun _ => .keep rfl rfl rfl id) fun _ => .keep rfl rfl rfl id
    · refine iteInduction (fun _ => .keep rfl rfl rfl id) fun _ => ?_
      -- the status comes from `delayed_error` or from SO_ERROR; the bookkeeping does not care which
      cases de != 0 <;>
      exact iteInduction (fun _ => .keep rfl rfl rfl id) fun _ =>
        iteInduction (fun _ => .keep (known_complete ..) rfl rfl fun h d => ⟨(h d).1, rfl⟩) fun _ =>
          .keep (known_complete ..) rfl rfl fun h d => ⟨(h d).1, rfl⟩
  | write w => exact .keep rfl rfl rfl id
  | close =>
    exact iteInduction (fun _ => .keep rfl rfl rfl id) fun _ => .keep rfl rfl rfl fun h d => ⟨rfl, (h d).2⟩
  | destroy =>
    refine iteInduction (fun _ => .keep rfl rfl rfl id) fun h => ?_
    have hc := (by simpa using h : c.closing = true ∧ c.destroyed = false).1
    rcases c with ⟨_ | req⟩
    · exact .keep rfl rfl rfl fun _ _ => ⟨hc, rfl⟩
    · exact .keep (known_complete ..) rfl rfl fun _ _ => ⟨hc, rfl⟩

theorem cinv_run (ops : List COp) : ∀ c, CInv c → CInv (crun c ops) := by
  induction ops with
  | nil => intro c h; exact h
  | cons op rest ih => intro c h; exact ih _ (h.move (move_cstep c op))

theorem nonelost_run (ops : List COp) : ∀ c, NoneLost c → noOverlap c ops = true →
    NoneLost (crun c ops) := by
  induction ops with
  | nil => intro c hn _; exact hn
  | cons op rest ih =>
    intro c hn ho
    simp only [noOverlap, Bool.and_eq_true] at ho
    exact ih _ (hn.move (move_cstep c op) (by simp only [noOverlap, ho.1, Bool.and_true])) ho.2

end UvModel.Accept
