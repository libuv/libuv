import UvModel.Lemmas.LoopKeep
/-!
  A relation respected by the primitive steps in the vocabulary of the close protocol (`PhaseRel0` / `PhaseRel`:
  `Keep` steps, API calls, callback lines) is respected by every constructor of `Reach0` / `Reach`, hence by every
  callback, phase, `uv_run` and whole program, given the closing phase.  Used for the close-protocol invariants
  of C02.
-/
namespace UvModel.Loop
open UvModel.HandleKernels

/-- a relation between states that every step of the loop outside `uv__run_closing_handles` respects -/
structure PhaseRel0 (R : State → State → Prop) : Prop where
  refl : ∀ s, R s s
  trans : ∀ {a b c}, R a b → R b c → R a c
  keep : ∀ {s s'}, Keep s s' → s'.trace = s.trace → R s s'
  emit : ∀ s e, (∀ ph k i a b, e ≠ Event.cb ph k i a b) → R s (emit s e)
  stepOp : ∀ s o, R s (stepOp s o)
  cbH : ∀ s ph k i a b, i ∈ hids s → k ≠ CbKind.close → R s (Loop.emit s (.cb ph k i a b))
  cbR : ∀ s ph k r a b, (k = CbKind.work ∨ k = .udpSend ∨ k = .connect) → R s (Loop.emit s (.cb ph k r a b))

/-- … and also the simulator's "environment stopped answering" marker -/
structure PhaseRel (R : State → State → Prop) : Prop extends PhaseRel0 R where
  halt : ∀ s, R s { s with halted := true }

theorem rel_ite {R : State → State → Prop} {s a b : State} {c : Prop} [Decidable c] (ha : R s a) (hb : R s b) :
    R s (if c then a else b) := by
  split
  · exact ha
  · exact hb

namespace PhaseRel0
variable {R : State → State → Prop} (P : PhaseRel0 R)
include P

theorem frame {s s' : State} (h : kp s' = kp s) (ht : s'.trace = s.trace) : R s s' := P.keep (KeepQ.of_kp h).1 ht
theorem of_quiet {s s' : State} (h : OpStep false none s s') : R s s' :=
  P.keep (h.keep rfl).1 (h.keep rfl).2

theorem of_cb {s s' : State} (h : CbStep s s') : R s s' := by
  induction h with
  | quiet h => exact P.of_quiet h
  | call s o => exact P.stepOp s o
  | emit s ev hev => exact P.emit s ev hev.ne_cb
  | trans _ _ ih1 ih2 => exact P.trans ih1 ih2

/-- a callback is its `cb` event, then API calls and bookkeeping events -/
theorem runCb_of {s : State} {ph : Phase} {k : CbKind} {i : Nat} {a b : Int}
    (hcb : R { s with ncbTotal := s.ncbTotal + 1 } (Loop.emit { s with ncbTotal := s.ncbTotal + 1 } (.cb ph k i a b)))
    (sc : Script) (key : CbKey) (occ : Nat) : R s (Loop.runCb sc ph k key i a b occ s) :=
  P.trans (P.trans (P.frame (s' := { s with ncbTotal := s.ncbTotal + 1 }) rfl rfl) hcb) (P.of_cb (runCb_cb sc ph k key i a b occ s))

/-- the entry of a request callback whose record has just been dropped -/
theorem reqCb {s s1 : State} (hk : Keep s s1) (ht : s1.trace = s.trace) (ph : Phase) {k : CbKind}
    (hr : k = .work ∨ k = .udpSend ∨ k = .connect) (r : Nat) (a b : Int) : R s (cbEv ph k r a b s1) :=
  P.trans (P.keep hk ht)
    (P.trans (P.frame (s' := { s1 with ncbTotal := s1.ncbTotal + 1 }) rfl rfl) (P.cbR _ ph k r a b hr))

/-- everything callbacks and phases do before the poller is asked -/
theorem of_reach0 {ph : Phase} {s s' : State} (h : Reach0 ph s s') : R s s' := by
  induction h with
  | cb h => exact P.of_cb h
  | trans _ _ ih1 ih2 => exact P.trans ih1 ih2
  | handleCb s ph k i a b hi _ hc =>
    exact P.trans (P.frame (s' := { s with ncbTotal := s.ncbTotal + 1 }) rfl rfl) (P.cbH _ ph k i a b hi hc)
  | watchers s l => exact P.frame rfl rfl
  | drain s id =>
    refine P.keep (keepN_modH s id _ ?_).1 rfl
    intro _; rfl
  | udpDone s id h r st rest ph a b =>
    refine P.reqCb ?_ (by rfl) ph (.inr (.inl rfl)) r a b
    exact (keepN_modH s id (fun h => { h with wcq := rest, sqc := h.sqc - 1 }) (fun _ => rfl)).1.trans (Keep.of_hview rfl)
  | connDone s id h r ph a b =>
    generalize hX : ({ (modH s id fun h => { h with connReq := none }) with
      ar := reqUnregister s.ar, reqs := s.reqs.filter (·.id != r) } : State) = X
    have h1 : Keep s X := hX ▸ (keepN_modH s id (fun h => { h with connReq := none }) (fun _ => rfl)).1.trans (Keep.of_hview (by rfl))
    have h2 : X.trace = s.trace := hX ▸ rfl
    have hk := hview_of_key (key_ioStop X (.h id) POLLOUT)
    exact P.reqCb (h1.trans (Keep.of_hview hk)) ((trace_of_hview hk).trans h2) ph (.inr (.inr rfl)) r a b
  | workDone s r c rest ph a b => exact P.reqCb (Keep.of_hview (by rfl)) (by rfl) ph (.inl rfl) r a b
  | destroy s id h r s2 _ _ hcb =>
    exact P.trans (P.trans (P.reqCb (Keep.of_hview (by rfl)) (by rfl) _ (.inr (.inr rfl)) r _ _) (P.of_cb hcb))
      (P.keep (keepN_modH s2 id (fun h => { h with connReq := none }) (fun _ => rfl)).1 rfl)

theorem streamIo (sc : Script) (ph : Phase) (id : Nat) (s : State) : R s (Loop.streamIo sc ph id s) :=
  P.of_reach0 (streamIo_reach sc ph id s)

theorem runPending (sc : Script) (ph : Phase) (s : State) : R s (Loop.runPending sc ph s) :=
  P.of_reach0 (runPending_reach sc ph s)

theorem runWatchers (sc : Script) (k : WKind) (s : State) : R s (Loop.runWatchers sc k s) :=
  P.of_reach0 (runWatchers_reach sc k s)

theorem workDoneLoop (sc : Script) (fuel : Nat) (s : State) : R s (Loop.workDoneLoop sc fuel s) :=
  P.of_reach0 (workDoneLoop_reach sc fuel s)

theorem finishReqs (sc : Script) (k : Kind) (j : Nat) (s : State) : R s (Loop.finishReqs sc k j s) :=
  P.of_reach0 (finishReqs_reach sc k j s)

theorem withKernel' (s : State) (id : Nat) (k : HK → HK) (hk : ClMono k) : R s (withKernel s id k) :=
  P.keep (keepQ_withKernel s id k hk).1 rfl

/-- `uv__finish_close`, given the two steps that only it performs: unlinking the record and the close callback -/
theorem finishClose {j : Nat} (hun : ∀ s, R s (unlink s j))
    (hcb : ∀ (s : State) a, j ∉ hids s → R s (Loop.emit s (.cb .closing .close j a 0)))
    (sc : Script) (s : State) : R s (Loop.finishClose sc j s) := by
  cases hg : getH s j with
  | none => unfold Loop.finishClose; rw [hg]; exact P.refl _
  | some h =>
    rw [finishClose_some hg]
    have h3 := P.trans (P.trans (P.withKernel' s j _ clMono_setClosed) (P.finishReqs sc h.kind j _))
      (P.withKernel' _ j _ clMono_unref)
    split
    · exact h3
    · exact P.trans (P.trans h3 (hun _)) (P.runCb_of (hcb _ _ (by simp [unlink, hids])) _ _ _)

section
variable {sc : Script} (hdq : ∀ (s : State) (a b : List Nat), R s { s with closingLocal := a, closing := b })
  (hfc : ∀ j s, R s (Loop.finishClose sc j s))
include hdq hfc

/-- the closing phase, given `uv__finish_close` and the moves between the two closing lists -/
theorem runClosingLoop (fuel : Nat) (s : State) : R s (Loop.runClosingLoop sc fuel s) := by
  induction fuel generalizing s with
  | zero => exact P.refl _
  | succ n ih =>
    unfold Loop.runClosingLoop
    split
    · exact P.refl _
    · exact P.trans (P.trans (hdq s _ s.closing) (hfc _ _)) (ih _)

theorem runClosing (s : State) : R s (Loop.runClosing sc s) :=
  P.trans (hdq s s.closing []) (P.runClosingLoop hdq hfc _ _)
end

end PhaseRel0

namespace PhaseRel
variable {R : State → State → Prop} (P : PhaseRel R)
include P

theorem of_reach {s s' : State} (h : Reach s s') : R s s' := by
  induction h with
  | base h => exact P.of_reach0 h
  | trans _ _ ih1 ih2 => exact P.trans ih1 ih2
  | halt s => exact P.halt s
  | ask s => exact P.frame rfl rfl
  | polled s i t r => exact P.emit s (.poll i t r) (fun _ _ _ _ _ h => nomatch h)

theorem ioPoll (sc : Script) (s : State) (t : Int) : R s (Loop.ioPoll sc s t) := P.of_reach (ioPoll_reach sc s t)

theorem runTimers (sc : Script) (ph : Phase) (s : State) : R s (Loop.runTimers sc ph s) :=
  P.of_reach0 (runTimers_reach sc ph s)

theorem iteration (hcl : ∀ sc s, R s (runClosing sc s)) (sc : Script) (mode : Mode) (s : State) :
    R s (Loop.iteration sc mode s) :=
  iteration_keeps (P := R s) (fun h r => P.trans r (P.of_reach h)) (fun sc _ r => P.trans r (hcl sc _)) sc mode s (P.refl s)

theorem runMain (hcl : ∀ sc s, R s (runClosing sc s)) (sc : Script) (fuel : Nat) (prog : List MainOp) (s : State) :
    R s (Loop.runMain sc fuel s prog) :=
  runMain_keeps (P := R s) (fun h r => P.trans r (P.of_reach h)) (fun sc _ r => P.trans r (hcl sc _)) sc fuel prog s (P.refl s)

end PhaseRel
end UvModel.Loop
