import UvModel.Lemmas.UdpSendv
import UvModel.Lemmas.UdpRecv
/-! Invariants of the handle: queue accounting (`Inv`) and the status each request is called back with (`St`),
kept by every API call and every phase of the loop (`HInv`). -/
namespace UvModel.Udp

/-- requests still owed a callback, oldest first: completed queue then write queue -/
def H.owed (s : H) : List Dgram := s.cq.map (·.1) ++ s.wq

structure Inv (s : H) : Prop where
  count : s.sqCount = s.owed.length
  size : s.sqSize = ((s.owed.map Dgram.bytes).sum : Nat)
  reqs : s.activeReqs = s.owed.length
  part : s.accepted.map (·.seq) = s.cbs.map (·.1) ++ s.owed.map (·.seq)
  sub : (s.wire ++ s.wq).Sublist s.submitted
  seqs : s.submitted.map (·.seq) = List.range s.nseq
  acc : s.accepted.Sublist s.submitted

def H.W (s : H) : List Nat := s.wire.map (·.seq)

/-- the status is the (mapped) errno of a failed system call whose first datagram was request q -/
def OsErr (s : H) (q : Nat) (st : Int) : Prop :=
  ∃ k ∈ s.klog, k.res < 0 ∧ k.offered.head?.map (·.seq) = some q ∧ st = mapErr k.res
def Fail (s : H) (q : Nat) (st : Int) : Prop :=
  (q ∈ s.cancelled ∧ st = UV_ECANCELED) ∨ (q ∉ s.cancelled ∧ OsErr s q st)

/-- the status of every request whose callback is decided (`n1 s1`: in the completed queue; `c1 c2`: already called back):
non-negative resp. 0 exactly for what went to the OS, otherwise with its reason (`Fail`); `k1`: what uv__udp_finish_close
cancelled has got its status -/
structure St (s : H) : Prop where
  n1 : ∀ p ∈ s.cq, p.2 < 0 → p.1.seq ∉ s.W ∧ Fail s p.1.seq p.2
  s1 : ∀ p ∈ s.cq, 0 ≤ p.2 → p.1.seq ∈ s.W ∧ p.1.seq ∉ s.cancelled
  c1 : ∀ c ∈ s.cbs, c.2 = 0 → c.1 ∈ s.W ∧ c.1 ∉ s.cancelled
  c2 : ∀ c ∈ s.cbs, c.2 ≠ 0 → c.1 ∉ s.W ∧ Fail s c.1 c.2
  k1 : ∀ x ∈ s.cancelled, x ∈ s.cbs.map (·.1) ∨ x ∈ s.cq.map (·.1.seq)
  pq : ∀ d ∈ s.wq, prepOk d = true      -- queued requests passed uv__udp_check_before_send

def HInv (s : H) : Prop := Inv s ∧ St s

/-- requests may move from the write queue to the completed queue, and the sent ones among them to the wire -/
theorem Inv.transfer {s t : H} (h : Inv s) (ho : t.owed = s.owed) (hw : (t.wire ++ t.wq).Sublist (s.wire ++ s.wq))
    (h1 : t.sqCount = s.sqCount) (h2 : t.sqSize = s.sqSize) (h3 : t.activeReqs = s.activeReqs)
    (h4 : t.accepted = s.accepted) (h5 : t.cbs = s.cbs) (h6 : t.submitted = s.submitted) (h7 : t.nseq = s.nseq) :
    Inv t :=
  ⟨by rw [h1, ho]; exact h.count, by rw [h2, ho]; exact h.size, by rw [h3, ho]; exact h.reqs,
   by rw [h4, h5, ho]; exact h.part, by rw [h6]; exact hw.trans h.sub, by rw [h6, h7]; exact h.seqs,
   by rw [h4, h6]; exact h.acc⟩

/-- requests whose status is decided, with the status uv__udp_run_completed reports: called back, or completed -/
def H.done (s : H) : List (Nat × Int) := s.cbs ++ s.cq.map fun p => (p.1.seq, if p.2 ≥ 0 then 0 else p.2)

/-- status 0 for what went to the OS and was not cancelled; any other status has its reason -/
def Decided (s : H) (c : Nat × Int) : Prop :=
  (c.2 = 0 → c.1 ∈ s.W ∧ c.1 ∉ s.cancelled) ∧ (c.2 ≠ 0 → c.1 ∉ s.W ∧ Fail s c.1 c.2)

/-- `n1 s1` say of a completed-queue entry what `c1 c2` say of a callback, once its status is mapped the way
uv__udp_run_completed reports it; the lemmas below work with this one clause over `H.done` -/
theorem St_iff (s : H) : St s ↔
    (∀ c ∈ s.done, Decided s c) ∧ (∀ x ∈ s.cancelled, x ∈ s.done.map (·.1)) ∧ ∀ d ∈ s.wq, prepOk d = true := by
  have hmap : s.done.map (·.1) = s.cbs.map (·.1) ++ s.cq.map (·.1.seq) := by
    simp [H.done, List.map_map, Function.comp_def]
  constructor
  · intro ⟨n1, s1, c1, c2, k1, pq⟩
    refine ⟨fun c hc => ?_, fun x hx => by rw [hmap]; exact List.mem_append.mpr (k1 x hx), pq⟩
    rcases List.mem_append.mp hc with hc | hc
    · exact ⟨c1 c hc, c2 c hc⟩
    · obtain ⟨p, hp, rfl⟩ := List.mem_map.mp hc
      by_cases h0 : p.2 ≥ 0
      · simp only [h0, if_true]; exact ⟨fun _ => s1 p hp h0, fun h => absurd rfl h⟩
      · simp only [h0, if_false]; exact ⟨fun h => by omega, fun _ => n1 p hp (by omega)⟩
  · intro ⟨hd, hk, pq⟩
    have cq : ∀ p ∈ s.cq, Decided s (p.1.seq, if p.2 ≥ 0 then 0 else p.2) := fun p hp =>
      hd _ (List.mem_append_right _ (List.mem_map.mpr ⟨p, hp, rfl⟩))
    refine ⟨fun p hp hn => ?_, fun p hp hn => ?_, fun c hc => (hd c (List.mem_append_left _ hc)).1,
      fun c hc => (hd c (List.mem_append_left _ hc)).2, fun x hx => by have := hk x hx; rwa [hmap, List.mem_append] at this, pq⟩
    · have := cq p hp
      rw [if_neg (by omega)] at this; exact this.2 (by show p.2 ≠ 0; omega)
    · have := cq p hp
      rw [if_pos hn] at this; exact this.1 rfl

/-- one step of the handle: requests `new` get their status, `X` goes to the OS, `Y` is cancelled, the log grows -/
theorem St.step {s t : H} (hs : St s) {X Y : List Nat} {new : List (Nat × Int)} (hd : t.done = s.done ++ new)
    (hW : t.W = s.W ++ X) (hcan : t.cancelled = s.cancelled ++ Y) (hk : ∃ l, t.klog = s.klog ++ l)
    (hX : ∀ c ∈ s.done, c.1 ∉ X) (hY : ∀ c ∈ s.done, c.1 ∉ Y) (hnew : ∀ c ∈ new, Decided t c)
    (hYn : ∀ x ∈ Y, x ∈ new.map (·.1)) (hwq : ∀ d ∈ t.wq, prepOk d = true) : St t := by
  obtain ⟨l, hl⟩ := hk
  rw [St_iff] at hs ⊢
  refine ⟨fun c hc => ?_, fun x hx => ?_, hwq⟩
  · rw [hd] at hc
    refine (List.mem_append.mp hc).elim (fun hc => ?_) (hnew c)
    have hnc : c.1 ∉ s.cancelled → c.1 ∉ t.cancelled := fun f hx => by
      rw [hcan] at hx; exact (List.mem_append.mp hx).elim f (hY c hc)
    refine ⟨fun h0 => ⟨?_, hnc ((hs.1 c hc).1 h0).2⟩, fun h0 => ?_⟩
    · rw [hW]; exact List.mem_append_left _ ((hs.1 c hc).1 h0).1
    obtain ⟨hw, hf⟩ := (hs.1 c hc).2 h0
    refine ⟨by rw [hW]; exact fun hx => (List.mem_append.mp hx).elim hw (hX c hc), ?_⟩
    rcases hf with ⟨f1, f2⟩ | ⟨f1, k, hk1, hk2⟩
    · exact Or.inl ⟨by rw [hcan]; exact List.mem_append_left _ f1, f2⟩
    · exact Or.inr ⟨hnc f1, k, by rw [hl]; exact List.mem_append_left _ hk1, hk2⟩
  · rw [hd, List.map_append]; rw [hcan] at hx
    exact (List.mem_append.mp hx).elim (fun h => List.mem_append_left _ (hs.2.1 x h))
      fun h => List.mem_append_right _ (hYn x h)

theorem St.congr {s t : H} (hs : St s) (hd : t.done = s.done) (hW : t.W = s.W) (hcan : t.cancelled = s.cancelled)
    (hk : ∃ l, t.klog = s.klog ++ l) (hwq : ∀ d ∈ t.wq, prepOk d = true) : St t :=
  hs.step (X := []) (Y := []) (new := []) (by rw [hd, List.append_nil]) (by rw [hW, List.append_nil])
    (by rw [hcan, List.append_nil]) hk (fun _ _ => List.not_mem_nil) (fun _ _ => List.not_mem_nil) nofun nofun hwq

def H.core (s : H) :=
  (s.sqCount, s.sqSize, s.activeReqs, s.accepted, s.cbs, s.cq, s.wq, s.klog, s.submitted, s.nseq, s.cancelled)

theorem HInv.frame {s t : H} (h : HInv s) (e : t.core = s.core) : HInv t := by
  simp only [H.core, Prod.mk.injEq] at e
  obtain ⟨h1, h2, h3, h4, h5, h6, h7, h8, h9, h10, h11⟩ := e
  refine ⟨h.1.transfer ?_ ?_ h1 h2 h3 h4 h5 h9 h10, h.2.congr ?_ ?_ h11 ⟨[], by rw [h8, List.append_nil]⟩
    (by rw [h7]; exact h.2.pq)⟩
  · rw [H.owed, H.owed, h6, h7]
  · rw [H.wire, H.wire, h8, h7]; exact .refl _
  · rw [H.done, H.done, h5, h6]
  · rw [H.W, H.W, H.wire, H.wire, h8]

def Ev.quiet : Ev → Bool
  | .sendCb .. => false
  | _ => true

theorem cbs_emit (s : H) {e : Ev} (he : e.quiet = true) : (emit s e).cbs = s.cbs := by
  show List.filterMap _ (s.trace ++ [e]) = _
  rw [List.filterMap_append]
  cases e <;> first | exact List.append_nil _ | cases he

theorem cbs_emit_send (s : H) (q : Nat) (st : Int) : (emit s (.sendCb q st)).cbs = s.cbs ++ [(q, st)] := by
  simp [emit, H.cbs]

/-- an event other than a send callback, with changes outside `core` -/
theorem HInv.emit {s t : H} (h : HInv s) (e : Ev) (ht : t.core = s.core := by rfl) (he : e.quiet = true := by rfl) :
    HInv (emit t e) :=
  h.frame (by rw [← ht, H.core, cbs_emit t he]; rfl)

theorem Inv.ids {s : H} (h : Inv s) :
    (∀ c ∈ s.done, ∀ d ∈ s.wq, c.1 ≠ d.seq) ∧ (∀ c ∈ s.done, c.1 < s.nseq) ∧ (∀ d ∈ s.wq, d.seq ∉ s.W) := by
  have hacc : s.accepted.map (·.seq) = s.done.map (·.1) ++ s.wq.map (·.seq) := by
    rw [h.part]; simp [H.done, H.owed, List.map_map, Function.comp_def]
  have hsub : (s.done.map (·.1) ++ s.wq.map (·.seq)).Sublist (List.range s.nseq) := by
    rw [← hacc, ← h.seqs]; exact h.acc.map _
  have hws : (s.W ++ s.wq.map (·.seq)).Sublist (List.range s.nseq) := by
    rw [H.W, ← List.map_append, ← h.seqs]; exact h.sub.map _
  refine ⟨fun c hc d hd => ?_, fun c hc => ?_, fun d hd hw => ?_⟩
  · exact (List.nodup_append.mp (hsub.nodup List.nodup_range)).2.2 _ (List.mem_map.mpr ⟨c, hc, rfl⟩) _
      (List.mem_map.mpr ⟨d, hd, rfl⟩)
  · exact List.mem_range.mp (hsub.subset (List.mem_append_left _ (List.mem_map.mpr ⟨c, hc, rfl⟩)))
  · exact (List.nodup_append.mp (hws.nodup List.nodup_range)).2.2 _ hw _ (List.mem_map.mpr ⟨d, hd, rfl⟩) rfl

theorem wq_not_cancelled {s : H} (h : HInv s) : ∀ d ∈ s.wq, d.seq ∉ s.cancelled := by
  intro d hd hc
  obtain ⟨c, hc1, hc2⟩ := List.mem_map.mp (((St_iff s).mp h.2).2.1 _ hc)
  exact (Inv.ids h.1).1 c hc1 d hd hc2

theorem owed_nil_of_count {s : H} (h : Inv s) (h0 : s.sqCount ≤ 0) : s.wq = [] ∧ s.cq = [] := by
  have hl : s.owed.length = 0 := by have := h.count; omega
  have := List.eq_nil_of_length_eq_zero hl
  simp [H.owed] at this; exact ⟨this.2, this.1⟩

theorem HInv.sent {s : H} (h : HInv s) {n : Nat} {log : List KCall} (hw : wireOf log = s.wq.take n) (o : List SOut) :
    HInv { s with souts := o, klog := s.klog ++ log,
                  cq := s.cq ++ (s.wq.take n).map (fun d => (d, (d.bytes : Int))), wq := s.wq.drop n } := by
  have hW : wireOf (s.klog ++ log) = s.wire ++ s.wq.take n := by rw [wireOf_append, hw]; rfl
  refine ⟨h.1.transfer ?_ ?_ rfl rfl rfl rfl rfl rfl rfl,
    h.2.step (X := (s.wq.take n).map (·.seq)) (Y := []) (new := (s.wq.take n).map fun d => (d.seq, 0)) ?_ ?_
      (List.append_nil _).symm ⟨log, rfl⟩ ?_ (fun _ _ => List.not_mem_nil) ?_ nofun
      fun d hd => h.2.pq d (List.mem_of_mem_drop hd)⟩
  · simp [H.owed, List.map_map, Function.comp_def]
  · show (wireOf (s.klog ++ log) ++ s.wq.drop n).Sublist _
    rw [hW, List.append_assoc, List.take_append_drop]; exact .refl _
  · simp [H.done, H.cbs, List.map_map, Function.comp_def]
  · show (wireOf (s.klog ++ log)).map _ = _
    rw [hW, List.map_append]; rfl
  · intro c hc hx
    obtain ⟨d, hd, he⟩ := List.mem_map.mp hx
    exact (Inv.ids h.1).1 c hc d (List.mem_of_mem_take hd) he.symm
  · intro c hc
    obtain ⟨d, hd, rfl⟩ := List.mem_map.mp hc
    refine ⟨fun _ => ⟨?_, wq_not_cancelled h d (List.mem_of_mem_take hd)⟩, fun h0 => absurd rfl h0⟩
    show d.seq ∈ (wireOf (s.klog ++ log)).map _
    rw [hW, List.map_append]
    exact List.mem_append_right _ (List.mem_map.mpr ⟨d, hd, rfl⟩)

theorem HInv.logged {s : H} (h : HInv s) {log : List KCall} (hw : wireOf log = []) (o : List SOut) :
    HInv { s with souts := o, klog := s.klog ++ log } :=
  (h.sent (n := 0) hw o).frame (by simp [H.core])

theorem HInv.failHead {s : H} (h : HInv s) {d : Dgram} {rest : List Dgram} (hwq : s.wq = d :: rest) {st : Int}
    (hst : st < 0) (hos : OsErr s d.seq st) : HInv { s with cq := s.cq ++ [(d, st)], wq := rest } := by
  have hd : d ∈ s.wq := by rw [hwq]; exact List.mem_cons_self ..
  refine ⟨h.1.transfer ?_ ?_ rfl rfl rfl rfl rfl rfl rfl,
    h.2.step (X := []) (Y := []) (new := [(d.seq, st)]) ?_ (List.append_nil _).symm (List.append_nil _).symm
      ⟨[], (List.append_nil _).symm⟩ (fun _ _ => List.not_mem_nil) (fun _ _ => List.not_mem_nil) ?_ nofun
      fun x hx => h.2.pq x (by rw [hwq]; exact List.mem_cons_of_mem _ hx)⟩
  · simp [H.owed, hwq]
  · rw [hwq]; exact (List.sublist_cons_self d rest).append_left _
  · simp [H.done, H.cbs, show ¬ st ≥ 0 by omega]
  · intro c hc
    rw [List.mem_singleton.mp hc]
    exact ⟨fun h0 : st = 0 => by omega,
      fun _ => ⟨(Inv.ids h.1).2.2 d hd, Or.inr ⟨wq_not_cancelled h d hd, hos⟩⟩⟩

theorem sendmsgAgain_inv (f : Nat) (s : H) (h : HInv s) : HInv (sendmsgAgain f s) := by
  induction f generalizing s with
  | zero => exact h
  | succ f ih =>
    obtain ⟨hw, hle, herr⟩ := sendmsgv_spec (s.wq.take 20) s.souts
    simp only [sendmsgAgain]
    generalize sendmsgv (s.wq.take 20) s.souts = v at hw hle herr
    refine iteInduction (motive := HInv) (fun _ => ?_) fun hret => ?_
    · have key := h.sent (n := v.ret.toNat) (log := v.log) (by
        rw [hw, List.take_take, Nat.min_eq_left]
        exact Nat.le_trans (Int.toNat_le.mpr hle) (List.length_take_le 20 _)) v.outs
      exact iteInduction (motive := HInv) (fun _ => key.frame rfl) fun _ => ih _ key
    · have hneg : v.ret < 0 := Int.not_le.mp hret
      have hw0 : wireOf v.log = [] := by rw [hw, Int.toNat_of_nonpos (Int.le_of_lt hneg)]; rfl
      have key := h.logged hw0 v.outs
      refine iteInduction (motive := HInv) (fun _ => key) fun _ => ?_
      split
      · exact key
      · rename_i d rest hwq
        obtain ⟨c, hc, h1, h2, h3⟩ := herr hneg fun d hd => h.2.pq d (List.mem_of_mem_take hd)
        refine (key.failHead hwq hneg ⟨c, List.mem_append_right _ hc, h1, ?_, h3⟩).frame rfl
        rw [h2, hwq]; rfl

theorem uvSendmsg_inv (s : H) (h : HInv s) : HInv (uvSendmsg s) := by
  unfold uvSendmsg; split
  · exact h
  · exact sendmsgAgain_inv _ _ h

/-- datagrams enter `submitted`, and a direct system call (uv_udp_try_send, uv_udp_try_send2: only with nothing
queued) hands some of them to the OS at once -/
theorem HInv.direct {s : H} (h : HInv s) (ds : List Dgram)
    (hd : ds.map (·.seq) = (List.range ds.length).map (s.nseq + ·)) (log : List KCall)
    (hw : (wireOf log).Sublist ds) (h0 : s.sqCount > 0 → log = []) (o : List SOut) :
    HInv { s with nseq := s.nseq + ds.length, submitted := s.submitted ++ ds, souts := o, klog := s.klog ++ log } := by
  have hW : wireOf (s.klog ++ log) = s.wire ++ wireOf log := wireOf_append _ _
  have hfresh : ∀ x ∈ (wireOf log).map (·.seq), s.nseq ≤ x := by
    intro x hx
    have := (hw.map _).subset hx
    rw [hd] at this
    obtain ⟨i, _, rfl⟩ := List.mem_map.mp this
    exact Nat.le_add_right _ _
  refine ⟨⟨h.1.count, h.1.size, h.1.reqs, h.1.part, ?_, ?_, h.1.acc.trans (List.sublist_append_left _ _)⟩,
    h.2.step (X := (wireOf log).map (·.seq)) (Y := []) (new := []) (List.append_nil _).symm ?_
      (List.append_nil _).symm ⟨log, rfl⟩ ?_ (fun _ _ => List.not_mem_nil) nofun nofun h.2.pq⟩
  · show (wireOf (s.klog ++ log) ++ s.wq).Sublist (s.submitted ++ ds)
    rw [hW]
    by_cases hq : s.sqCount > 0
    · rw [h0 hq, wireOf_nil, List.append_nil]; exact h.1.sub.trans (List.sublist_append_left _ _)
    · rw [(owed_nil_of_count h.1 (Int.not_lt.mp hq)).1, List.append_nil]
      exact ((List.sublist_append_left _ _).trans h.1.sub).append hw
  · show List.map _ (s.submitted ++ ds) = _
    rw [List.map_append, h.1.seqs, hd, List.range_add]
  · show (wireOf (s.klog ++ log)).map _ = _
    rw [hW, List.map_append]; rfl
  · intro c hc hx
    have := hfresh _ hx; have := (Inv.ids h.1).2.1 c hc; omega

theorem HInv.submit {s : H} (h : HInv s) (ds : List Dgram)
    (hd : ds.map (·.seq) = (List.range ds.length).map (s.nseq + ·)) :
    HInv { s with nseq := s.nseq + ds.length, submitted := s.submitted ++ ds } :=
  (h.direct ds hd [] (List.nil_sublist _) (fun _ => rfl) s.souts).frame (by simp only [H.core, List.append_nil])

theorem mkDgrams_seq (n c : Nat) (b : List Nat) (d : Nat) :
    (mkDgrams n c b d).map (·.seq) = (List.range (mkDgrams n c b d).length).map (n + ·) := by
  simp [mkDgrams, List.map_map, Function.comp_def]

theorem HInv.enqueue {s : H} (h : HInv s) (d : Dgram) (hd : d.seq = s.nseq) (hp : prepOk d = true) :
    HInv { s with nseq := s.nseq + 1, submitted := s.submitted ++ [d], activeReqs := s.activeReqs + 1,
                  sqSize := s.sqSize + d.bytes, sqCount := s.sqCount + 1, wq := s.wq ++ [d],
                  active := true, accepted := s.accepted ++ [d] } := by
  have ho : s.cq.map (·.1) ++ (s.wq ++ [d]) = s.owed ++ [d] := (List.append_assoc ..).symm
  refine ⟨⟨?_, ?_, ?_, ?_, ?_, ?_, h.1.acc.append (.refl _)⟩,
    h.2.congr rfl rfl rfl ⟨[], (List.append_nil _).symm⟩ ?_⟩
  · show s.sqCount + 1 = ((s.cq.map (·.1) ++ (s.wq ++ [d])).length : Nat)
    rw [ho, List.length_append, h.1.count]; simp
  · show s.sqSize + d.bytes = (((s.cq.map (·.1) ++ (s.wq ++ [d])).map Dgram.bytes).sum : Nat)
    rw [ho, List.map_append, List.sum_append, h.1.size]; simp
  · show s.activeReqs + 1 = ((s.cq.map (·.1) ++ (s.wq ++ [d])).length : Nat)
    rw [ho, List.length_append, h.1.reqs]; simp
  · show (s.accepted ++ [d]).map _ = s.cbs.map _ ++ (s.cq.map (·.1) ++ (s.wq ++ [d])).map _
    rw [ho, List.map_append, List.map_append, h.1.part, List.append_assoc]
  · show (s.wire ++ (s.wq ++ [d])).Sublist (s.submitted ++ [d])
    rw [← List.append_assoc]; exact h.1.sub.append (.refl _)
  · show (s.submitted ++ [d]).map _ = List.range (s.nseq + 1)
    rw [List.map_append, h.1.seqs, List.range_succ, ← hd]; rfl
  · intro x hx
    rcases List.mem_append.mp hx with hx | hx
    · exact h.2.pq x hx
    · rw [List.mem_singleton.mp hx]; exact hp

theorem udpSend_inv (s : H) (d : Dgram) (en : Bool) (h : HInv s) (hd : d.seq = s.nseq) (hp : prepOk d = true) :
    HInv (udpSend { s with nseq := s.nseq + 1, submitted := s.submitted ++ [d] } d en).1 := by
  unfold udpSend
  simp only
  refine iteInduction (motive := fun x : H × Int => HInv x.1) (fun _ => ?_) fun _ => ?_
  · exact (h.submit [d] (by simp [hd])).frame (by simp [H.core])
  · have key := h.enqueue d hd hp
    refine iteInduction (motive := fun x : H × Int => HInv x.1) (fun _ => ?_) fun _ => key.frame rfl
    have k2 := uvSendmsg_inv _ key
    exact iteInduction (motive := HInv) (fun _ => k2.frame rfl) fun _ => k2

theorem prepOk_of_check {s : H} {q dest : Nat} {bufs : List Nat} (h : ¬ checkBeforeSend s dest < 0) :
    prepOk ⟨q, bufs, dest⟩ = true := by
  unfold checkBeforeSend at h
  simp only [prepOk, decide_eq_true_eq]
  split at h
  · exact absurd (by decide) h
  split at h
  · exact absurd (by decide) h
  split at h
  · exact absurd (by decide) h
  · omega

section
variable {s : H} (hc : s.closing = false)
include hc

/-- the whole effect of `uv_udp_try_send`: the submission is recorded, at most the datagram itself goes to the OS by
the system calls in `log`, a value is returned; with requests queued there is no system call and the value is negative -/
theorem applyOp_trySend_eq (bufs : List Nat) (dest : Nat) :
    ∃ (r : Int) (log : List KCall) (o : List SOut),
      applyOp s (.trySend bufs dest) =
        emit { s with nseq := s.nseq + 1, submitted := s.submitted ++ [⟨s.nseq, bufs, dest⟩],
                      souts := o, klog := s.klog ++ log } (.ret r)
      ∧ (wireOf log).Sublist [⟨s.nseq, bufs, dest⟩]
      ∧ (s.sqCount > 0 → r < 0 ∧ log = [] ∧ o = s.souts) := by
  unfold applyOp; rw [if_neg (by rw [hc]; exact Bool.false_ne_true)]
  by_cases h1 : checkBeforeSend s dest < 0
  · exact ⟨_, [], s.souts, (if_pos h1).trans (by rw [List.append_nil]; rfl), List.nil_sublist _, fun _ => ⟨h1, rfl, rfl⟩⟩
  by_cases h2 : bufs.length < 1
  · exact ⟨_, [], s.souts, (if_neg h1).trans ((if_pos h2).trans (by rw [List.append_nil])), List.nil_sublist _,
      fun _ => ⟨by decide, rfl, rfl⟩⟩
  by_cases h3 : s.sqCount ≠ 0
  · exact ⟨_, [], s.souts, (if_neg h1).trans ((if_neg h2).trans ((if_pos h3).trans (by rw [List.append_nil]))),
      List.nil_sublist _, fun _ => ⟨by decide, rfl, rfl⟩⟩
  · refine ⟨_, _, _, (if_neg h1).trans ((if_neg h2).trans (if_neg h3)), ?_, fun hq => absurd (Int.ne_of_gt hq) h3⟩
    rw [(sendmsg1_spec _ _).1]; exact List.take_sublist _ _

/-- the whole effect of `uv_udp_try_send2`: the submission is recorded, the system calls in `log` take exactly the
first `r` datagrams of the batch (none when `r ≤ 0`), `r` is returned; with requests queued there is no system call and
`r` is negative -/
theorem applyOp_trySend2_eq (count : Nat) (bufs : List Nat) (dest : Nat) :
    ∃ (r : Int) (log : List KCall) (o : List SOut),
      applyOp s (.trySend2 count bufs dest) =
        emit { s with nseq := s.nseq + count, submitted := s.submitted ++ mkDgrams s.nseq count bufs dest,
                      souts := o, klog := s.klog ++ log } (.ret r)
      ∧ wireOf log = (mkDgrams s.nseq count bufs dest).take r.toNat
      ∧ (s.sqCount > 0 → r < 0 ∧ log = [] ∧ o = s.souts) := by
  unfold applyOp; rw [if_neg (by rw [hc]; exact Bool.false_ne_true)]
  by_cases h1 : count < 1
  · exact ⟨_, [], s.souts, (if_pos h1).trans (by rw [List.append_nil]), rfl, fun _ => ⟨by decide, rfl, rfl⟩⟩
  by_cases h2 : s.sqCount > 0
  · exact ⟨_, [], s.souts, (if_neg h1).trans ((if_pos h2).trans (by rw [List.append_nil])), rfl,
      fun _ => ⟨by decide, rfl, rfl⟩⟩
  by_cases h3 : (!s.fdOpen) = true
  · exact ⟨_, [], s.souts, (if_neg h1).trans ((if_neg h2).trans ((if_pos h3).trans (by rw [List.append_nil]))), rfl,
      fun _ => ⟨by decide, rfl, rfl⟩⟩
  · exact ⟨_, _, _, (if_neg h1).trans ((if_neg h2).trans (if_neg h3)), (sendmsgv_spec _ _).1, fun hq => absurd hq h2⟩

end

theorem applyOp_inv (s : H) (op : Op) (h : HInv s) : HInv (applyOp s op) := by
  cases hc : s.closing
  case true => unfold applyOp; rw [if_pos hc]; exact h.emit _
  have hn : ¬ s.closing = true := by rw [hc]; exact Bool.false_ne_true
  cases op with
  | send bufs dest en =>
    unfold applyOp; rw [if_neg hn]
    refine iteInduction (motive := HInv) (fun _ => (h.submit [⟨s.nseq, bufs, dest⟩] (by simp)).emit _) fun hchk => ?_
    exact (udpSend_inv s ⟨s.nseq, bufs, dest⟩ en h rfl (prepOk_of_check hchk)).emit _
  | trySend bufs dest =>
    obtain ⟨r, log, o, he, hw, hb⟩ := applyOp_trySend_eq hc bufs dest
    rw [he]
    exact (h.direct [⟨s.nseq, bufs, dest⟩] (by simp) log hw (fun hq => (hb hq).2.1) o).emit _
  | trySend2 count bufs dest =>
    obtain ⟨r, log, o, he, hw, hb⟩ := applyOp_trySend2_eq hc count bufs dest
    rw [he]
    have h2 := h.direct _ (mkDgrams_seq s.nseq count bufs dest) log (by rw [hw]; exact List.take_sublist _ _)
      (fun hq => (hb hq).2.1) o
    rw [show (mkDgrams s.nseq count bufs dest).length = count by simp [mkDgrams]] at h2
    exact h2.emit _
  | recvStart =>
    unfold applyOp; rw [if_neg hn]
    exact iteInduction (motive := HInv) (fun _ => h.emit _) fun _ => h.emit _
  | recvStop => unfold applyOp; rw [if_neg hn]; exact h.emit _
  | close => unfold applyOp; rw [if_neg hn]; exact h.frame rfl

theorem applyOps_inv (ops : List Op) (s : H) (h : HInv s) : HInv (applyOps s ops) := by
  induction ops generalizing s with
  | nil => exact h
  | cons op ops ih => exact ih _ (applyOp_inv s op h)

/-- the head of the completed queue is called back; its status was decided when it was queued there, so `done` is
the same list before and after -/
theorem HInv.pop {s : H} (h : HInv s) {d : Dgram} {st : Int} {rest : List (Dgram × Int)}
    (hcq : s.cq = (d, st) :: rest) :
    HInv (Udp.emit { s with cq := rest, activeReqs := s.activeReqs - 1, sqSize := s.sqSize - d.bytes,
                            sqCount := s.sqCount - 1, nSendCb := s.nSendCb + 1 }
      (.sendCb d.seq (if st ≥ 0 then 0 else st))) := by
  refine ⟨?_, h.2.congr ?_ rfl rfl ⟨[], (List.append_nil _).symm⟩ h.2.pq⟩
  · obtain ⟨a, b, c, d', e, g, i⟩ := h.1
    simp only [H.owed, H.wire, hcq, List.map_cons, List.cons_append, List.length_cons, List.sum_cons] at a b c d' e g i
    refine ⟨?_, ?_, ?_, ?_, e, g, i⟩ <;> simp only [H.owed, cbs_emit_send] <;> simp only [Udp.emit]
    · rw [a]; simp
    · rw [b]; simp; omega
    · rw [c]; simp
    · rw [d']; simp [H.cbs]
  · rw [H.done, cbs_emit_send, H.done, hcq]; simp [Udp.emit, H.cbs]

theorem runCompletedLoop_inv (sc : Script) (f : Nat) (s : H) (h : HInv s) : HInv (runCompletedLoop sc f s) := by
  induction f generalizing s with
  | zero => exact h
  | succ f ih =>
    simp only [runCompletedLoop]
    split
    · exact h
    · rename_i d st rest hcq
      exact ih _ (applyOps_inv _ _ (h.pop hcq))

theorem runCompleted_inv (sc : Script) (s : H) (h : HInv s) : HInv (runCompleted sc s) := by
  unfold runCompleted
  simp only
  have h2 := runCompletedLoop_inv sc s.cq.length _ (h.frame (t := { s with processing := true }) rfl)
  split <;> exact h2.frame rfl

theorem ioOut_inv (sc : Script) (s : H) (h : HInv s) : HInv (ioOut sc s) := by
  unfold ioOut; split
  · exact runCompleted_inv _ _ (uvSendmsg_inv _ h)
  · exact h

theorem St.cancel {s t : H} (hi : Inv s) (hs : St s)
    (h1 : t.cq = s.cq ++ s.wq.map (fun d => (d, UV_ECANCELED))) (h2 : t.cbs = s.cbs) (h3 : t.klog = s.klog)
    (h4 : t.cancelled = s.cancelled ++ s.wq.map (·.seq)) (h5 : t.wq = []) : St t := by
  have hW : t.W = s.W := by rw [H.W, H.W, H.wire, H.wire, h3]
  refine hs.step (X := []) (Y := s.wq.map (·.seq)) (new := s.wq.map fun d => (d.seq, UV_ECANCELED)) ?_
    (by rw [hW, List.append_nil]) h4 ⟨[], by rw [h3, List.append_nil]⟩ (fun _ _ => List.not_mem_nil) ?_ ?_
    (fun x hx => by rw [List.map_map]; exact hx) (by rw [h5]; nofun)
  · simp [H.done, h1, h2, List.map_map, Function.comp_def, UV_ECANCELED]
  · intro c hc hx
    obtain ⟨d, hd, he⟩ := List.mem_map.mp hx
    exact (Inv.ids hi).1 c hc d hd he.symm
  · intro c hc
    obtain ⟨d, hd, rfl⟩ := List.mem_map.mp hc
    refine ⟨fun h0 => absurd h0 (by decide : UV_ECANCELED ≠ 0),
      fun _ => ⟨by rw [hW]; exact (Inv.ids hi).2.2 d hd, Or.inl ⟨?_, rfl⟩⟩⟩
    rw [h4]; exact List.mem_append_right _ (List.mem_map.mpr ⟨d, hd, rfl⟩)

theorem HInv.cancel {s : H} (h : HInv s) :
    HInv { s with cq := s.cq ++ s.wq.map (fun d => (d, UV_ECANCELED)), wq := [],
                  cancelled := s.cancelled ++ s.wq.map (·.seq) } := by
  refine ⟨h.1.transfer ?_ ?_ rfl rfl rfl rfl rfl rfl rfl, St.cancel h.1 h.2 rfl rfl rfl rfl rfl⟩
  · simp [H.owed, List.map_map, Function.comp_def]
  · show (s.wire ++ []).Sublist _
    rw [List.append_nil]; exact List.sublist_append_left _ _

theorem finishClose_inv (sc : Script) (s : H) (h : HInv s) : HInv (finishClose sc s) := by
  unfold finishClose; split
  · exact h
  · exact (runCompleted_inv sc _ h.cancel).emit _

theorem ioIn_inv (sc : Script) (s : H) (q : List RItem) (h : HInv s) : HInv (ioIn sc s q).1 := by
  unfold ioIn; split
  · exact recvLoop_preserves (hUser sc) _ _ _ _ _ _ HInv (fun s a hs => applyOps_inv _ _ (hs.emit _))
      (fun s hs => hs.emit (.alloc _ _)) h
  · exact h

theorem pendingRounds_inv (sc : Script) (n : Nat) (s : H) (h : HInv s) : HInv (pendingRounds sc n s) := by
  induction n generalizing s with
  | zero => exact h
  | succ n ih =>
    simp only [pendingRounds]; split
    · exact ih _ (ioOut_inv _ _ (h.frame rfl))
    · exact h

theorem uvRun_inv (sc : Script) (s : H) (q : List RItem) (h : HInv s) : HInv (uvRun sc s q).1 := by
  unfold uvRun
  simp only
  have h1 := pendingRounds_inv sc 1 s h
  generalize pendingRounds sc 1 s = s1 at h1
  apply finishClose_inv
  apply pendingRounds_inv
  have h2 : HInv (if s1.pollin = true then ioIn sc s1 q else (s1, q, false)).1 := by
    split
    · exact ioIn_inv _ _ _ h1
    · exact h1
  split
  · exact ioOut_inv _ _ h2
  · exact h2

theorem hInv_init (c m : Bool) : HInv { connected := c, mmsg := m } :=
  ⟨⟨rfl, rfl, rfl, rfl, .slnil, rfl, .slnil⟩, nofun, nofun, nofun, nofun, nofun, nofun⟩

end UvModel.Udp
