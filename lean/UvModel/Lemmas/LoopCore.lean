import UvModel.Loop
/-!
  Accounting invariants of the loop core (`Core` = handle flags in handle_queue order +
  `active_handles`): every macro kernel application that the model performs is a `CStep`, and
  `CStep` preserves `Core.Inv` (counter = number of active ∧ ref ∧ ¬closing handles, and
  closing ⇒ ¬active).
-/
namespace UvModel.Loop
open UvModel.HandleKernels

/-- 1 if the handle counts towards `active_handles` -/
def cInd (f : HFlags) : Int := if f.active && f.ref && !f.closing then 1 else 0

def countAR : List (Nat × HFlags) → Int
  | [] => 0
  | e :: t => cInd e.2 + countAR t

theorem countAR_nonneg (fl : List (Nat × HFlags)) : 0 ≤ countAR fl := by
  induction fl with
  | nil => simp [countAR]
  | cons e t ih => simp only [countAR, cInd]; split <;> omega

theorem countAR_append (a b : List (Nat × HFlags)) : countAR (a ++ b) = countAR a + countAR b := by
  induction a with
  | nil => simp [countAR]
  | cons e t ih => simp [countAR, ih]; omega

structure Core.Inv (c : Core) : Prop where
  count : c.ah = countAR c.fl
  closInact : ∀ e ∈ c.fl, e.2.closing = true → e.2.active = false

theorem countAR_updF (fl : List (Nat × HFlags)) (id : Nat) (f f' : HFlags)
    (h : lookF fl id = some f) :
    countAR (updF fl id f') = countAR fl - cInd f + cInd f' := by
  induction fl with
  | nil => simp [lookF] at h
  | cons e t ih =>
    by_cases he : (e.1 == id) = true
    · simp [lookF, he] at h
      simp [updF, he, countAR, h]; omega
    · have he' : (e.1 == id) = false := by simpa using he
      simp [lookF, he'] at h
      simp [updF, he', countAR, ih h]; omega

theorem mem_updF {fl : List (Nat × HFlags)} {id : Nat} {f' : HFlags} {e : Nat × HFlags}
    (h : e ∈ updF fl id f') : e ∈ fl ∨ e = (id, f') := by
  induction fl with
  | nil => simp [updF] at h
  | cons x t ih =>
    simp only [updF] at h
    split at h
    · rcases List.mem_cons.mp h with h | h
      · exact Or.inr h
      · exact Or.inl (List.mem_cons_of_mem _ h)
    · rcases List.mem_cons.mp h with h | h
      · exact Or.inl (h ▸ List.mem_cons_self)
      · rcases ih h with h | h
        · exact Or.inl (List.mem_cons_of_mem _ h)
        · exact Or.inr h

theorem lookF_mem {fl : List (Nat × HFlags)} {id : Nat} {f : HFlags} (h : lookF fl id = some f) :
    ∃ e ∈ fl, e.2 = f := by
  induction fl with
  | nil => simp [lookF] at h
  | cons e t ih =>
    simp only [lookF] at h
    split at h
    · exact ⟨e, List.mem_cons_self, by simpa using h⟩
    · obtain ⟨e', he', hf⟩ := ih h
      exact ⟨e', List.mem_cons_of_mem _ he', hf⟩

theorem get_mem {c : Core} {id : Nat} {f : HFlags} (h : c.get id = some f) : ∃ e ∈ c.fl, e.2 = f :=
  lookF_mem h

theorem Core.Inv.closInact_get {c : Core} (hi : c.Inv) {id : Nat} {f : HFlags} (hf : c.get id = some f) :
    f.closing = true → f.active = false := by
  obtain ⟨e, he, hef⟩ := get_mem hf
  exact hef ▸ hi.closInact e he

/-- a kernel whose effect on (flags, counter) keeps `counter - indicator` and which keeps
    "closing ⇒ inactive", possibly under a precondition `P` on the old flags -/
structure GoodK (P : HFlags → Prop) (k : HK → HK) : Prop where
  count : ∀ f ah, P f → (k (toHK f ah)).ah - cInd (ofHK (k (toHK f ah))) = ah - cInd f
  clos : ∀ f ah, P f → (f.closing = true → f.active = false) →
    ((ofHK (k (toHK f ah))).closing = true → (ofHK (k (toHK f ah))).active = false)

theorem apply_inv {c : Core} {id : Nat} {k : HK → HK} {P : HFlags → Prop} (g : GoodK P k)
    (hP : ∀ f, c.get id = some f → P f) (hi : c.Inv) : (c.apply id k).Inv := by
  unfold Core.apply
  cases hg : c.get id with
  | none => simpa using hi
  | some f =>
    have hPf := hP f hg
    constructor
    · simp only
      have := countAR_updF c.fl id f (ofHK (k (toHK f c.ah))) (by simpa [Core.get] using hg)
      have h1 := g.count f c.ah hPf
      rw [this, ← hi.count]; omega
    · intro e he
      simp only at he
      rcases mem_updF he with he | he
      · exact hi.closInact e he
      · subst he
        exact g.clos f c.ah hPf (hi.closInact_get hg)

theorem good_stop : GoodK (fun f => f.closing = true → f.active = false) handleStop := by
  constructor
  · intro f ah hp
    rcases f with ⟨a, r, c, d, i⟩
    cases a <;> cases r <;> cases c <;> simp_all [handleStop, toHK, ofHK, cInd]
  · intro f ah hp _
    rcases f with ⟨a, r, c, d, i⟩
    cases a <;> cases r <;> cases c <;> simp_all [handleStop, toHK, ofHK]

theorem good_ref : GoodK (fun f => f.closing = true → f.active = false) handleRef := by
  constructor
  · intro f ah hp
    rcases f with ⟨a, r, c, d, i⟩
    cases a <;> cases r <;> cases c <;> simp_all [handleRef, toHK, ofHK, cInd]
  · intro f ah hp _
    rcases f with ⟨a, r, c, d, i⟩
    cases a <;> cases r <;> cases c <;> simp_all [handleRef, toHK, ofHK]

theorem good_unref : GoodK (fun f => f.closing = true → f.active = false) handleUnref := by
  constructor
  · intro f ah hp
    rcases f with ⟨a, r, c, d, i⟩
    cases a <;> cases r <;> cases c <;> simp_all [handleUnref, toHK, ofHK, cInd]
  · intro f ah hp _
    rcases f with ⟨a, r, c, d, i⟩
    cases a <;> cases r <;> cases c <;> simp_all [handleUnref, toHK, ofHK]

theorem good_start : GoodK (fun f => f.closing = false) handleStart := by
  constructor
  · intro f ah hp
    rcases f with ⟨a, r, c, d, i⟩
    cases a <;> cases r <;> cases c <;> simp_all [handleStart, toHK, ofHK, cInd]
  · intro f ah hp _
    rcases f with ⟨a, r, c, d, i⟩
    cases a <;> cases r <;> cases c <;> simp_all [handleStart, toHK, ofHK]

theorem good_setClosed : GoodK (fun _ => True) setClosed := by
  constructor
  · intro f ah _; rcases f with ⟨a, r, c, d, i⟩; simp [setClosed, toHK, ofHK, cInd]
  · intro f ah _ h; rcases f with ⟨a, r, c, d, i⟩; simpa [setClosed, toHK, ofHK] using h

theorem good_setInternal : GoodK (fun _ => True) setInternal := by
  constructor
  · intro f ah _; rcases f with ⟨a, r, c, d, i⟩; simp [setInternal, toHK, ofHK, cInd]
  · intro f ah _ h; rcases f with ⟨a, r, c, d, i⟩; simpa [setInternal, toHK, ofHK] using h

/-- uv_close's flag effect: CLOSING, then (type teardown ends in) uv__handle_stop -/
def closeK (k : HK) : HK := handleStop (setClosing k)

theorem good_close : GoodK (fun f => f.closing = false) closeK := by
  constructor
  · intro f ah hp
    rcases f with ⟨a, r, c, d, i⟩
    cases a <;> cases r <;> cases c <;> simp_all [closeK, setClosing, handleStop, toHK, ofHK, cInd]
  · intro f ah hp _
    rcases f with ⟨a, r, c, d, i⟩
    cases a <;> cases r <;> cases c <;> simp_all [closeK, setClosing, handleStop, toHK, ofHK]

theorem lookF_updF_same (fl : List (Nat × HFlags)) (id : Nat) (f f' : HFlags)
    (h : lookF fl id = some f) :
    lookF (updF fl id f') id = some f' := by
  induction fl with
  | nil => simp [lookF] at h
  | cons e t ih =>
    by_cases he : (e.1 == id) = true
    · simp [updF, he, lookF]
    · have he' : (e.1 == id) = false := by simpa using he
      simp [lookF, he'] at h
      simp [updF, he', lookF, ih h]

theorem updF_updF (fl : List (Nat × HFlags)) (id : Nat) (f1 f2 : HFlags) :
    updF (updF fl id f1) id f2 = updF fl id f2 := by
  induction fl with
  | nil => simp [updF]
  | cons e t ih =>
    by_cases he : (e.1 == id) = true
    · simp [updF, he]
    · have he' : (e.1 == id) = false := by simpa using he
      simp [updF, he', ih]

/-- two kernel applications on the same handle compose -/
theorem apply_apply (c : Core) (id : Nat) (k1 k2 : HK → HK) :
    (c.apply id k1).apply id k2 = c.apply id (fun x => k2 (k1 x)) := by
  unfold Core.apply
  cases hg : c.get id with
  | none => simp [hg]
  | some f =>
    have h2 : (Core.get { fl := updF c.fl id (ofHK (k1 (toHK f c.ah))), ah := (k1 (toHK f c.ah)).ah } id)
        = some (ofHK (k1 (toHK f c.ah))) := by
      simpa [Core.get] using lookF_updF_same c.fl id f _ (by simpa [Core.get] using hg)
    simp only [h2, updF_updF]
    have : toHK (ofHK (k1 (toHK f c.ah))) (k1 (toHK f c.ah)).ah = k1 (toHK f c.ah) := by
      simp [toHK, ofHK]
    rw [this]

theorem eraseF_count (fl : List (Nat × HFlags)) (id : Nat) (f : HFlags)
    (h : lookF fl id = some f) : countAR (eraseF fl id) = countAR fl - cInd f := by
  induction fl with
  | nil => simp [lookF] at h
  | cons e t ih =>
    by_cases he : (e.1 == id) = true
    · simp [lookF, he] at h
      simp [eraseF, he, countAR, h]; omega
    · have he' : (e.1 == id) = false := by simpa using he
      simp [lookF, he'] at h
      simp [eraseF, he', countAR, ih h]; omega

theorem eraseF_none (fl : List (Nat × HFlags)) (id : Nat)
    (h : lookF fl id = none) : eraseF fl id = fl := by
  induction fl with
  | nil => simp [eraseF]
  | cons e t ih =>
    by_cases he : (e.1 == id) = true
    · simp [lookF, he] at h
    · have he' : (e.1 == id) = false := by simpa using he
      simp [lookF, he'] at h
      simp [eraseF, he', ih h]

theorem mem_eraseF {fl : List (Nat × HFlags)} {id : Nat} {e : Nat × HFlags} (h : e ∈ eraseF fl id) : e ∈ fl := by
  induction fl with
  | nil => simp [eraseF] at h
  | cons x t ih =>
    simp only [eraseF] at h
    split at h
    · exact List.mem_cons_of_mem _ h
    · rcases List.mem_cons.mp h with h | h
      · exact h ▸ List.mem_cons_self
      · exact List.mem_cons_of_mem _ (ih h)

theorem remove_inv {c : Core} {id : Nat} (hc : ∀ f, c.get id = some f → f.ref = false) (hi : c.Inv) :
    (c.remove id).Inv := by
  unfold Core.remove
  cases hg : c.get id with
  | none =>
    have := eraseF_none c.fl id (by simpa [Core.get] using hg)
    simpa [this] using hi
  | some f =>
    constructor
    · have := eraseF_count c.fl id f (by simpa [Core.get] using hg)
      have hcl := hc f hg
      simp only [this, hi.count, cInd, hcl]; simp
    · intro e he; exact hi.closInact e (mem_eraseF he)

theorem add_inv {c : Core} {id : Nat} (hi : c.Inv) : (c.add id).Inv := by
  constructor
  · simp [Core.add, countAR_append, countAR, cInd, ofHK, handleInit, hi.count]
  · intro e he
    simp only [Core.add, List.mem_append, List.mem_singleton] at he
    rcases he with he | he
    · exact hi.closInact e he
    · subst he; simp [ofHK, handleInit]

/-- the kernel applications the model performs -/
inductive CStep : Core → Core → Prop
  | refl (c) : CStep c c
  | stop (c id) : CStep c (c.apply id handleStop)
  | ref (c id) : CStep c (c.apply id handleRef)
  | unref (c id) : CStep c (c.apply id handleUnref)
  | setClosed (c id) : CStep c (c.apply id setClosed)
  | setInternal (c id) : CStep c (c.apply id setInternal)
  | start (c id) (h : ∀ f, c.get id = some f → f.closing = false) : CStep c (c.apply id handleStart)
  | close (c id) (h : ∀ f, c.get id = some f → f.closing = false) : CStep c (c.apply id closeK)
  | remove (c id) (h : ∀ f, c.get id = some f → f.ref = false) : CStep c (c.remove id)
  | trans {a b c} : CStep a b → CStep b c → CStep a c

theorem CStep.inv {c c' : Core} (h : CStep c c') : c.Inv → c'.Inv := by
  induction h with
  | refl => exact id
  | stop c id => intro hi; exact apply_inv good_stop (fun _ hf => hi.closInact_get hf) hi
  | ref c id => intro hi; exact apply_inv good_ref (fun _ hf => hi.closInact_get hf) hi
  | unref c id => intro hi; exact apply_inv good_unref (fun _ hf => hi.closInact_get hf) hi
  | setClosed c id => intro hi; exact apply_inv good_setClosed (fun _ _ => trivial) hi
  | setInternal c id => intro hi; exact apply_inv good_setInternal (fun _ _ => trivial) hi
  | start c id h => intro hi; exact apply_inv good_start h hi
  | close c id h => intro hi; exact apply_inv good_close h hi
  | remove c id h => intro hi; exact remove_inv h hi
  | trans _ _ ih1 ih2 => intro hi; exact ih2 (ih1 hi)

end UvModel.Loop
