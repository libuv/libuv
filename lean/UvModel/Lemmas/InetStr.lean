import UvModel.Inet
/-! Two inversions for `Option`-valued guards and a `takeWhile` fact used throughout the `Inet*` modules; then
  C strings, `uv__strscpy`, the `%u` printer and `inet_ntop4` in closed form. -/
namespace UvModel.Inet

/-- a guard that returns `none` did not fire when the result is `some` -/
theorem ite_none_eq_some {α : Type} {c : Prop} [Decidable c] {x : Option α} {v : α}
    (h : (if c then none else x) = some v) : ¬ c ∧ x = some v := by
  by_cases hc : c
  · rw [if_pos hc] at h; cases h
  · rw [if_neg hc] at h; exact ⟨hc, h⟩

theorem ite_else_none_eq_some {α : Type} {c : Prop} [Decidable c] {x : Option α} {v : α}
    (h : (if c then x else none) = some v) : c ∧ x = some v := by
  by_cases hc : c
  · rw [if_pos hc] at h; exact ⟨hc, h⟩
  · rw [if_neg hc] at h; cases h

theorem takeWhile_ne_append (x : Nat) (a z : List Nat) (h : x ∉ a) : (a ++ x :: z).takeWhile (· ≠ x) = a := by
  rw [List.takeWhile_append_of_pos, List.takeWhile_cons_of_neg (by simp), List.append_nil]
  intro c hc
  have : c ≠ x := fun e => h (e ▸ hc)
  simpa using this

theorem cstr_append_nul (t r : List Nat) (h : ∀ c ∈ t, c ≠ 0) : cstr (t ++ 0 :: r) = t :=
  takeWhile_ne_append 0 t r fun h0 => h 0 h0 rfl

theorem cstr_id (t : List Nat) (h : ∀ c ∈ t, c ≠ 0) : cstr t = t := by
  have := List.takeWhile_append_of_pos (p := (· ≠ 0)) (l₁ := t) (l₂ := []) (by simpa using h)
  rwa [List.append_nil, List.takeWhile_nil, List.append_nil] at this

theorem cstr_ne_zero (s : List Nat) : ∀ c ∈ cstr s, c ≠ 0 := by
  have h : (cstr s).all (· ≠ 0) = true := List.all_takeWhile
  simpa using h

theorem cstr_getD_lt (s : List Nat) (i : Nat) (h : i < (cstr s).length) :
    s.getD i 0 ≠ 0 ∧ (cstr s).drop i = s.getD i 0 :: (cstr s).drop (i + 1) := by
  induction s generalizing i with
  | nil => simp [cstr] at h
  | cons a t ih =>
    by_cases ha : a = 0
    · simp [cstr, ha] at h
    · cases i with
      | zero => simp [cstr, ha]
      | succ j =>
        have : j < (cstr t).length := by simpa [cstr, ha] using h
        have := ih j this
        simpa [cstr, ha] using this

theorem cstr_getD_len (s : List Nat) : s.getD (cstr s).length 0 = 0 := by
  induction s with
  | nil => simp [cstr]
  | cons a t ih =>
    by_cases ha : a = 0
    · simp [cstr, ha]
    · simpa [cstr, ha] using ih

theorem strscpyLoop_len (s : List Nat) (n i : Nat) (d : List Nat) :
    (strscpyLoop s n i d).2.length = d.length := by
  fun_induction strscpyLoop s n i d <;> simp_all

theorem strscpyLoop_frame (s : List Nat) (n i : Nat) (d : List Nat) (h : i ≤ n) :
    (strscpyLoop s n i d).2.drop n = d.drop n := by
  fun_induction strscpyLoop s n i d
  · exact List.drop_set_of_lt (by omega)
  · rename_i ih; rw [ih (by omega)]; exact List.drop_set_of_lt (by omega)
  · rfl
  · exact List.drop_set_of_lt (by omega)

theorem strscpyLoop_spec (s : List Nat) (n i : Nat) (d : List Nat)
    (hi : i ≤ (cstr s).length) (hin : i ≤ n) (hn : n ≤ d.length) (hmax : n ≤ SSIZE_MAX + 1) :
    strscpyLoop s n i d =
      if n = 0 then (0, d)
      else if (cstr s).length < n then
        (((cstr s).length : Int), d.take i ++ (cstr s).drop i ++ 0 :: d.drop ((cstr s).length + 1))
      else (UV_E2BIG, (d.take i ++ (cstr s).drop i).take (n - 1) ++ 0 :: d.drop n) := by
  fun_induction strscpyLoop s n i d
  · rename_i i d h1 hc
    have hiL : i = (cstr s).length :=
      Nat.le_antisymm hi (Nat.not_lt.1 fun hlt => (cstr_getD_lt s i hlt).1 hc)
    subst hiL
    rw [if_neg (Nat.ne_of_gt (Nat.zero_lt_of_lt h1)), if_pos h1,
      if_neg (Nat.not_lt.2 (Nat.le_of_lt_succ (Nat.lt_of_lt_of_le h1 hmax))), hc, List.set_eq_take_append_cons_drop,
      if_pos (Nat.lt_of_lt_of_le h1 hn), List.drop_length, List.append_nil]
  · rename_i i d h1 hc ih
    have hiL : i < (cstr s).length := Nat.lt_of_le_of_ne hi fun e => hc (e ▸ cstr_getD_len s)
    have hid : i < d.length := Nat.lt_of_lt_of_le h1 hn
    have hn0 : n ≠ 0 := Nat.ne_of_gt (Nat.zero_lt_of_lt h1)
    rw [ih hiL h1 (by rw [List.length_set]; exact hn), if_neg hn0, if_neg hn0,
      List.take_succ_eq_append_getElem (by rw [List.length_set]; exact hid), List.take_set_of_le (Nat.le_refl i),
      List.getElem_set_self, List.drop_set_of_lt (Nat.lt_succ_of_lt hiL), List.drop_set_of_lt h1, (cstr_getD_lt s i hiL).2]
    simp only [List.append_assoc, List.cons_append, List.nil_append]
  · rw [if_pos (by omega)]
  · rename_i i d h1 h0
    obtain ⟨m, rfl⟩ := Nat.exists_eq_succ_of_ne_zero h0
    have hmn : n = m + 1 := by omega
    subst hmn
    rw [if_neg h0, if_neg (by omega), Nat.add_sub_cancel, List.take_append_of_le_length (by rw [List.length_take]; omega),
      List.take_take, Nat.min_eq_left (Nat.le_succ m), List.set_eq_take_append_cons_drop, if_pos (by omega),
      Nat.succ_sub_one]

theorem strscpy_spec (d s : List Nat) (n : Nat) (hn : n ≤ d.length) (hmax : n ≤ SSIZE_MAX + 1) :
    strscpy d s n =
      if n = 0 then (0, d)
      else if (cstr s).length < n then
        (((cstr s).length : Int), cstr s ++ 0 :: d.drop ((cstr s).length + 1))
      else (UV_E2BIG, (cstr s).take (n - 1) ++ 0 :: d.drop n) := by
  unfold strscpy
  rw [strscpyLoop_spec s n 0 d (by omega) (by omega) hn hmax]
  simp

theorem fmtU8_len (n : Nat) : 1 ≤ (fmtU8 n).length ∧ (fmtU8 n).length ≤ 3 := by
  unfold fmtU8; (repeat' split) <;> simp

theorem fmtU8_mem (n c : Nat) (hc : c ∈ fmtU8 n) : 48 ≤ c ∧ (n < 1000 → c ≤ 57) := by
  have key : ∀ d, (n < 1000 → d < 10) → 48 ≤ 48 + d ∧ (n < 1000 → 48 + d ≤ 57) :=
    fun d h => ⟨Nat.le_add_right .., fun hn => Nat.add_le_add_left (Nat.le_of_lt_succ (h hn)) 48⟩
  unfold fmtU8 at hc
  split at hc
  · rw [List.mem_singleton.1 hc]; exact key n fun _ => by omega
  split at hc
  · simp only [List.mem_cons, List.not_mem_nil, or_false] at hc
    rcases hc with rfl | rfl
    · exact key _ fun _ => Nat.div_lt_of_lt_mul (by omega)
    · exact key _ fun _ => Nat.mod_lt _ (by decide)
  · simp only [List.mem_cons, List.not_mem_nil, or_false] at hc
    rcases hc with rfl | rfl | rfl
    · exact key _ fun _ => Nat.div_lt_of_lt_mul (by omega)
    · exact key _ fun _ => Nat.mod_lt _ (by decide)
    · exact key _ fun _ => Nat.mod_lt _ (by decide)

theorem fmtU8_digits (n : Nat) (h : n < 1000) : ∀ c ∈ fmtU8 n, 48 ≤ c ∧ c ≤ 57 :=
  fun c hc => ⟨(fmtU8_mem n c hc).1, (fmtU8_mem n c hc).2 h⟩

theorem fmtU8_ne_zero (n : Nat) : ∀ c ∈ fmtU8 n, c ≠ 0 :=
  fun c hc => Nat.ne_of_gt (Nat.lt_of_lt_of_le (by decide) (fmtU8_mem n c hc).1)

theorem fmt4_len (src : List Nat) : 7 ≤ (fmt4 src).length ∧ (fmt4 src).length ≤ 15 := by
  have h0 := fmtU8_len (src.getD 0 0)
  have h1 := fmtU8_len (src.getD 1 0)
  have h2 := fmtU8_len (src.getD 2 0)
  have h3 := fmtU8_len (src.getD 3 0)
  simp only [fmt4, List.length_append, List.length_cons]
  omega

theorem fmt4_forall {P : Nat → Prop} (src : List Nat) (hdot : P 46) (h : ∀ j, ∀ c ∈ fmtU8 (src.getD j 0), P c) :
    ∀ c ∈ fmt4 src, P c := by
  simp only [fmt4, List.forall_mem_append, List.forall_mem_cons]
  exact ⟨⟨⟨h 0, hdot, h 1⟩, hdot, h 2⟩, hdot, h 3⟩

theorem fmt4_ne_zero (src : List Nat) : ∀ c ∈ fmt4 src, c ≠ 0 :=
  fmt4_forall src (by decide) fun _ => fmtU8_ne_zero _

theorem ntop4_spec (src d : List Nat) (size : Nat) (hn : size ≤ d.length) (hmax : size ≤ SSIZE_MAX + 1) :
    ntop4 src d size =
      if size ≤ (fmt4 src).length then (UV_ENOSPC, d)
      else (0, fmt4 src ++ 0 :: d.drop ((fmt4 src).length + 1)) := by
  have hl := fmt4_len src
  unfold ntop4
  simp only []
  have ht : (fmt4 src).take 15 = fmt4 src := List.take_of_length_le hl.2
  rw [ht]
  by_cases h : size ≤ (fmt4 src).length
  · have : (fmt4 src).length ≤ 0 ∨ (fmt4 src).length ≥ size := Or.inr h
    simp [h]
  · have : ¬ ((fmt4 src).length ≤ 0 ∨ (fmt4 src).length ≥ size) := by omega
    rw [if_neg this, if_neg h, strscpy_spec d _ size hn hmax, cstr_id _ (fmt4_ne_zero src)]
    simp [show size ≠ 0 by omega, show (fmt4 src).length < size by omega]

end UvModel.Inet
