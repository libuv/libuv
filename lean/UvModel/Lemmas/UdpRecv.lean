import UvModel.Udp
/-! The receive path (`uv__udp_recvmsg`, `uv__udp_recvmmsg`) for an arbitrary user of the callbacks.  The do/while
loop is taken one round at a time: `recvRound` is what one round does, `recvLoop_rule` the induction over rounds. -/
namespace UvModel.Udp

def hasChunk (flags : Nat) : Bool := flags / FLAG_CHUNK % 2 == 1

/-- tiny specification of the buffer protocol: after `n` alloc_cb calls the handle is `idle` (owes nothing),
`refused` (alloc gave no buffer: one UV_ENOBUFS callback without buffer is due) or `owed len` (buffer n-1 of
length len is out: MMSG_CHUNK callbacks may point into it, exactly one non-chunk callback returns it) -/
inductive PMode
  | idle | refused | owed (len : Nat)
  deriving DecidableEq, Repr

structure PSt where
  n : Nat
  m : PMode
  deriving DecidableEq, Repr

def pstep (p : PSt) : REv → Option PSt
  | .alloc len =>
    match p.m with
    | .idle => some ⟨p.n + 1, if len = 0 then .refused else .owed len⟩
    | _ => none
  | .cb args =>
    match p.m, args.buf with
    | .refused, none => if args.nread = UV_ENOBUFS then some ⟨p.n, .idle⟩ else none
    | .owed len, some b =>
      if b.a + 1 = p.n then
        if hasChunk args.flags then (if b.off + b.len ≤ len then some p else none)
        else if b.off = 0 ∧ b.len = len then some ⟨p.n, .idle⟩ else none
      else none
    | _, _ => none

def runP (p : PSt) (evs : List REv) : Option PSt := evs.foldlM pstep p

@[simp] def isAlloc : REv → Bool
  | .alloc _ => true
  | _ => false

theorem runP_cons (p : PSt) (e : REv) (evs : List REv) :
    runP p (e :: evs) = (pstep p e).bind fun p' => runP p' evs := rfl

theorem runP_append (p : PSt) (a b : List REv) : runP p (a ++ b) = (runP p a).bind (fun p' => runP p' b) := by
  simp [runP, List.foldlM_append]

theorem runP_snoc {p0 p p' : PSt} {evs : List REv} {e : REv} (h : runP p0 evs = some p) (hs : pstep p e = some p') :
    runP p0 (evs ++ [e]) = some p' := by
  rw [runP_append, h]; simp [runP, hs]

theorem runP_allocs {p p' : PSt} {evs : List REv} (h : runP p evs = some p') : p'.n = p.n + evs.countP isAlloc := by
  induction evs generalizing p with
  | nil => cases h; rfl
  | cons e evs ih =>
    rw [runP_cons] at h
    cases hs : pstep p e with
    | none => rw [hs] at h; cases h
    | some p1 =>
      rw [hs] at h
      have hn : p1.n = p.n + if isAlloc e = true then 1 else 0 := by
        unfold pstep at hs
        repeat' split at hs
        all_goals first | cases hs; rfl | cases hs
      rw [ih h, hn, List.countP_cons]; omega

def dgsOf (q : List RItem) : List RDg := q.filterMap fun | .dg d => some d | _ => none

@[simp] theorem dgsOf_append (a b : List RItem) : dgsOf (a ++ b) = dgsOf a ++ dgsOf b := by simp [dgsOf]

theorem dgsOf_map_dg (ds : List RDg) : dgsOf (ds.map .dg) = ds := by
  induction ds with
  | nil => rfl
  | cons d ds ih => simp [dgsOf] at ih ⊢; exact ih

theorem kRecvmsg_spec (q : List RItem) :
    ∃ pre, q = pre ++ (kRecvmsg q).2 ∧
      ((∃ d, (kRecvmsg q).1 = .ok [d] ∧ dgsOf pre = [d]) ∨ (∃ e, (kRecvmsg q).1 = .err e ∧ dgsOf pre = [])) := by
  induction q with
  | nil => exact ⟨[], rfl, Or.inr ⟨_, rfl, rfl⟩⟩
  | cons it t ih =>
    obtain ⟨pre, hq, hr⟩ := ih
    cases it with
    | brk => exact ⟨.brk :: pre, congrArg _ hq, hr⟩
    | err e =>
      rw [kRecvmsg]
      by_cases he : errnoOf e = EINTR
      · rw [if_pos he]; exact ⟨.err e :: pre, congrArg _ hq, hr⟩
      · rw [if_neg he]; exact ⟨[.err e], rfl, Or.inr ⟨_, rfl, rfl⟩⟩
    | dg d => exact ⟨[.dg d], rfl, Or.inl ⟨d, rfl, rfl⟩⟩

theorem takeDgs_spec (n : Nat) (q : List RItem) :
    q = (takeDgs n q).1.map .dg ++ (takeDgs n q).2 ∧ (takeDgs n q).1.length ≤ n := by
  induction n generalizing q with
  | zero => simp [takeDgs]
  | succ n ih =>
    match q with
    | [] => simp [takeDgs]
    | .dg d :: t => exact ⟨congrArg _ (ih t).1, Nat.succ_le_succ (ih t).2⟩
    | .err e :: t => simp [takeDgs]
    | .brk :: t => simp [takeDgs]

theorem kRecvmmsg_spec (vlen : Nat) (hv : 1 ≤ vlen) (q : List RItem) :
    ∃ pre q', q = pre ++ q' ∧
      ((∃ d ds, kRecvmmsg vlen q = (.ok (d :: ds), q') ∧ dgsOf pre = d :: ds ∧ ds.length + 1 ≤ vlen) ∨
       (∃ e, kRecvmmsg vlen q = (.err e, q') ∧ dgsOf pre = [])) := by
  have hv0 : vlen ≠ 0 := by omega
  induction q with
  | nil => exact ⟨[], [], rfl, Or.inr ⟨EAGAIN, by rw [kRecvmmsg, if_neg hv0], rfl⟩⟩
  | cons it t ih =>
    obtain ⟨pre, q', hq, hr⟩ := ih
    cases it with
    | brk => exact ⟨.brk :: pre, q', congrArg _ hq, hr⟩
    | err e =>
      rw [kRecvmmsg, if_neg hv0]
      by_cases he : errnoOf e = EINTR
      · rw [if_pos he]; exact ⟨.err e :: pre, q', congrArg _ hq, hr⟩
      · rw [if_neg he]; exact ⟨[.err e], t, rfl, Or.inr ⟨_, rfl, rfl⟩⟩
    | dg d =>
      obtain ⟨v, rfl⟩ : ∃ v, vlen = v + 1 := ⟨vlen - 1, by omega⟩
      exact ⟨(takeDgs (v + 1) (.dg d :: t)).1.map .dg, _, (takeDgs_spec _ _).1,
        Or.inl ⟨d, (takeDgs v t).1, rfl, dgsOf_map_dg _, Nat.succ_le_succ (takeDgs_spec v t).2⟩⟩

theorem chunks_pos {len : Nat} (hlen : DGRAM_MAX ≤ len) : 1 ≤ min (len / DGRAM_MAX) 20 := by
  have : 1 ≤ len / DGRAM_MAX := (Nat.one_le_div_iff (by decide)).mpr hlen
  omega

/-- recv_cb calls that carry a datagram (addr != NULL) -/
def deliveries (evs : List REv) : List CbArgs :=
  evs.filterMap fun | .cb a => if a.peer ≠ 0 then some a else none | _ => none

@[simp] theorem deliveries_append (a b : List REv) : deliveries (a ++ b) = deliveries a ++ deliveries b := by
  simp [deliveries]

/-- the callback arguments report datagram d as the kernel did -/
def Rel (a : CbArgs) (d : RDg) : Prop :=
  a.peer = d.peer ∧ (a.flags / FLAG_PARTIAL % 2 = 1 ↔ d.trunc = true) ∧ ∃ b, a.buf = some b ∧ a.nread = min d.len b.len

def allRel (as : List CbArgs) (ds : List RDg) : Prop := as.length = ds.length ∧ ∀ p ∈ as.zip ds, Rel p.1 p.2

theorem allRel_nil : allRel [] [] := ⟨rfl, nofun⟩

theorem allRel_single {a : CbArgs} {d : RDg} (h : Rel a d) : allRel [a] [d] :=
  ⟨rfl, fun p hp => by rw [List.mem_singleton.mp hp]; exact h⟩

theorem allRel_append {a1 a2 : List CbArgs} {d1 d2 : List RDg} (h1 : allRel a1 d1) (h2 : allRel a2 d2) :
    allRel (a1 ++ a2) (d1 ++ d2) :=
  ⟨by rw [List.length_append, List.length_append, h1.1, h2.1], fun p hp => by
    rw [List.zip_append h1.1] at hp; exact (List.mem_append.mp hp).elim (h1.2 p) (h2.2 p)⟩

theorem flag_chunk_partial (t : Bool) :
    (FLAG_CHUNK + (if t = true then FLAG_PARTIAL else 0)) / FLAG_PARTIAL % 2 = 1 ↔ t = true := by cases t <;> decide
theorem flag_partial (t : Bool) : (if t = true then FLAG_PARTIAL else 0) / FLAG_PARTIAL % 2 = 1 ↔ t = true := by
  cases t <;> decide

/-- arguments of the k-th UV_UDP_MMSG_CHUNK callback of one uv__udp_recvmmsg -/
def chunkArgs (a k : Nat) (d : RDg) : CbArgs :=
  ⟨min d.len DGRAM_MAX, some ⟨a, k * DGRAM_MAX, DGRAM_MAX⟩, d.peer, FLAG_CHUNK + (if d.trunc then FLAG_PARTIAL else 0)⟩

theorem hasChunk_chunkArgs (a k : Nat) (d : RDg) : hasChunk (chunkArgs a k d).flags = true := by
  show hasChunk (FLAG_CHUNK + if d.trunc = true then FLAG_PARTIAL else 0) = true
  cases d.trunc <;> decide

theorem natCast_min (a b : Nat) : ((min a b : Nat) : Int) = min (a : Int) b := by omega

theorem rel_chunk (a k : Nat) (d : RDg) : Rel (chunkArgs a k d) d :=
  ⟨rfl, flag_chunk_partial d.trunc, _, rfl, (natCast_min _ _).symm⟩

theorem rel_plain (a len : Nat) (d : RDg) : Rel (plainArgs ⟨a, 0, len⟩ (.ok [d])) d :=
  ⟨rfl, flag_partial d.trunc, _, rfl, (natCast_min _ _).symm⟩

section
variable {σ : Type} (u : RecvUser σ)

/-- the user does not call uv_udp_recv_stop from inside a UV_UDP_MMSG_CHUNK callback (if it does, the rest of
the batch already read from the kernel is dropped — accepted behaviour) -/
def NoStopInChunk : Prop := ∀ s a, hasChunk a.flags = true → u.recvSet s = true → u.recvSet (u.cb s a) = true
/-- alloc_cb does not stop the handle (libuv would call a NULL recv_cb) -/
def AllocKeeps : Prop := ∀ s, u.recvSet (u.alloc s).1 = u.recvSet s

theorem chunkLoop_cons (a : Nat) (d : RDg) (ds : List RDg) (k : Nat) (s : σ) (evs : List REv) :
    chunkLoop u a (d :: ds) k s evs = if u.recvSet s then
      chunkLoop u a ds (k + 1) (u.cb s (chunkArgs a k d)) (evs ++ [.cb (chunkArgs a k d)]) else (s, evs) := rfl

theorem chunkLoop_handback (a len : Nat) (p0 : PSt) :
    ∀ (ds : List RDg) (k : Nat) (s : σ) (evs : List REv),
      (k + ds.length) * DGRAM_MAX ≤ len →
      runP p0 evs = some ⟨a + 1, .owed len⟩ →
      runP p0 (chunkLoop u a ds k s evs).2 = some ⟨a + 1, .owed len⟩ := by
  intro ds
  induction ds with
  | nil => intro k s evs _ hp; exact hp
  | cons d ds ih =>
    intro k s evs hb hp
    rw [chunkLoop_cons]
    split
    · rw [List.length_cons, ← Nat.add_assoc, Nat.add_right_comm] at hb
      refine ih _ _ _ hb (runP_snoc hp ?_)
      have : k * DGRAM_MAX + DGRAM_MAX ≤ len :=
        Nat.le_trans (by rw [← Nat.succ_mul]; exact Nat.mul_le_mul_right _ (by omega)) hb
      have hc : hasChunk (FLAG_CHUNK + if d.trunc = true then FLAG_PARTIAL else 0) = true := hasChunk_chunkArgs a k d
      simp [pstep, hc, chunkArgs, this]
    · exact hp

theorem chunkLoop_preserves (P : σ → Prop) (hcb : ∀ s a, P s → P (u.cb s a)) (a : Nat) :
    ∀ (ds : List RDg) (k : Nat) (s : σ) (evs : List REv), P s → P (chunkLoop u a ds k s evs).1 := by
  intro ds
  induction ds with
  | nil => intro _ _ _ h; exact h
  | cons d ds ih =>
    intro k s evs h
    rw [chunkLoop_cons]
    split
    · exact ih _ _ _ (hcb _ _ h)
    · exact h

theorem chunkLoop_delivers (hC : NoStopInChunk u) (a : Nat) :
    ∀ (ds : List RDg) (k : Nat) (s : σ) (evs : List REv), (∀ d ∈ ds, d.peer ≠ 0) → u.recvSet s = true →
      ∃ new, (chunkLoop u a ds k s evs).2 = evs ++ new ∧ allRel (deliveries new) ds := by
  intro ds
  induction ds with
  | nil => intro k s evs _ _; exact ⟨[], by simp [chunkLoop], allRel_nil⟩
  | cons d ds ih =>
    intro k s evs hp hs
    rw [chunkLoop_cons, if_pos hs]
    obtain ⟨new, h1, h2⟩ := ih (k + 1) (u.cb s (chunkArgs a k d)) (evs ++ [.cb (chunkArgs a k d)])
      (fun x hx => hp x (List.mem_cons_of_mem _ hx)) (hC s _ (hasChunk_chunkArgs a k d) hs)
    refine ⟨.cb (chunkArgs a k d) :: new, by rw [h1]; simp, ?_⟩
    have hpa : (chunkArgs a k d).peer ≠ 0 := hp d (List.mem_cons_self ..)
    have : deliveries (.cb (chunkArgs a k d) :: new) = chunkArgs a k d :: deliveries new := by simp [deliveries, hpa]
    rw [this]
    exact allRel_append (allRel_single (rel_chunk a k d)) h2

variable (a len : Nat) (hlen : DGRAM_MAX ≤ len) (s : σ) (q : List RItem)
include hlen

theorem recvmmsg_nread : (recvmmsg u a len s q).nread = -1 ∨ 1 ≤ (recvmmsg u a len s q).nread := by
  obtain ⟨_, _, _, ⟨d, ds, hk, _⟩ | ⟨e, hk, _⟩⟩ := kRecvmmsg_spec _ (chunks_pos hlen) q <;>
    simp only [recvmmsg, hk, recvmmsgK]
  · right; simp; omega
  · left; trivial

theorem recvmmsg_handback : runP ⟨a + 1, .owed len⟩ (recvmmsg u a len s q).evs = some ⟨a + 1, .idle⟩ := by
  obtain ⟨_, _, _, ⟨d, ds, hk, _, hl⟩ | ⟨e, hk, _⟩⟩ := kRecvmmsg_spec _ (chunks_pos hlen) q <;>
    simp only [recvmmsg, hk, recvmmsgK]
  · have hb : (0 + (ds.length + 1)) * DGRAM_MAX ≤ len := by
      rw [Nat.zero_add]
      exact Nat.le_trans (Nat.mul_le_mul_right _ (by omega)) (Nat.div_mul_le_self len DGRAM_MAX)
    refine runP_snoc (chunkLoop_handback u a len _ (d :: ds) 0 s [] hb rfl) ?_
    simp [pstep, hasChunk, FLAG_CHUNK, FLAG_FREE]
  · simp [runP, pstep, hasChunk, FLAG_CHUNK]

theorem recvmmsg_preserves (P : σ → Prop) (hcb : ∀ s a, P s → P (u.cb s a)) (h : P s) : P (recvmmsg u a len s q).s := by
  obtain ⟨_, _, _, ⟨d, ds, hk, _⟩ | ⟨e, hk, _⟩⟩ := kRecvmmsg_spec _ (chunks_pos hlen) q <;>
    simp only [recvmmsg, hk, recvmmsgK]
  · exact hcb _ _ (chunkLoop_preserves u P hcb a _ 0 s [] h)
  · exact hcb _ _ h

theorem recvmmsg_delivers (hC : NoStopInChunk u) (hs : u.recvSet s = true) (hq : ∀ d ∈ dgsOf q, d.peer ≠ 0) :
    ∃ pre, q = pre ++ (recvmmsg u a len s q).q ∧ allRel (deliveries (recvmmsg u a len s q).evs) (dgsOf pre) := by
  obtain ⟨pre, q', hpre, ⟨d, ds, hk, hd, _⟩ | ⟨e, hk, hd⟩⟩ := kRecvmmsg_spec _ (chunks_pos hlen) q <;>
    simp only [recvmmsg, hk, recvmmsgK] <;> refine ⟨pre, hpre, ?_⟩ <;> rw [hd]
  · have hsub : ∀ x ∈ d :: ds, x.peer ≠ 0 := by
      intro x hx; apply hq; rw [hpre, dgsOf_append, hd]; exact List.mem_append_left _ hx
    obtain ⟨new, h1, h3⟩ := chunkLoop_delivers u hC a (d :: ds) 0 s [] hsub hs
    rw [h1, List.nil_append, deliveries_append]
    simpa [deliveries] using h3
  · exact allRel_nil

omit hlen
variable (f : Nat) (count : Int) (evs : List REv)

structure Round (σ : Type) where
  s : σ
  q : List RItem
  evs : List REv
  next : Option Int     -- the iteration budget left when the loop goes round again

def refusedRound (len : Nat) (s : σ) (q : List RItem) : Round σ :=
  ⟨u.cb s ⟨UV_ENOBUFS, none, 0, 0⟩, q, [.alloc len, .cb ⟨UV_ENOBUFS, none, 0, 0⟩], none⟩

def mmsgRound : Round σ :=
  let m := recvmmsg u a len s q
  ⟨m.s, m.q, .alloc len :: m.evs,
    if m.nread ≠ -1 ∧ mmsgCount count m.nread > 0 ∧ u.fdOpen m.s ∧ u.recvSet m.s then
      some (mmsgCount count m.nread) else none⟩

def plainRound : Round σ :=
  let args := plainArgs ⟨a, 0, len⟩ (kRecvmsg q).1
  ⟨u.cb s args, (kRecvmsg q).2, [.alloc len, .cb args],
    if (kRecvmsg q).1.isErr = false ∧ count - 1 > 0 ∧ u.fdOpen (u.cb s args) ∧ u.recvSet (u.cb s args) then
      some (count - 1) else none⟩

def recvRound : Round σ :=
  let al := u.alloc s
  if al.2 = 0 then refusedRound u al.2 al.1 q
  else if u.mmsg al.1 ∧ al.2 ≥ DGRAM_MAX then mmsgRound u a al.2 al.1 q count
  else plainRound u a al.2 al.1 q count

theorem recvRound_ind {P : Round σ → Prop}
    (refused : (u.alloc s).2 = 0 → P (refusedRound u (u.alloc s).2 (u.alloc s).1 q))
    (mmsg : (u.alloc s).2 ≠ 0 → DGRAM_MAX ≤ (u.alloc s).2 → P (mmsgRound u a (u.alloc s).2 (u.alloc s).1 q count))
    (plain : (u.alloc s).2 ≠ 0 → P (plainRound u a (u.alloc s).2 (u.alloc s).1 q count)) :
    P (recvRound u a s q count) :=
  iteInduction refused fun h0 => iteInduction (fun h => mmsg h0 h.2) fun _ => plain h0

theorem recvLoop_succ {r : Round σ} (hr : recvRound u a s q count = r) :
    recvLoop u (f + 1) a count s q evs =
      match r.next with
      | some c => recvLoop u f (a + 1) c r.s r.q (evs ++ r.evs)
      | none => ⟨r.s, r.q, evs ++ r.evs, false⟩ := by
  unfold recvRound at hr
  rw [recvLoop]
  dsimp only at hr ⊢
  by_cases h0 : (u.alloc s).2 = 0
  · rw [if_pos h0] at hr ⊢; subst hr; simp only [List.append_assoc]; rfl
  rw [if_neg h0] at hr ⊢
  by_cases h1 : u.mmsg (u.alloc s).1 = true ∧ (u.alloc s).2 ≥ DGRAM_MAX
  · rw [if_pos h1] at hr ⊢
    subst hr
    dsimp only [mmsgRound]
    split <;> simp only [List.append_assoc] <;> rfl
  · rw [if_neg h1] at hr ⊢
    subst hr
    dsimp only [plainRound]
    cases (kRecvmsg q).1.isErr
    · simp only [Bool.false_eq_true, if_false, true_and]
      split <;> simp only [List.append_assoc] <;> rfl
    · simp only [if_true, Bool.true_eq_false, false_and, if_false, List.append_assoc]; rfl

/-- induction over the rounds: `I` holds before each round (with the fuel left), `J` of the result -/
theorem recvLoop_rule {I : Nat → Nat → Int → σ → List RItem → List REv → Prop} {J : RRes σ → Prop}
    (h0 : ∀ a c s q evs, I 0 a c s q evs → J ⟨s, q, evs, true⟩)
    (hr : ∀ f a c s q evs, I (f + 1) a c s q evs →
      let r := recvRound u a s q c
      (∀ c', r.next = some c' → I f (a + 1) c' r.s r.q (evs ++ r.evs)) ∧ J ⟨r.s, r.q, evs ++ r.evs, false⟩) :
    ∀ f a c s q evs, I f a c s q evs → J (recvLoop u f a c s q evs) := by
  intro f
  induction f with
  | zero => exact h0
  | succ f ih =>
    intro a c s q evs hi
    obtain ⟨h1, h2⟩ := hr f a c s q evs hi
    rw [recvLoop_succ u a s q f c evs rfl]
    cases hn : (recvRound u a s q c).next with
    | none => exact h2
    | some c' => exact ih _ _ _ _ _ (h1 c' hn)

theorem recvRound_next {c' : Int} (h : (recvRound u a s q count).next = some c') :
    0 < c' ∧ c' < count ∧ u.recvSet (recvRound u a s q count).s = true := by
  revert h
  refine recvRound_ind u a s q count (P := fun r => r.next = some c' → 0 < c' ∧ c' < count ∧ u.recvSet r.s = true)
    (fun _ => nofun) (fun _ hl h => ?_) fun _ h => ?_
  · obtain ⟨⟨hne, hpos, _, hs⟩, rfl⟩ := Option.ite_some_none_eq_some.mp h
    have hp : 0 < (recvmmsg u a (u.alloc s).2 (u.alloc s).1 q).nread :=
      Int.lt_of_lt_of_le Int.one_pos ((recvmmsg_nread u a _ hl (u.alloc s).1 q).resolve_left hne)
    refine ⟨hpos, ?_, hs⟩
    rw [mmsgCount, if_pos hp]; exact Int.sub_lt_self _ hp
  · obtain ⟨⟨_, hpos, _, hs⟩, rfl⟩ := Option.ite_some_none_eq_some.mp h
    exact ⟨hpos, Int.sub_lt_self _ Int.one_pos, hs⟩

theorem recvRound_handback : runP ⟨a, .idle⟩ (recvRound u a s q count).evs = some ⟨a + 1, .idle⟩ := by
  refine recvRound_ind u a s q count (P := fun r => runP ⟨a, .idle⟩ r.evs = some ⟨a + 1, .idle⟩)
    (fun h0 => ?_) (fun h0 hl => ?_) fun h0 => ?_
  · simp [refusedRound, runP, pstep, h0]
  · show ((pstep ⟨a, .idle⟩ (.alloc (u.alloc s).2)).bind fun p' => runP p' _) = _
    simp only [pstep, h0, if_false, Option.bind_some]
    exact recvmmsg_handback u a _ hl _ q
  · simp only [plainRound, runP_cons, pstep, h0, if_false, Option.bind_some]
    cases (kRecvmsg q).1 <;> simp [runP, plainArgs, hasChunk, FLAG_CHUNK, FLAG_PARTIAL] <;> (split <;> simp)

theorem recvLoop_handback (hp : runP ⟨0, .idle⟩ evs = some ⟨a, .idle⟩) :
    ∃ n ≤ a + f, runP ⟨0, .idle⟩ (recvLoop u f a count s q evs).evs = some ⟨n, .idle⟩ := by
  refine recvLoop_rule u (I := fun f' a' _ _ _ evs' => a' + f' = a + f ∧ runP ⟨0, .idle⟩ evs' = some ⟨a', .idle⟩)
    (J := fun r => ∃ n ≤ a + f, runP ⟨0, .idle⟩ r.evs = some ⟨n, .idle⟩)
    (fun a' _ _ _ _ h => ⟨a', by omega, h.2⟩) (fun f' a' c' s' q' evs' h => ?_) f a count s q evs ⟨rfl, hp⟩
  have : runP ⟨0, .idle⟩ (evs' ++ (recvRound u a' s' q' c').evs) = some ⟨a' + 1, .idle⟩ := by
    rw [runP_append, h.2]; exact recvRound_handback u a' s' q' c'
  exact ⟨fun _ _ => ⟨by omega, this⟩, a' + 1, by omega, this⟩

theorem recvLoop_terminates (h1 : 0 < count) (h2 : count ≤ f) : (recvLoop u f a count s q evs).spun = false :=
  recvLoop_rule u (I := fun f' _ c' _ _ _ => 0 < c' ∧ c' ≤ f') (J := fun r => r.spun = false)
    (fun _ _ _ _ _ h => by omega)
    (fun f' a' c' s' q' _ h => ⟨fun c'' hn => by have := recvRound_next u a' s' q' c' hn; omega, rfl⟩)
    f a count s q evs ⟨h1, h2⟩

theorem recvLoop_preserves (P : σ → Prop) (hcb : ∀ s a, P s → P (u.cb s a)) (hal : ∀ s, P s → P (u.alloc s).1) (h : P s) :
    P (recvLoop u f a count s q evs).s := by
  refine recvLoop_rule u (I := fun _ _ _ s' _ _ => P s') (J := fun r => P r.s) (fun _ _ _ _ _ h => h)
    (fun f' a' c' s' q' evs' h => ?_) f a count s q evs h
  have : P (recvRound u a' s' q' c').s :=
    recvRound_ind u a' s' q' c' (P := fun r => P r.s) (fun _ => hcb _ _ (hal _ h))
      (fun _ hl => recvmmsg_preserves u a' _ hl _ q' P hcb (hal _ h)) fun _ => hcb _ _ (hal _ h)
  exact ⟨fun _ _ => this, this⟩

theorem recvRound_delivers (hC : NoStopInChunk u) (hA : AllocKeeps u) (hs : u.recvSet s = true)
    (hq : ∀ d ∈ dgsOf q, d.peer ≠ 0) :
    ∃ pre, q = pre ++ (recvRound u a s q count).q ∧ allRel (deliveries (recvRound u a s q count).evs) (dgsOf pre) := by
  have hs' : u.recvSet (u.alloc s).1 = true := by rw [hA]; exact hs
  refine recvRound_ind u a s q count (P := fun r => ∃ pre, q = pre ++ r.q ∧ allRel (deliveries r.evs) (dgsOf pre))
    (fun _ => ⟨[], rfl, allRel_nil⟩) (fun _ hl => ?_) fun _ => ?_
  · obtain ⟨pre, h1, h2⟩ := recvmmsg_delivers u a _ hl (u.alloc s).1 q hC hs' hq
    exact ⟨pre, h1, by simpa [mmsgRound, deliveries] using h2⟩
  · obtain ⟨pre, h1, h2⟩ := kRecvmsg_spec q
    refine ⟨pre, h1, ?_⟩
    rcases h2 with ⟨d, hk, hd⟩ | ⟨e, hk, hd⟩
    · have hpd : d.peer ≠ 0 := by
        apply hq; rw [h1]; simp [hd]
      have : (plainArgs ⟨a, 0, (u.alloc s).2⟩ (.ok [d])).peer = d.peer := rfl
      simp only [plainRound, hk, hd, deliveries, List.filterMap_cons, List.filterMap_nil, this, hpd, ne_eq,
        not_false_eq_true, if_true]
      exact allRel_single (rel_plain a _ d)
    · simp only [plainRound, hk, hd]; exact allRel_nil

theorem recvLoop_delivers (hC : NoStopInChunk u) (hA : AllocKeeps u) (Q : List RItem) (hQ : ∀ d ∈ dgsOf Q, d.peer ≠ 0)
    (hs : u.recvSet s = true) (h : ∃ pre, Q = pre ++ q ∧ allRel (deliveries evs) (dgsOf pre)) :
    ∃ pre, Q = pre ++ (recvLoop u f a count s q evs).q
      ∧ allRel (deliveries (recvLoop u f a count s q evs).evs) (dgsOf pre) := by
  refine recvLoop_rule u
    (I := fun _ _ _ s' q' evs' => u.recvSet s' = true ∧ ∃ pre, Q = pre ++ q' ∧ allRel (deliveries evs') (dgsOf pre))
    (J := fun r => ∃ pre, Q = pre ++ r.q ∧ allRel (deliveries r.evs) (dgsOf pre))
    (fun _ _ _ _ _ h => h.2) (fun f' a' c' s' q' evs' ⟨hs', pre, hpre, hrel⟩ => ?_) f a count s q evs ⟨hs, h⟩
  have hqd : ∀ d ∈ dgsOf q', d.peer ≠ 0 := by
    intro d hd; apply hQ; rw [hpre]; simp [hd]
  obtain ⟨pre2, h1, h2⟩ := recvRound_delivers u a' s' q' c' hC hA hs' hqd
  have hnew : ∃ pre', Q = pre' ++ (recvRound u a' s' q' c').q ∧
      allRel (deliveries (evs' ++ (recvRound u a' s' q' c').evs)) (dgsOf pre') :=
    ⟨pre ++ pre2, by rw [List.append_assoc, ← h1]; exact hpre, by
      rw [deliveries_append, dgsOf_append]; exact allRel_append hrel h2⟩
  exact ⟨fun c'' hn => ⟨(recvRound_next u a' s' q' c' hn).2.2, hnew⟩, hnew⟩

end

end UvModel.Udp
