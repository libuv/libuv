import UvModel.Lemmas.PunyStores
import UvModel.Lemmas.Utf8Lemmas
/-!
  `uv__idna_toascii` apart from its destination: which return codes `label` and `scan` can give
  (`label_rc`, `scan_rc_ind`), ill-formed input is refused (`scan_rejects`), an all-ASCII label is copied
  (`label_ascii`), a label with a non-ASCII code point gets the "xn--" prefix (`label_prefix`), and the
  outer Punycode loop ends within the model's fuel because each pass encodes every occurrence of the
  smallest remaining code point (`cntGE`, `outer_no_fuel`).
-/
namespace UvModel.Puny
open UvModel.Utf8

theorem label_rc (bytes : List Nat) (b : Buf) :
    0 ≤ (label bytes b).1 ∨ (label bytes b).1 = UV_EINVAL ∨ (label bytes b).1 = UV_E2BIG ∨
      (label bytes b).1 = FUEL_OUT := by
  have ho : ∀ fuel cps n s, (outer fuel cps n s).1 = 0 ∨ (outer fuel cps n s).1 = UV_E2BIG ∨
      (outer fuel cps n s).1 = FUEL_OUT := by
    intro fuel
    induction fuel with
    | zero => intro cps n s; right; right; rfl
    | succ f ih =>
      intro cps n s
      unfold outer
      split
      · simp only []
        split
        · right; left; rfl
        · split
          · right; left; rfl
          · exact ih _ _ _
      · left; rfl
  unfold label
  split
  · right; left; rfl
  · simp only []
    split
    · left; exact Int.natCast_nonneg _
    · rcases ho _ _ _ _ with h | h | h
      · left; rw [h]; exact Int.le_refl 0
      · right; right; left; exact h
      · right; right; right; exact h

theorem scan_rejects (acc rest : List Nat) (b : Buf) (hb : Bytes rest) (h : specAll rest = none) :
    (scan acc rest b).1 < 0 := by
  fun_induction scan acc rest b with
  | case1 acc b r h1 => simp [specAll] at h
  | case2 acc b r h1 h2 => simp [specAll] at h
  | case3 acc b r h1 h2 b' => simp [specAll] at h
  | case4 acc b a r n hx => show UV_EINVAL < 0; decide
  | case5 acc b a r c n hx hd ih =>
    have hs := (decode1_iff_spec _ hb c n).mp hx
    rw [specAll, hs] at h
    simp only [Option.map_eq_none_iff] at h
    exact ih (bytes_drop (bytes_cons hb).2 _) h
  | case6 acc b a r c n hx hd res h1 => exact h1
  | case7 acc b a r c n hx hd res h1 ih =>
    have hs := (decode1_iff_spec _ hb c n).mp hx
    rw [specAll, hs] at h
    simp only [Option.map_eq_none_iff] at h
    exact ih (bytes_drop (bytes_cons hb).2 _) h

/-- `hL` knows of a label `acc'` what `label_no_fuel` asks for: where its bytes come from and a bound
    on its length -/
theorem scan_rc_ind {P : Int → Prop} (hE : P UV_EINVAL) (hN : ∀ k : Nat, P k) (acc rest : List Nat) (b : Buf)
    (hL : ∀ acc' b', (∀ x ∈ acc', x ∈ acc ∨ x ∈ rest) → acc'.length ≤ acc.length + rest.length →
      P (label acc' b').1) :
    P (scan acc rest b).1 := by
  fun_induction scan acc rest b with
  | case1 acc b r h1 =>
    have : r = if acc ≠ [] then label acc b else ((0 : Int), b) := rfl
    by_cases hne : acc ≠ []
    · rw [this, if_pos hne]; exact hL acc b (fun x hx => Or.inl hx) (Nat.le_add_right _ _)
    · rw [this, if_neg hne] at h1; exact absurd (show (0 : Int) < 0 from h1) (by decide)
  | case2 acc b r h1 h2 => exact hE
  | case3 acc b r h1 h2 b' => exact hN _
  | case4 acc b a r n hx => exact hE
  | case5 acc b a r c n hx hd ih =>
    refine ih fun acc' b' hm hl => hL acc' b' (fun x hx => ?_) ?_
    · rcases hm x hx with h | h
      · rcases List.mem_append.mp h with h | h
        · exact Or.inl h
        · exact Or.inr (List.mem_of_mem_take h)
      · exact Or.inr (List.mem_cons_of_mem _ (List.mem_of_mem_drop h))
    · simp only [List.length_append, List.length_take, List.length_drop, List.length_cons] at hl ⊢
      omega
  | case6 acc b a r c n hx hd res h1 => exact hL acc b (fun x hx => Or.inl hx) (Nat.le_add_right _ _)
  | case7 acc b a r c n hx hd res h1 ih =>
    refine ih fun acc' b' hm hl => hL acc' b' (fun x hx => ?_) ?_
    · rcases hm x hx with h | h
      · cases h
      · exact Or.inr (List.mem_cons_of_mem _ (List.mem_of_mem_drop h))
    · simp only [List.length_nil, List.length_drop, List.length_cons] at hl ⊢
      omega

theorem scan_rc (acc rest : List Nat) (b : Buf) :
    0 ≤ (scan acc rest b).1 ∨ (scan acc rest b).1 = UV_EINVAL ∨ (scan acc rest b).1 = UV_E2BIG ∨
      (scan acc rest b).1 = FUEL_OUT :=
  scan_rc_ind (P := fun rc => 0 ≤ rc ∨ rc = UV_EINVAL ∨ rc = UV_E2BIG ∨ rc = FUEL_OUT) (Or.inr (Or.inl rfl))
    (fun k => Or.inl (Int.natCast_nonneg k)) acc rest b fun acc' b' _ _ => label_rc acc' b'

theorem decodeAll_ascii (l : List Nat) (h : ∀ x ∈ l, x < 128) : decodeAll l = some l := by
  induction l with
  | nil => rw [decodeAll]
  | cons a r ih =>
    have ha : a < 128 := h a (by simp)
    rw [decodeAll]
    simp only [decode1, if_pos ha, Nat.sub_self, List.drop_zero]
    rw [ih (fun x hx => h x (by simp [hx]))]; rfl

theorem toNat_toUInt32 {v : Nat} (h : v < 4294967296) : v.toUInt32.toNat = v := by
  simp only [Nat.toUInt32, UInt32.toNat_ofNat']
  exact Nat.mod_eq_of_lt h

theorem u32_lt128 (a : Nat) (h : a < 128) : a.toUInt32 < 128 := by
  rw [UInt32.lt_iff_toNat_lt, toNat_toUInt32 (by omega)]
  exact h

def AsciiCps (cps : List UInt32) : Prop := ∀ c ∈ cps, c < 128

theorem countLoop_ascii (cps : List UInt32) (hc : AsciiCps cps) (h todo : UInt32) :
    countLoop cps h todo = (h + UInt32.ofNat cps.length, todo) := by
  induction cps generalizing h with
  | nil => simp [countLoop]
  | cons c cs ih =>
    rw [countLoop, if_pos (hc c (by simp)), ih (fun x hx => hc x (by simp [hx]))]
    congr 1
    apply UInt32.toNat_inj.mp
    simp only [UInt32.toNat_add, UInt32.toNat_ofNat', List.length_cons, UInt32.toNat_one]
    omega

theorem writeAscii_ascii (cs : List UInt32) (hc : AsciiCps cs) (x h : UInt32) (b : Buf)
    (hh : h.toNat = x.toNat + cs.length) (hlt : x.toNat + cs.length < 4294967296) :
    writeAscii cs x h b = putAll b (cs.map UInt32.toNat) := by
  induction cs generalizing x b with
  | nil => rfl
  | cons c cs ih =>
    have hc1 : ¬ c > 127 := by
      have := hc c (by simp)
      rw [UInt32.lt_iff_toNat_lt] at this
      rw [gt_iff_lt, UInt32.lt_iff_toNat_lt]
      have e1 : (128 : UInt32).toNat = 128 := rfl
      have e2 : (127 : UInt32).toNat = 127 := rfl
      omega
    rw [writeAscii, if_neg hc1]
    simp only [List.length_cons] at hh hlt
    have hx1 : (x + 1).toNat = x.toNat + 1 := by
      rw [UInt32.toNat_add, UInt32.toNat_one]; omega
    simp only []
    by_cases he : x + 1 = h
    · rw [if_pos he]
      have : cs = [] := by
        have := congrArg UInt32.toNat he
        rw [hx1, hh] at this
        exact List.eq_nil_of_length_eq_zero (by omega)
      subst this; rfl
    · rw [if_neg he, ih (fun y hy => hc y (by simp [hy])) (x + 1) (b.put c.toNat) (by omega) (by omega)]
      rfl

theorem map_toNat_toUInt32 (l : List Nat) (h : ∀ x ∈ l, x < 128) :
    (l.map Nat.toUInt32).map UInt32.toNat = l := by
  induction l with
  | nil => rfl
  | cons a r ih =>
    have ha := h a (by simp)
    rw [List.map_cons, List.map_cons, ih (fun x hx => h x (by simp [hx])), toNat_toUInt32 (by omega)]

theorem label_ascii (bytes : List Nat) (b : Buf) (h : ∀ x ∈ bytes, x < 128)
    (hlen : bytes.length < 4294967296) :
    label bytes b = ((bytes.length : Int), putAll b bytes) := by
  have hc : AsciiCps (bytes.map Nat.toUInt32) := by
    intro c hcm
    obtain ⟨a, ha, rfl⟩ := List.mem_map.mp hcm
    exact u32_lt128 a (h a ha)
  unfold label
  rw [decodeAll_ascii bytes h]
  simp only [countLoop_ascii _ hc, List.length_map]
  have h0 : (0 : UInt32) + UInt32.ofNat bytes.length = UInt32.ofNat bytes.length := by
    apply UInt32.toNat_inj.mp; simp
  have hn : (UInt32.ofNat bytes.length).toNat = bytes.length := by
    rw [UInt32.toNat_ofNat']; show bytes.length % 4294967296 = _; omega
  rw [h0, if_pos trivial, if_neg (by decide), hn,
    writeAscii_ascii _ hc 0 _ b (by rw [hn]; simp) (by simpa using hlen), map_toNat_toUInt32 bytes h]

/-- code points `≥ n` still to be encoded -/
def cntGE (n : UInt32) (cps : List UInt32) : Nat := cps.countP (fun c => decide (n.toNat ≤ c.toNat))

theorem countLoop_todo (cps : List UInt32) (h todo : UInt32)
    (hlt : todo.toNat + cps.length < 4294967296) :
    (countLoop cps h todo).2.toNat = todo.toNat + cntGE 128 cps := by
  induction cps generalizing h todo with
  | nil => rfl
  | cons c cs ih =>
    simp only [List.length_cons] at hlt
    rw [countLoop, cntGE]
    by_cases hc : c < 128
    · rw [if_pos hc, ih _ _ (by omega), cntGE, List.countP_cons_of_neg (by
        rw [decide_eq_true_eq]; exact Nat.not_le.mpr (UInt32.lt_iff_toNat_lt.mp hc))]
    · have h1 : (todo + 1).toNat = todo.toNat + 1 := by
        rw [UInt32.toNat_add, UInt32.toNat_one]; omega
      rw [if_neg hc, ih _ _ (by omega), h1, cntGE, List.countP_cons_of_pos (by
        rw [decide_eq_true_eq]; exact Nat.not_lt.mp fun h => hc (UInt32.lt_iff_toNat_lt.mpr h))]
      omega

theorem label_prefix (bytes : List Nat) (b : Buf) (hb : Bytes bytes) (vs : List Nat)
    (hs : specAll bytes = some vs) (hn : ∃ v ∈ vs, 128 ≤ v) (hlen : vs.length < 4294967296) :
    ((((b.put 120).put 110).put 45).put 45).out <+: (label bytes b).2.out := by
  have hle := specAll_le bytes hb vs hs
  unfold label
  rw [decodeAll_eq_specAll bytes hb, hs]
  simp only []
  generalize hcl : countLoop (vs.map Nat.toUInt32) 0 0 = p
  obtain ⟨h, todo⟩ := p
  have htodo : todo > 0 := by
    have := countLoop_todo (vs.map Nat.toUInt32) 0 0 (by simpa using hlen)
    rw [hcl] at this
    obtain ⟨v, hv, hv128⟩ := hn
    have hpos : 0 < cntGE 128 (vs.map Nat.toUInt32) :=
      List.countP_pos_iff.mpr ⟨v.toUInt32, List.mem_map.mpr ⟨v, hv, rfl⟩, by
        rw [decide_eq_true_eq, toNat_toUInt32 (by have := hle v hv; omega)]; exact hv128⟩
    refine UInt32.lt_iff_toNat_lt.mpr ?_
    rw [this]
    exact Nat.lt_add_left _ hpos
  simp only [if_pos htodo]
  generalize (((b.put 120).put 110).put 45).put 45 = b1
  have hw := writeAscii_par (vs.map Nat.toUInt32) 0 h (Par.refl b1 b1)
  split
  · exact hw.cap_prefix_le.2.1
  · split
    · exact (outer_par _ _ _ ⟨rfl, rfl, rfl, rfl, rfl, hw.put 45⟩).2.cap_prefix_le.2.1
    · exact (outer_par _ _ _ ⟨rfl, rfl, rfl, rfl, rfl, hw⟩).2.cap_prefix_le.2.1

theorem minGE_spec (n : UInt32) (cps : List UInt32) (m0 : UInt32) :
    (minGE n cps m0).toNat ≤ m0.toNat ∧
    (∀ c ∈ cps, n.toNat ≤ c.toNat → (minGE n cps m0).toNat ≤ c.toNat) ∧
    (minGE n cps m0 = m0 ∨ (minGE n cps m0 ∈ cps ∧ n.toNat ≤ (minGE n cps m0).toNat)) := by
  induction cps generalizing m0 with
  | nil => exact ⟨Nat.le_refl _, fun c hc => absurd hc (by simp), Or.inl rfl⟩
  | cons c cs ih =>
    rw [minGE]
    by_cases hc : c ≥ n ∧ c < m0
    · rw [if_pos hc]
      obtain ⟨i1, i2, i3⟩ := ih c
      have h1 := UInt32.le_iff_toNat_le.mp hc.1
      have h2 := UInt32.lt_iff_toNat_lt.mp hc.2
      refine ⟨by omega, fun x hx hn => ?_, ?_⟩
      · rcases List.mem_cons.mp hx with rfl | hx
        · exact i1
        · exact i2 x hx hn
      · rcases i3 with e | ⟨e1, e2⟩
        · right; rw [e]; exact ⟨by simp, h1⟩
        · right; exact ⟨List.mem_cons_of_mem _ e1, e2⟩
    · rw [if_neg hc]
      obtain ⟨i1, i2, i3⟩ := ih m0
      refine ⟨i1, fun x hx hn => ?_, ?_⟩
      · rcases List.mem_cons.mp hx with rfl | hx
        · have : ¬ x < m0 := fun h => hc ⟨UInt32.le_iff_toNat_le.mpr hn, h⟩
          have : ¬ x.toNat < m0.toNat := fun h => this (UInt32.lt_iff_toNat_lt.mpr h)
          omega
        · exact i2 x hx hn
      · rcases i3 with e | ⟨e1, e2⟩
        · left; exact e
        · right; exact ⟨List.mem_cons_of_mem _ e1, e2⟩

theorem inner_todo (m : UInt32) (cps : List UInt32) (s : St) (h : cps.count m ≤ s.todo.toNat)
    (hov : (inner m cps s).2 = false) :
    (inner m cps s).1.todo.toNat = s.todo.toNat - cps.count m := by
  induction cps generalizing s with
  | nil => simp [inner]
  | cons c cs ih =>
    rw [inner] at hov ⊢
    simp only [] at hov ⊢
    generalize (if c < m then s.delta + 1 else s.delta) = d1 at hov ⊢
    by_cases c1 : c < m ∧ d1 = 0
    · rw [if_pos c1] at hov; cases hov
    · rw [if_neg c1] at hov ⊢
      by_cases c2 : c ≠ m
      · rw [if_pos c2] at hov ⊢
        rw [List.count_cons_of_ne c2] at h ⊢
        exact ih _ h hov
      · rw [if_neg c2] at hov ⊢
        rw [Classical.not_not.mp c2, List.count_cons_self] at h ⊢
        have h1 : (1 : UInt32) ≤ s.todo := UInt32.le_iff_toNat_le.mpr (by
          have : (1 : UInt32).toNat = 1 := rfl
          omega)
        have hs : (s.todo - 1).toNat = s.todo.toNat - 1 := by
          rw [UInt32.toNat_sub_of_le _ _ h1]; rfl
        have := ih _ (by simp only []; omega) hov
        rw [this]; simp only []; omega

theorem cnt_split (n m : UInt32) (cps : List UInt32) (hnm : n.toNat ≤ m.toNat)
    (hmin : ∀ c ∈ cps, n.toNat ≤ c.toNat → m.toNat ≤ c.toNat) (hm : m.toNat + 1 < 4294967296) :
    cntGE n cps = cps.count m + cntGE (m + 1) cps := by
  have hm1 : (m + 1).toNat = m.toNat + 1 := by
    rw [UInt32.toNat_add, UInt32.toNat_one]; omega
  induction cps with
  | nil => rfl
  | cons c cs ih =>
    have := ih (fun x hx => hmin x (List.mem_cons_of_mem _ hx))
    have hc := hmin c (by simp)
    simp only [cntGE, List.countP_cons, List.count_cons, decide_eq_true_eq, beq_iff_eq, hm1,
      ← UInt32.toNat_inj] at this ⊢
    rw [this]
    repeat' split
    all_goals omega

theorem outer_no_fuel (fuel : Nat) (cps : List UInt32) (n : UInt32) (s : St)
    (hc : ∀ c ∈ cps, c.toNat + 1 < 4294967295) (ht : s.todo.toNat = cntGE n cps)
    (hf : cntGE n cps < fuel) : (outer fuel cps n s).1 ≠ FUEL_OUT := by
  induction fuel generalizing n s with
  | zero => omega
  | succ f ih =>
    rw [outer]
    by_cases c1 : s.todo > 0
    · rw [if_pos c1]
      simp only []
      have hpos : 0 < cntGE n cps := by
        have := UInt32.lt_iff_toNat_lt.mp c1
        have h0 : (0 : UInt32).toNat = 0 := rfl
        omega
      obtain ⟨x, hx, hxn⟩ := List.countP_pos_iff.mp hpos
      simp only [decide_eq_true_eq] at hxn
      obtain ⟨m1, m2, m3⟩ := minGE_spec n cps 0xFFFFFFFF
      generalize minGE n cps 0xFFFFFFFF = m at m1 m2 m3 ⊢
      have hmx := m2 x hx hxn
      have hxlt := hc x hx
      have hmem : m ∈ cps ∧ n.toNat ≤ m.toNat := by
        rcases m3 with e | e
        · rw [e] at hmx
          have : (0xFFFFFFFF : UInt32).toNat = 4294967295 := rfl
          omega
        · exact e
      by_cases c2 : m - n > (~~~ s.delta) / (s.h + 1)
      · rw [if_pos c2]; show UV_E2BIG ≠ FUEL_OUT; decide
      · rw [if_neg c2]
        have hsplit := cnt_split n m cps hmem.2 m2 (by have := hc m hmem.1; omega)
        have heq1 : 1 ≤ cps.count m := List.one_le_count_iff.mpr hmem.1
        have htodo := inner_todo m cps { s with delta := s.delta + (m - n) * (s.h + 1) }
          (by simp only []; omega)
        cases hov : (inner m cps { s with delta := s.delta + (m - n) * (s.h + 1) }).2 with
        | true => show UV_E2BIG ≠ FUEL_OUT; decide
        | false =>
          simp only [Bool.false_eq_true, if_false]
          apply ih
          · simp only []; rw [htodo hov]; simp only []; omega
          · omega
    · rw [if_neg c1]; show (0 : Int) ≠ FUEL_OUT; decide

theorem label_no_fuel (bytes : List Nat) (b : Buf) (hb : Bytes bytes) (hlen : bytes.length < 4294967296) :
    (label bytes b).1 ≠ FUEL_OUT := by
  unfold label
  rw [decodeAll_eq_specAll bytes hb]
  cases hs : specAll bytes with
  | none => show UV_EINVAL ≠ FUEL_OUT; decide
  | some vs =>
    simp only []
    have hle := specAll_le bytes hb vs hs
    have hvl := specAll_length bytes vs hs
    have hct := countLoop_todo (vs.map Nat.toUInt32) 0 0 (by
      rw [List.length_map]; show 0 + vs.length < 4294967296; omega)
    generalize countLoop (vs.map Nat.toUInt32) 0 0 = p at hct ⊢
    obtain ⟨h, todo⟩ := p
    simp only [] at hct ⊢
    by_cases c1 : todo = 0
    · simp only [if_pos c1]
      exact fun hcon => absurd (hcon ▸ Int.natCast_nonneg h.toNat) (by decide)
    · simp only [if_neg c1]
      apply outer_no_fuel
      · intro c hc
        obtain ⟨v, hv, rfl⟩ := List.mem_map.mp hc
        have := hle v hv
        rw [toNat_toUInt32 (by omega)]
        omega
      · exact hct.trans (Nat.zero_add _)
      · have := List.countP_le_length (p := fun c : UInt32 => decide ((128 : UInt32).toNat ≤ c.toNat))
          (l := vs.map Nat.toUInt32)
        simp only [cntGE]; omega

theorem scan_no_fuel (acc rest : List Nat) (b : Buf) (ha : Bytes acc) (hr : Bytes rest)
    (hlen : acc.length + rest.length < 4294967296) : (scan acc rest b).1 ≠ FUEL_OUT :=
  scan_rc_ind (P := (· ≠ FUEL_OUT)) (by decide) (fun k h => absurd (h ▸ Int.natCast_nonneg k) (by decide))
    acc rest b fun acc' b' hm hl =>
      label_no_fuel acc' b' (fun x hx => (hm x hx).elim (ha x) (hr x)) (by omega)
end UvModel.Puny
