import UvModel.Heap
/-!
  Order facts are stated through the total getter `g`; `lt x y = false` reads "y ≤ x" (the model's
  `timer_less_than` is a strict total preorder on `(timeout, startId)`).  Heap order with one position
  excepted is `UpInv` (the sift-up loop may run from there) or `DownInv` (the sift-down loop may): `push_upInv` and
  `detach_downInv` establish them, `siftDown_upInv` turns the second into the first, `siftUp_inv` ends in `Inv`.
-/
namespace UvModel.Heap

theorem lt_eq_true_iff (x y : Ent) :
    lt x y = true ↔ (x.timeout < y.timeout ∨ (x.timeout = y.timeout ∧ x.startId < y.startId)) := by
  unfold lt
  split
  · simp; omega
  · split
    · simp; omega
    · simp; omega

theorem lt_eq_false_iff (x y : Ent) :
    lt x y = false ↔ (y.timeout < x.timeout ∨ (y.timeout = x.timeout ∧ y.startId ≤ x.startId)) := by
  rw [← Bool.not_eq_true, lt_eq_true_iff]; omega

theorem lt_irrefl (x : Ent) : lt x x = false := by
  rw [lt_eq_false_iff]; omega

theorem lt_asymm {x y : Ent} (h : lt x y = true) : lt y x = false := by
  rw [lt_eq_true_iff] at h; rw [lt_eq_false_iff]; omega

/-- transitivity of `≤`: `y ≤ x → z ≤ y → z ≤ x` -/
theorem lt_false_trans {x y z : Ent} (h1 : lt x y = false) (h2 : lt y z = false) : lt x z = false := by
  rw [lt_eq_false_iff] at *; omega

theorem parent_lt {k : Nat} (h : 0 < k) : (k - 1) / 2 < k := by omega

theorem parent_lt_of_lt {k n : Nat} (h : k < n) : (k - 1) / 2 < n :=
  Nat.lt_of_le_of_lt (Nat.le_trans (Nat.div_le_self _ _) (Nat.sub_le _ _)) h

theorem parent_left (p : Nat) : (2 * p + 1 - 1) / 2 = p := by simp

theorem parent_right (p : Nat) : (2 * p + 2 - 1) / 2 = p := by omega

theorem g_swap (a : H) (i j k : Nat) (hi : i < a.size) (hj : j < a.size) :
    g (swap a i j) k = if k = j then g a i else if k = i then g a j else g a k := by
  unfold swap g
  rw [dif_pos ⟨hi, hj⟩]
  simp only [Array.getD_eq_getD_getElem?, Array.getElem?_swap]
  by_cases h1 : j = k
  · subst h1; simp [hi]
  · by_cases h2 : i = k
    · subst h2; simp [h1, hj, Ne.symm h1]
    · simp [h1, h2, Ne.symm h1, Ne.symm h2]

variable (a : H)

theorem g_eq_getElem (i : Nat) (hi : i < a.size) : g a i = a[i] := by
  unfold g; simp [hi]

theorem g_push_lt (x : Ent) (k : Nat) (hk : k < a.size) : g (a.push x) k = g a k := by
  unfold g
  simp only [Array.getD_eq_getD_getElem?, Array.getElem?_push]
  rw [if_neg (by omega)]

theorem g_pop {k : Nat} (hk : k < a.size - 1) : g a.pop k = g a k := by
  unfold g
  simp only [Array.getD_eq_getD_getElem?, Array.getElem?_pop, if_pos hk]

theorem g_push_size (x : Ent) : g (a.push x) a.size = x := by
  simp [g]
theorem g_setpop (i : Nat) (v : Ent) (k : Nat) (hk : k < a.size - 1) :
    g ((a.setIfInBounds i v).pop) k = if k = i then v else g a k := by
  unfold g
  simp only [Array.getD_eq_getD_getElem?, Array.getElem?_pop, Array.size_setIfInBounds,
    Array.getElem?_setIfInBounds]
  rw [if_pos hk]
  by_cases h : i = k
  · subst h; rw [if_pos rfl, if_pos (by omega), if_pos rfl]; rfl
  · rw [if_neg h, if_neg (Ne.symm h)]

@[simp] theorem siftUp_size (i : Nat) : (siftUp a i).size = a.size := by
  fun_induction siftUp a i with
  | case1 a => rfl
  | case2 a i h p hlt ih => simpa using ih
  | case3 a i h p hlt => rfl

@[simp] theorem siftDown_size (i : Nat) : (siftDown a i).1.size = a.size := by
  fun_induction siftDown a i with
  | case1 a i h => rfl
  | case2 a i h ih => simpa using ih

theorem siftDown_pos_lt (i : Nat) (hi : i < a.size) : (siftDown a i).2 < a.size := by
  fun_induction siftDown a i with
  | case1 a i h => exact hi
  | case2 a i h ih =>
    have := smallest_cases a i
    simpa using ih (by simp only [swap_size]; omega)

theorem swap_perm (i j : Nat) : (swap a i j).toList.Perm a.toList := by
  unfold swap
  split
  · rename_i h
    exact Array.perm_iff_toList_perm.mp (Array.swap_perm h.1 h.2)
  · exact List.Perm.refl _

theorem siftUp_perm (i : Nat) : (siftUp a i).toList.Perm a.toList := by
  fun_induction siftUp a i with
  | case1 a => exact List.Perm.refl _
  | case2 a i h p hlt ih => exact ih.trans (swap_perm a i p)
  | case3 a i h p hlt => exact List.Perm.refl _

theorem siftDown_perm (i : Nat) : (siftDown a i).1.toList.Perm a.toList := by
  fun_induction siftDown a i with
  | case1 a i h => exact List.Perm.refl _
  | case2 a i h ih => exact ih.trans (swap_perm a i (smallest a i))

/-- Heap order holds everywhere except possibly between `i` and its parent, and the
    children of `i` are ≥ the parent of `i`. -/
def UpInv (i : Nat) : Prop :=
  (∀ k, 0 < k → k < a.size → k ≠ i → lt (g a k) (g a ((k - 1) / 2)) = false) ∧
  (∀ c, 0 < c → c < a.size → (c - 1) / 2 = i → 0 < i →
      lt (g a c) (g a ((i - 1) / 2)) = false)

theorem siftUp_inv (i : Nat) (hi : i < a.size) (h : UpInv a i) : Inv (siftUp a i) := by
  fun_induction siftUp a i with
  | case1 a =>
    intro k hk0 hk
    exact h.1 k hk0 hk (Nat.ne_of_gt hk0)
  | case2 a i hi0 p hlt ih =>
    have hi0 := Nat.pos_of_ne_zero hi0
    have hp : p < a.size := parent_lt_of_lt hi
    have hpi : p < i := parent_lt hi0
    apply ih (by simpa using hp)
    obtain ⟨h1, h2⟩ := h
    refine ⟨?_, ?_⟩
    · intro k hk0 hk hkp
      rw [swap_size] at hk
      rw [g_swap a i p _ hi hp, g_swap a i p _ hi hp]
      rw [if_neg hkp]
      by_cases hki : k = i
      · subst hki
        rw [if_pos rfl, if_pos rfl]
        exact lt_asymm hlt
      · rw [if_neg hki]
        by_cases hpp : (k - 1) / 2 = p
        · rw [if_pos hpp]
          have := h1 k hk0 hk hki
          rw [hpp] at this
          exact lt_false_trans this (lt_asymm hlt)
        · rw [if_neg hpp]
          by_cases hpi : (k - 1) / 2 = i
          · rw [if_pos hpi]
            exact h2 k hk0 hk hpi hi0
          · rw [if_neg hpi]
            exact h1 k hk0 hk hki
    · intro c hc0 hc hcp hp0
      rw [swap_size] at hc
      rw [g_swap a i p _ hi hp, g_swap a i p _ hi hp]
      have hpp : lt (g a p) (g a ((p - 1) / 2)) = false := h1 p hp0 hp (Nat.ne_of_lt hpi)
      rw [if_neg (Nat.ne_of_lt (parent_lt hp0)), if_neg (Nat.ne_of_lt (Nat.lt_trans (parent_lt hp0) hpi)),
        if_neg (Nat.ne_of_gt (hcp ▸ parent_lt hc0))]
      by_cases hci : c = i
      · rw [if_pos hci]; exact hpp
      · rw [if_neg hci]
        have := h1 c hc0 hc hci
        rw [hcp] at this
        exact lt_false_trans this hpp
  | case3 a i hi0 p hlt =>
    intro k hk0 hk
    by_cases hki : k = i
    · subst hki
      simpa using hlt
    · exact h.1 k hk0 hk hki

/-- one comparison of `smallest` (heap-inl.h:222-225): the candidate `r` replaces `s` if it is in range and less -/
def pick (s r : Nat) : Nat := if r < a.size ∧ lt (g a r) (g a s) = true then r else s

theorem smallest_eq_pick (i : Nat) : smallest a i = pick a (pick a i (2 * i + 1)) (2 * i + 2) := rfl

theorem pick_lt {s : Nat} (r : Nat) (hs : s < a.size) : pick a s r < a.size := by
  unfold pick; split
  · rename_i h; exact h.1
  · exact hs

theorem pick_le_left (s r : Nat) : lt (g a s) (g a (pick a s r)) = false := by
  unfold pick; split
  · rename_i h; exact lt_asymm h.2
  · exact lt_irrefl _

theorem pick_le_right (s : Nat) {r : Nat} (hr : r < a.size) : lt (g a r) (g a (pick a s r)) = false := by
  unfold pick; split
  · exact lt_irrefl _
  · rename_i h; exact Bool.eq_false_iff.2 fun e => h ⟨hr, e⟩

theorem smallest_le_self (i : Nat) : lt (g a i) (g a (smallest a i)) = false :=
  lt_false_trans (pick_le_left a i _) (pick_le_left a _ _)

theorem smallest_le_child (i c : Nat) (hc0 : 0 < c) (hc : c < a.size)
    (hpc : (c - 1) / 2 = i) : lt (g a c) (g a (smallest a i)) = false := by
  obtain rfl | rfl : c = 2 * i + 1 ∨ c = 2 * i + 2 := by omega
  · exact lt_false_trans (pick_le_right a i hc) (pick_le_left a _ _)
  · exact pick_le_right a _ hc

/-- Heap order holds everywhere except possibly between `i` and its parent and between
    `i` and its children, and the children of `i` are ≥ the parent of `i`. -/
def DownInv (i : Nat) : Prop :=
  (∀ k, 0 < k → k < a.size → k ≠ i → (k - 1) / 2 ≠ i →
      lt (g a k) (g a ((k - 1) / 2)) = false) ∧
  (∀ c, 0 < c → c < a.size → (c - 1) / 2 = i → 0 < i →
      lt (g a c) (g a ((i - 1) / 2)) = false)

/-- `siftDown` establishes exactly the precondition of `siftUp` at its final position. -/
theorem siftDown_upInv (i : Nat) (hi : i < a.size) (h : DownInv a i) :
    UpInv (siftDown a i).1 (siftDown a i).2 := by
  fun_induction siftDown a i with
  | case1 a i hs =>
    obtain ⟨h1, h2⟩ := h
    refine ⟨?_, h2⟩
    intro k hk0 hk hki
    by_cases hpk : (k - 1) / 2 = i
    · have := smallest_le_child a i k hk0 hk hpk
      rw [hs] at this
      rw [hpk]; exact this
    · exact h1 k hk0 hk hki hpk
  | case2 a i hs ih =>
    have hcases := smallest_cases a i
    have hself := smallest_le_self a i
    have hchild := smallest_le_child a i
    generalize smallest a i = s at *
    obtain ⟨hs1, hps, hs0⟩ : s < a.size ∧ (s - 1) / 2 = i ∧ 0 < s := by
      rcases hcases with e | ⟨e, hlt⟩ | ⟨e, hlt⟩
      · exact absurd e hs
      · exact e ▸ ⟨hlt, parent_left i, Nat.succ_pos _⟩
      · exact e ▸ ⟨hlt, parent_right i, Nat.succ_pos _⟩
    have his : i < s := hps ▸ parent_lt hs0
    apply ih (by simpa using hs1)
    obtain ⟨h1, h2⟩ := h
    refine ⟨?_, ?_⟩
    · intro k hk0 hk hks hpks
      rw [swap_size] at hk
      rw [g_swap a i s _ hi hs1, g_swap a i s _ hi hs1]
      rw [if_neg hks, if_neg hpks]
      by_cases hki : k = i
      · subst hki
        rw [if_pos rfl, if_neg (Nat.ne_of_lt (parent_lt hk0))]
        exact h2 s hs0 hs1 hps hk0
      · rw [if_neg hki]
        by_cases hpk : (k - 1) / 2 = i
        · rw [if_pos hpk]
          exact hchild k hk0 hk hpk
        · rw [if_neg hpk]
          exact h1 k hk0 hk hki hpk
    · intro c hc0 hc hpc _
      have hsc : s < c := hpc ▸ parent_lt hc0
      have hci := Nat.ne_of_gt (Nat.lt_trans his hsc)
      rw [swap_size] at hc
      rw [g_swap a i s _ hi hs1, g_swap a i s _ hi hs1]
      rw [if_neg (Nat.ne_of_lt (parent_lt hs0)), if_pos hps, if_neg (Nat.ne_of_gt hsc), if_neg hci]
      have := h1 c hc0 hc hci (hpc ▸ Nat.ne_of_gt his)
      rw [hpc] at this
      exact this

theorem remove_of_last (i : Nat) (hi : i < a.size) (hl : i = a.size - 1) :
    remove a i = a.pop := by
  unfold remove
  rw [if_neg (by omega), if_neg (by omega)]
  simp only []
  rw [if_pos hl]

theorem remove_of_lt (i : Nat) (hi : i < a.size - 1) :
    remove a i =
      siftUp (siftDown ((a.setIfInBounds i (g a (a.size - 1))).pop) i).1
             (siftDown ((a.setIfInBounds i (g a (a.size - 1))).pop) i).2 := by
  unfold remove
  rw [if_neg (by omega), if_neg (by omega)]
  simp only []
  rw [if_neg (by omega)]

theorem toList_perm_pop (b : H) (h : 0 < b.size) :
    b.toList.Perm (g b (b.size - 1) :: b.pop.toList) := by
  have hne : b.toList ≠ [] := by
    intro e; rw [← Array.length_toList, e] at h; exact Nat.lt_irrefl _ h
  have hcat := List.dropLast_concat_getLast hne
  have hlast : b.toList.getLast hne = g b (b.size - 1) := by
    rw [List.getLast_eq_getElem, g_eq_getElem b (b.size - 1) (by omega)]
    simp
  rw [hlast] at hcat
  rw [Array.toList_pop]
  exact (List.Perm.of_eq hcat.symm).trans (List.perm_append_singleton _ _)

/-- the detach step of `heap_remove`: overwrite `i` with the last element and drop the last
    slot = swap `i` with the last slot, then drop it -/
theorem setpop_eq_swap_pop (i : Nat) (hi : i < a.size - 1) :
    (a.setIfInBounds i (g a (a.size - 1))).pop = (swap a i (a.size - 1)).pop := by
  have hl : a.size - 1 < a.size := by omega
  have hi' : i < a.size := by omega
  apply Array.ext_getElem?
  intro k
  unfold swap
  rw [dif_pos ⟨hi', hl⟩]
  simp only [Array.getElem?_pop, Array.size_setIfInBounds, Array.size_swap,
    Array.getElem?_setIfInBounds, Array.getElem?_swap, g_eq_getElem a _ hl]
  by_cases hk : k < a.size - 1
  · rw [if_pos hk, if_pos hk, if_neg (show ¬ a.size - 1 = k by omega), if_pos hi']
  · rw [if_neg hk, if_neg hk]

theorem detach_perm (i : Nat) (hi : i < a.size - 1) :
    a.toList.Perm (g a i :: ((a.setIfInBounds i (g a (a.size - 1))).pop).toList) := by
  have hl : a.size - 1 < a.size := by omega
  have hi' : i < a.size := by omega
  rw [setpop_eq_swap_pop a i hi]
  have h1 := toList_perm_pop (swap a i (a.size - 1)) (by simpa using (show 0 < a.size by omega))
  rw [swap_size, g_swap a i (a.size - 1) _ hi' hl, if_pos rfl] at h1
  exact (swap_perm a i (a.size - 1)).symm.trans h1

theorem detach_downInv (i : Nat) (hi : i < a.size - 1) (h : Inv a) :
    DownInv ((a.setIfInBounds i (g a (a.size - 1))).pop) i := by
  have hlt : ∀ {k}, k < a.size - 1 → k < a.size := fun hk => Nat.lt_of_lt_of_le hk (Nat.sub_le _ _)
  refine ⟨?_, ?_⟩
  · intro k hk0 hk hki hpk
    simp only [Array.size_pop, Array.size_setIfInBounds] at hk
    rw [g_setpop a i _ k hk, g_setpop a i _ _ (parent_lt_of_lt hk), if_neg hki, if_neg hpk]
    exact h k hk0 (hlt hk)
  · intro c hc0 hc hpc hi0
    simp only [Array.size_pop, Array.size_setIfInBounds] at hc
    rw [g_setpop a i _ c hc, g_setpop a i _ _ (parent_lt_of_lt hi),
      if_neg (Nat.ne_of_gt (hpc ▸ parent_lt hc0)), if_neg (Nat.ne_of_lt (parent_lt hi0))]
    have h1 := h c hc0 (hlt hc)
    rw [hpc] at h1
    exact lt_false_trans h1 (h i hi0 (hlt hi))

theorem push_upInv (x : Ent) (h : Inv a) : UpInv (a.push x) a.size := by
  refine ⟨?_, ?_⟩
  · intro k hk0 hk hks
    rw [Array.size_push] at hk
    have hk : k < a.size := Nat.lt_of_le_of_ne (Nat.le_of_lt_succ hk) hks
    rw [g_push_lt a x k hk, g_push_lt a x _ (parent_lt_of_lt hk)]
    exact h k hk0 hk
  · intro c hc0 hc hpc hs0
    rw [Array.size_push] at hc
    exact absurd (hpc ▸ parent_lt hc0) (Nat.not_lt.2 (Nat.le_of_lt_succ hc))

end UvModel.Heap
