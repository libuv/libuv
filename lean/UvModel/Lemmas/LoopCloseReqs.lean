import UvModel.Lemmas.LoopSilence
/-!
  Requests attached to a closing handle: `uv__finish_close` reports each of them exactly once, in queue order,
  completed ones with their status and queued ones with UV_ECANCELED, and then runs the close callback.
  Callbacks cannot touch the request queues of a handle that carries UV_HANDLE_CLOSING (`FrzRel`).
  This module follows `udpRunCompletedLoop`, `udpRunCompleted`, `streamDestroy`, `finishClose` and `runCb` by
  unfolding them: it needs the exact list of callback lines each of them emits (`TrCb`), and which one handle's
  queues a step touches (`FrzRel` for the other handles), neither of which the step relations of `LoopPhaseSteps` record.
-/
namespace UvModel.Loop
open UvModel.HandleKernels

def cbOf : Event → Option (CbKind × Nat × Int)
  | .cb _ k i a _ => some (k, i, a)
  | _ => none
def cbsOf (new : List Event) : List (CbKind × Nat × Int) := new.reverse.filterMap cbOf

/-- the trace grows by a segment whose callback events are exactly `l` -/
def TrCb (s s' : State) (l : List (CbKind × Nat × Int)) : Prop := ∃ new, s'.trace = new ++ s.trace ∧ cbsOf new = l

theorem TrCb.refl (s : State) : TrCb s s [] := ⟨[], rfl, rfl⟩
theorem TrCb.of_eq {s s' : State} (h : s'.trace = s.trace) : TrCb s s' [] := ⟨[], by simpa using h, rfl⟩
theorem TrCb.trans {a b c : State} {l1 l2 : List (CbKind × Nat × Int)} (h1 : TrCb a b l1) (h2 : TrCb b c l2) :
    TrCb a c (l1 ++ l2) := by
  obtain ⟨n1, e1, c1⟩ := h1
  obtain ⟨n2, e2, c2⟩ := h2
  refine ⟨n2 ++ n1, by rw [e2, e1, List.append_assoc], ?_⟩
  simp only [cbsOf, List.reverse_append, List.filterMap_append] at c1 c2 ⊢
  rw [c1, c2]

theorem TrCb.tr_r {a b c : State} {l : List (CbKind × Nat × Int)} (h1 : TrCb a b l) (h2 : TrCb b c []) : TrCb a c l := by
  simpa using h1.trans h2
theorem TrCb.tr_l {a b c : State} {l : List (CbKind × Nat × Int)} (h1 : TrCb a b []) (h2 : TrCb b c l) : TrCb a c l := by
  simpa using h1.trans h2

theorem TrCb.emit_other (s : State) (e : Event) (he : cbOf e = none) : TrCb s (emit s e) [] := by
  unfold emit; split
  · exact TrCb.refl _
  · exact ⟨[e], rfl, by simp [cbsOf, he]⟩

theorem TrCb.emit_cb (s : State) (ph : Phase) (k : CbKind) (i : Nat) (a b : Int) (hh : s.halted = false) :
    TrCb s (emit s (.cb ph k i a b)) [(k, i, a)] := by
  unfold emit; simp only [hh, Bool.false_eq_true, if_false]
  exact ⟨[_], rfl, by simp [cbsOf, cbOf]⟩

theorem TrCb.stepOp (s : State) (o : Op) : TrCb s (stepOp s o) [] := by
  unfold Loop.stepOp
  have h1 : TrCb s (applyOp s o).1 [] := TrCb.of_eq (trOf (tr_applyOp s o))
  exact (h1.trans (TrCb.emit_other _ _ rfl)).trans (TrCb.emit_other _ _ rfl)

theorem TrCb.foldl_stepOp (ops : List Op) (s : State) : TrCb s (ops.foldl Loop.stepOp s) [] := by
  induction ops generalizing s with
  | nil => exact TrCb.refl _
  | cons o t ih => exact (TrCb.stepOp s o).trans (ih _)

theorem TrCb.runCb (sc : Script) (ph : Phase) (k : CbKind) (key : CbKey) (i : Nat) (a b : Int) (occ : Nat) (s : State)
    (hh : s.halted = false) : TrCb s (runCb sc ph k key i a b occ s) [(k, i, a)] := by
  unfold Loop.runCb
  simp only
  refine TrCb.tr_r ?_ (TrCb.emit_other _ _ rfl)
  refine TrCb.tr_r ?_ (TrCb.emit_other _ _ rfl)
  refine TrCb.tr_r ?_ (TrCb.foldl_stepOp _ _)
  refine TrCb.tr_r ?_ (TrCb.emit_other _ _ rfl)
  refine TrCb.tr_l (b := { s with ncbTotal := s.ncbTotal + 1 }) (TrCb.of_eq rfl) ?_
  exact TrCb.emit_cb _ _ _ _ _ _ hh

/-! ### a handle with UV_HANDLE_CLOSING is frozen -/
def Frz (id : Nat) (s : State) : Prop := id ∈ hids s ∧ ∃ f, getF s id = some f ∧ f.closing = true

def FrzRel (id : Nat) (s s' : State) : Prop := Frz id s → Frz id s' ∧ hq s' id = hq s id ∧ s'.halted = s.halted

theorem FrzRel.refl (id : Nat) (s : State) : FrzRel id s s := fun h => ⟨h, rfl, rfl⟩
theorem FrzRel.trans {id : Nat} {a b c : State} (h1 : FrzRel id a b) (h2 : FrzRel id b c) : FrzRel id a c := by
  intro h
  obtain ⟨f1, q1, a1⟩ := h1 h
  obtain ⟨f2, q2, a2⟩ := h2 f1
  exact ⟨f2, q2.trans q1, a2.trans a1⟩

theorem FrzRel.of_keepQ {id : Nat} {s s' : State} (h : KeepQ s s') : FrzRel id s s' := by
  rintro ⟨hm, f, hf, hc⟩
  obtain ⟨f', hf', hmono⟩ := h.1.flags id f hf
  exact ⟨⟨h.1.hold id hm, f', hf', hmono hc⟩, h.2 id hm, h.1.halted⟩

theorem FrzRel.of_opRes {id : Nat} {s s' : State} (h : OpRes s s') : FrzRel id s s' := by
  rcases h with h | ⟨j, h, hj⟩ | ⟨j, s2, hk, rfl, _⟩
  · exact FrzRel.of_keepQ h
  · rintro ⟨hm, f, hf, hc⟩
    have hne : id ≠ j := by
      intro he; subst he
      have := hj f hf; rw [hc] at this; cases this
    obtain ⟨f', hf', hmono⟩ := h.1.flags id f hf
    exact ⟨⟨h.1.hold id hm, f', hf', hmono hc⟩, h.2 id hm hne, h.1.halted⟩
  · intro hz
    obtain ⟨z, q, a⟩ := FrzRel.of_keepQ (id := id) hk hz
    exact ⟨⟨z.1, z.2⟩, q, a⟩

theorem FrzRel.stepOp (id : Nat) (s : State) (o : Op) : FrzRel id s (stepOp s o) :=
  ((applyOp_step s o).opRes_closure (R := FrzRel id) FrzRel.trans FrzRel.of_opRes).trans (FrzRel.of_keepQ (KeepQ.of_kp (kp_stepOp s o)))

theorem FrzRel.foldl_stepOp (id : Nat) (ops : List Op) (s : State) : FrzRel id s (ops.foldl Loop.stepOp s) := by
  induction ops generalizing s with
  | nil => exact FrzRel.refl _ _
  | cons o t ih => exact (FrzRel.stepOp id s o).trans (ih _)

theorem FrzRel.runCb (id : Nat) (sc : Script) (ph : Phase) (k : CbKind) (key : CbKey) (i : Nat) (a b : Int) (occ : Nat)
    (s : State) : FrzRel id s (runCb sc ph k key i a b occ s) := by
  unfold Loop.runCb
  simp only
  refine FrzRel.trans ?_ (FrzRel.of_keepQ (KeepQ.of_kp (kp_emitObs _)))
  refine FrzRel.trans ?_ (FrzRel.of_keepQ (KeepQ.of_kp (kp_emit _ _)))
  refine FrzRel.trans ?_ (FrzRel.foldl_stepOp id _ _)
  refine FrzRel.trans ?_ (FrzRel.of_keepQ (KeepQ.of_kp (kp_emitObs _)))
  refine FrzRel.trans ?_ (FrzRel.of_keepQ (KeepQ.of_kp (kp_emit _ _)))
  exact FrzRel.of_keepQ (KeepQ.of_kp rfl)

/-- what the send callback of a completed request reports -/
def udpStatus (p : Nat × Int) : CbKind × Nat × Int := (.udpSend, p.1, if p.2 >= 0 then 0 else p.2)
/-- … and of a request that was still queued: UV_ECANCELED -/
def udpCancelled (r : Nat) : CbKind × Nat × Int := (.udpSend, r, -125)

theorem getH_of_hq {s : State} {id : Nat} {q : HQ} (h : hq s id = some q) : ∃ h', getH s id = some h' ∧ qOf h' = q := by
  unfold hq at h
  cases hg : getH s id with
  | none => simp [hg] at h
  | some h' => exact ⟨h', rfl, by simpa [hg] using h⟩

theorem Frz.of_eq {id : Nat} {s s' : State} (hz : Frz id s) (h1 : hids s' = hids s) (h2 : s'.c = s.c) : Frz id s' := by
  obtain ⟨hm, f, hf, hc⟩ := hz
  exact ⟨h1 ▸ hm, f, by simpa [getF, h2] using hf, hc⟩

theorem udpLoop_closing (sc : Script) (id : Nat) : ∀ (fuel : Nat) (s : State) (h : Handle),
    getH s id = some h → Frz id s → s.halted = false → h.wcq.length < fuel →
    ∃ h', TrCb s (udpRunCompletedLoop sc .closing id fuel s) (h.wcq.map udpStatus) ∧
      getH (udpRunCompletedLoop sc .closing id fuel s) id = some h' ∧ h'.wcq = [] ∧ h'.wq = h.wq ∧
      Frz id (udpRunCompletedLoop sc .closing id fuel s) ∧ (udpRunCompletedLoop sc .closing id fuel s).halted = false := by
  intro fuel
  induction fuel with
  | zero => intro s h _ _ _ hl; exact absurd hl (Nat.not_lt_zero _)
  | succ n ih =>
    intro s h hg hz hh hl
    unfold udpRunCompletedLoop
    simp only [hg]
    cases hw : h.wcq with
    | nil => exact ⟨h, by simpa using TrCb.refl s, hg, hw, rfl, hz, hh⟩
    | cons p rest =>
      obtain ⟨r, st⟩ := p
      simp only
      let g : Handle → Handle := fun h => { h with wcq := rest, sqc := h.sqc - 1 }
      have hga : getH (modH s id g) id = some (g h) := by rw [getH_modH_same _ _ _ (by intro _; rfl), hg]; rfl
      let sb : State := { modH s id g with ar := reqUnregister (modH s id g).ar, reqs := (modH s id g).reqs.filter (·.id != r) }
      have hzb : Frz id sb := hz.of_eq (hids_modH _ _ _ (by intro _; rfl)) rfl
      have hhb : sb.halted = false := hh
      obtain ⟨hzc, hqc, hhc⟩ := FrzRel.runCb id sc .closing .udpSend (.r r) r (if st >= 0 then 0 else st) 0 0 sb hzb
      have hqb : hq sb id = some (qOf (g h)) := by
        show (getH (modH s id g) id).map qOf = _
        rw [hga]; rfl
      obtain ⟨hc, hgc, hqe⟩ := getH_of_hq (hqc.trans hqb)
      have hwc : hc.wcq = rest := by
        have := congrArg (fun q : HQ => q.2.2.1) hqe; exact this
      have hwq : hc.wq = h.wq := by
        have := congrArg (fun q : HQ => q.2.1) hqe; exact this
      obtain ⟨h', t', g', w', q', z', a'⟩ := ih _ hc hgc hzc (hhc.trans hhb) (by rw [hwc]; rw [hw] at hl; simp at hl; omega)
      refine ⟨h', ?_, g', w', q'.trans hwq, z', a'⟩
      have t0 : TrCb s sb [] := TrCb.of_eq rfl
      have t1 := TrCb.runCb sc .closing .udpSend (.r r) r (if st >= 0 then 0 else st) 0 0 sb hhb
      have := (TrCb.tr_l t0 t1).trans t'
      rw [hwc] at this
      simpa [udpStatus] using this

theorem udpFinishClose_trcb (sc : Script) (id : Nat) (s : State) (h : Handle) (hg : getH s id = some h) (hz : Frz id s)
    (hh : s.halted = false) :
    TrCb s (udpFinishClose sc .closing id s) (h.wcq.map udpStatus ++ h.wq.map udpCancelled) := by
  unfold udpFinishClose
  simp only
  let g1 : Handle → Handle := fun h => { h with wcq := h.wcq ++ h.wq.map (fun r => (r, (-125 : Int))), wq := [] }
  have hg1 : getH (modH s id g1) id = some (g1 h) := by rw [getH_modH_same _ _ _ (by intro _; rfl), hg]; rfl
  have hz1 : Frz id (modH s id g1) := hz.of_eq (hids_modH _ _ _ (by intro _; rfl)) rfl
  show TrCb s (udpRunCompleted sc .closing id (modH s id g1)) _
  unfold udpRunCompleted
  simp only [hg1]
  let gp : Handle → Handle := fun h => { h with processing := true }
  have hg2 : getH (modH (modH s id g1) id gp) id = some (gp (g1 h)) := by
    rw [getH_modH_same _ _ _ (by intro _; rfl), hg1]; rfl
  have hz2 : Frz id (modH (modH s id g1) id gp) := hz1.of_eq (hids_modH _ _ _ (by intro _; rfl)) rfl
  obtain ⟨h', t', g', _, _, _, _⟩ := udpLoop_closing sc id ((g1 h).wcq.length + 1) _ (gp (g1 h)) hg2 hz2 hh (Nat.lt_succ_self _)
  have t0 : TrCb s (modH (modH s id g1) id gp) [] := TrCb.of_eq rfl
  have t1 := TrCb.tr_l t0 t'
  have e1 : (gp (g1 h)).wcq.map udpStatus = h.wcq.map udpStatus ++ h.wq.map udpCancelled := by
    show (h.wcq ++ h.wq.map (fun r => (r, (-125 : Int)))).map udpStatus = _
    simp [udpStatus, udpCancelled, Function.comp_def]
  rw [e1] at t1
  show TrCb s (match getH (udpRunCompletedLoop sc .closing id ((g1 h).wcq.length + 1) (modH (modH s id g1) id gp)) id with
    | none => _ | some h => _) _
  simp only [g']
  refine TrCb.tr_r t1 (TrCb.of_eq ?_)
  split
  · split
    · exact trOf ((tr_modH _ _ _).trans ((tr_hStop _ _).trans (tr_ioStop _ _ _)))
    · exact trOf ((tr_modH _ _ _).trans (tr_ioStop _ _ _))
  · rfl

theorem streamDestroy_trcb (sc : Script) (id : Nat) (s : State) (h : Handle) (hg : getH s id = some h) (hh : s.halted = false) :
    TrCb s (streamDestroy sc id s) (h.connReq.toList.map (fun r => (CbKind.connect, r, (-125 : Int)))) := by
  unfold streamDestroy
  simp only [hg]
  cases hc : h.connReq with
  | none => exact TrCb.refl _
  | some r =>
    simp only
    refine TrCb.tr_r ?_ (TrCb.of_eq (trOf (tr_modH _ _ _)))
    refine TrCb.tr_l (b := { s with ar := reqUnregister s.ar, reqs := s.reqs.filter (·.id != r) }) (TrCb.of_eq rfl) ?_
    exact TrCb.runCb _ _ _ _ _ _ _ _ _ hh

/-- the callbacks `uv__finish_close` owes to the requests attached to a handle record, in delivery order:
    udp — completed sends with their status (0 or the error), then queued sends with UV_ECANCELED (-125);
    stream — the pending connect request with UV_ECANCELED -/
def attachedReqs (h : Handle) : List (CbKind × Nat × Int) :=
  if h.kind == .udp then h.wcq.map udpStatus ++ h.wq.map udpCancelled
  else if h.kind == .pipe || h.kind == .tcp then h.connReq.toList.map (fun r => (CbKind.connect, r, (-125 : Int)))
  else []

theorem finishClose_reqs (sc : Script) (id : Nat) (s : State) (h : Handle) (hw : CloseWF' (some id) s)
    (hh : s.halted = false) (hg : getH s id = some h) :
    ∃ fb, TrCb s (finishClose sc id s) (attachedReqs h ++ [(CbKind.close, id, fb)]) := by
  obtain ⟨h', f, s2, hg', e2, _, _, hha, he⟩ := finishClose_queued sc hw
  obtain rfl : h' = h := Option.some.inj (hg'.symm.trans hg)
  have hz1 : Frz id (withKernel s id setClosed) :=
    (FrzRel.of_keepQ (keepQ_withKernel s id _ clMono_setClosed) (hw.2 id (by simp [clList]))).1
  have t2 : TrCb s s2 (attachedReqs h') := by
    refine TrCb.tr_l (b := withKernel s id setClosed) (TrCb.of_eq rfl) ?_
    rw [e2]; unfold finishReqs attachedReqs; split
    · exact udpFinishClose_trcb sc id _ h' hg hz1 hh
    · split
      · exact streamDestroy_trcb sc id _ h' hg hh
      · exact TrCb.refl _
  rw [he]
  exact ⟨flagBits f, t2.trans (TrCb.tr_l (b := unlink (withKernel s2 id handleUnref) id) (TrCb.of_eq rfl)
    (TrCb.runCb _ _ _ _ _ _ _ _ _ (hha.trans hh)))⟩

/-! ### finishing *another* handle leaves a closing handle's record alone -/
theorem FrzRel.of_keepN {id j : Nat} (hne : id ≠ j) {s s' : State} (h : KeepN j s s') : FrzRel id s s' := by
  rintro ⟨hm, f, hf, hc⟩
  obtain ⟨f', hf', hmono⟩ := h.1.flags id f hf
  exact ⟨⟨h.1.hold id hm, f', hf', hmono hc⟩, h.2 id hm hne, h.1.halted⟩

theorem FrzRel.modH_ne {id j : Nat} (hne : id ≠ j) (s : State) (g : Handle → Handle) (hg : ∀ h, (g h).id = h.id) :
    FrzRel id s (modH s j g) := FrzRel.of_keepN hne (keepN_modH s j g hg)

theorem FrzRel.of_kp {id : Nat} {s s' : State} (h : kp s' = kp s) : FrzRel id s s' := FrzRel.of_keepQ (KeepQ.of_kp h)

theorem FrzRel.after {id : Nat} {a b b' : State} (h : FrzRel id a b) (hk : kp b' = kp b) : FrzRel id a b' :=
  h.trans (FrzRel.of_kp hk)

theorem FrzRel.udpLoop_ne {id j : Nat} (hne : id ≠ j) (sc : Script) (ph : Phase) (fuel : Nat) (s : State) :
    FrzRel id s (udpRunCompletedLoop sc ph j fuel s) := by
  induction fuel generalizing s with
  | zero => exact FrzRel.refl _ _
  | succ n ih =>
    unfold udpRunCompletedLoop
    split
    · exact FrzRel.refl _ _
    · split
      · exact FrzRel.refl _ _
      · simp only
        refine FrzRel.trans ?_ (ih _)
        refine FrzRel.trans ?_ (FrzRel.runCb id _ _ _ _ _ _ _ _ _)
        refine FrzRel.after (b := modH s j _) ?_ rfl
        exact FrzRel.modH_ne hne s _ (by intro _; rfl)

theorem FrzRel.udpRunCompleted_ne {id j : Nat} (hne : id ≠ j) (sc : Script) (ph : Phase) (s : State) :
    FrzRel id s (udpRunCompleted sc ph j s) := by
  unfold udpRunCompleted
  split
  · exact FrzRel.refl _ _
  · rename_i h0 _
    simp only
    have h1 := (FrzRel.modH_ne hne s (fun h => { h with processing := true }) (by intro _; rfl)).trans
      (FrzRel.udpLoop_ne hne sc ph (h0.wcq.length + 1) _)
    split
    · exact h1
    · refine h1.trans ?_
      refine FrzRel.trans ?_ (FrzRel.modH_ne hne _ _ (by intro _; rfl))
      split
      · split
        · exact (FrzRel.of_kp (kp_ioStop _ _ _)).trans (FrzRel.of_keepQ (keepQ_hStop _ _))
        · exact FrzRel.of_kp (kp_ioStop _ _ _)
      · exact FrzRel.refl _ _

theorem find_filter_ne (hs : List Handle) (id j : Nat) (hne : id ≠ j) :
    (hs.filter (·.id != j)).find? (·.id == id) = hs.find? (·.id == id) := by
  induction hs with
  | nil => rfl
  | cons x t ih =>
    by_cases hx : x.id = j
    · have h1 : (x.id != j) = false := by simp [hx]
      have h2 : (x.id == id) = false := by simp [hx]; omega
      simp [List.filter, h1, List.find?, h2, ih]
    · have h1 : (x.id != j) = true := by simp [hx]
      simp only [List.filter, h1, List.find?, ih]

theorem FrzRel.unlink_ne {id j : Nat} (hne : id ≠ j) (s : State) : FrzRel id s (unlink s j) := by
  rintro ⟨hm, f, hf, hc⟩
  refine ⟨⟨?_, f, ?_, hc⟩, ?_, rfl⟩
  · simp only [hids, unlink, List.mem_map, List.mem_filter] at hm ⊢
    obtain ⟨x, hx, he⟩ := hm
    exact ⟨x, ⟨hx, by simp [he, hne]⟩, he⟩
  · simp only [getF, Core.get, Core.remove, unlink] at hf ⊢
    rw [lookF_eraseF_ne _ _ _ hne]; exact hf
  · simp only [hq, getH, unlink]
    rw [find_filter_ne _ _ _ hne]

theorem FrzRel.finishReqs_ne {id j : Nat} (hne : id ≠ j) (sc : Script) (k : Kind) (s : State) :
    FrzRel id s (finishReqs sc k j s) := by
  refine rel_ite ?_ (rel_ite ?_ (FrzRel.refl _ _))
  · unfold udpFinishClose
    refine FrzRel.trans ?_ (FrzRel.udpRunCompleted_ne hne _ _ _)
    exact FrzRel.modH_ne hne _ _ (by intro _; rfl)
  · unfold streamDestroy
    split
    · exact FrzRel.refl _ _
    · split
      · exact FrzRel.refl _ _
      · simp only
        refine FrzRel.trans ?_ (FrzRel.modH_ne hne _ _ (by intro _; rfl))
        refine FrzRel.trans ?_ (FrzRel.runCb id _ _ _ _ _ _ _ _ _)
        exact FrzRel.of_kp rfl

theorem FrzRel.finishClose_ne {id j : Nat} (hne : id ≠ j) (sc : Script) (s : State) : FrzRel id s (finishClose sc j s) := by
  cases hg : getH s j with
  | none => unfold finishClose; rw [hg]; exact FrzRel.refl _ _
  | some h =>
    rw [finishClose_some hg]
    have h1 : FrzRel id s (withKernel s j setClosed) := FrzRel.of_keepQ (keepQ_withKernel _ _ _ clMono_setClosed)
    have h2 := h1.trans (FrzRel.finishReqs_ne hne sc h.kind (withKernel s j setClosed))
    generalize finishReqs sc h.kind j (withKernel s j setClosed) = s2 at h2 ⊢
    have h3 : FrzRel id s (withKernel s2 j handleUnref) :=
      h2.trans (FrzRel.of_keepQ (keepQ_withKernel s2 j _ clMono_unref))
    split
    · exact h3
    · exact (h3.trans (FrzRel.unlink_ne hne _)).trans (FrzRel.runCb id _ _ _ _ _ _ _ _ _)

/-! ### the trace only grows -/
def TrX (s s' : State) : Prop := ∃ new, s'.trace = new ++ s.trace

theorem TrX.emit_any (s : State) (e : Event) : TrX s (emit s e) := by
  unfold emit; split
  · exact ⟨[], rfl⟩
  · exact ⟨[e], rfl⟩

theorem trX : PhaseRel TrX where
  refl := fun _ => ⟨[], rfl⟩
  trans := fun ⟨n1, e1⟩ ⟨n2, e2⟩ => ⟨n2 ++ n1, by rw [e2, e1, List.append_assoc]⟩
  keep := fun _ ht => ⟨[], by simpa using ht⟩
  emit := fun s e _ => TrX.emit_any s e
  stepOp := fun s o => by
    obtain ⟨new, e, _⟩ := TrCb.stepOp s o
    exact ⟨new, e⟩
  cbH := fun s _ _ _ _ _ _ _ => TrX.emit_any s _
  cbR := fun s _ _ _ _ _ _ => TrX.emit_any s _
  halt := fun _ => ⟨[], rfl⟩

theorem TrX.finishClose (sc : Script) (j : Nat) (s : State) : TrX s (finishClose sc j s) :=
  trX.finishClose (fun _ => ⟨[], rfl⟩) (fun _ _ _ => TrX.emit_any _ _) sc s

theorem TrX.runClosingLoop (sc : Script) (fuel : Nat) (s : State) : TrX s (runClosingLoop sc fuel s) :=
  trX.runClosingLoop (fun _ _ _ => ⟨[], rfl⟩) (TrX.finishClose sc) fuel s

theorem attachedReqs_congr {h h' : Handle} (hq : qOf h' = qOf h) : attachedReqs h' = attachedReqs h := by
  simp only [qOf, Prod.mk.injEq] at hq
  obtain ⟨h1, h2, h3, h4⟩ := hq
  simp only [attachedReqs, h1, h2, h3, h4]

/-- `reqs_before_close_cb` inside the closing phase: for a handle in the detached chain, the phase's trace contains
    a contiguous segment whose callbacks are exactly those owed to the requests attached to the record *as it is when
    the phase starts* (closing of other handles and their callbacks cannot change it), followed by its close callback -/
theorem runClosingLoop_reqs (sc : Script) (id : Nat) : ∀ (fuel : Nat) (s : State) (h : Handle),
    CloseWF s → s.halted = false → id ∈ s.closingLocal.take fuel → getH s id = some h →
    ∃ pre mid post fb, (runClosingLoop sc fuel s).trace = post ++ mid ++ pre ++ s.trace ∧
      cbsOf mid = attachedReqs h ++ [(CbKind.close, id, fb)] := by
  intro fuel
  induction fuel with
  | zero => intro s h _ _ hm _; simp at hm
  | succ n ih =>
    intro s h hw hh hm hg
    unfold Loop.runClosingLoop
    split
    · rename_i heq; simp [heq] at hm
    · rename_i j rest heq
      simp only
      have hw1 := hw.pop heq
      by_cases hji : j = id
      · subst hji
        obtain ⟨fb, mid, e, c⟩ := finishClose_reqs sc j { s with closingLocal := rest } h hw1 hh hg
        obtain ⟨post, e2⟩ := TrX.runClosingLoop sc n (Loop.finishClose sc j { s with closingLocal := rest })
        exact ⟨[], mid, post, fb, by rw [e2, e]; simp, c⟩
      · have hne : id ≠ j := fun he => hji he.symm
        obtain ⟨pre1, e1⟩ := TrX.finishClose sc j { s with closingLocal := rest }
        have hz : Frz id { s with closingLocal := rest } := by
          have hmem : id ∈ clList none s := by
            simp only [clList, Option.toList_none, List.nil_append, List.mem_append]
            exact Or.inl (List.mem_of_mem_take hm)
          exact hw.2 id hmem
        obtain ⟨hz', hq', hh'⟩ := FrzRel.finishClose_ne hne sc { s with closingLocal := rest } hz
        obtain ⟨hw', hcl'⟩ := finishClose_wf sc j _ hw1
        have hqs : hq { s with closingLocal := rest } id = some (qOf h) := by
          show (getH s id).map qOf = _; rw [hg]; rfl
        obtain ⟨h', hg', hqe⟩ := getH_of_hq (hq'.trans hqs)
        have hm' : id ∈ (Loop.finishClose sc j { s with closingLocal := rest }).closingLocal.take n := by
          rw [hcl']
          rw [heq, List.take_succ_cons, List.mem_cons] at hm
          rcases hm with hm | hm
          · exact absurd hm hne
          · exact hm
        obtain ⟨pre, mid, post, fb, e, c⟩ := ih _ h' hw' (hh'.trans hh) hm' hg'
        refine ⟨pre ++ pre1, mid, post, fb, ?_, by rw [c, attachedReqs_congr hqe]⟩
        rw [e, e1]; simp

theorem runClosing_reqs (sc : Script) (id : Nat) (s : State) (h : Handle) (hw : CloseWF s) (hh : s.halted = false)
    (hid : id ∈ s.closing) (hg : getH s id = some h) :
    ∃ pre mid post fb, (runClosing sc s).trace = post ++ mid ++ pre ++ s.trace ∧
      cbsOf mid = attachedReqs h ++ [(CbKind.close, id, fb)] := by
  exact runClosingLoop_reqs sc id _ _ h hw.detach hh (by simpa [List.take_of_length_le] using hid) hg

end UvModel.Loop
