/-! The model's functions are nests of `if`s.  A property of such a function's result is proved leaf by
leaf with core's `iteInduction`, in term mode, where `split` would rebuild the whole nest at every level.
The motive is found by unification when the goal is a constant applied to the `if` as its last argument
(`Inv (if …)`); for any other shape pass `(motive := …)` or give the predicate a name. -/
namespace UvModel

/-- `iteInduction` for the state component of a (state, result) pair -/
theorem of_ite_fst {α β} {P : α → Prop} {q : Prop} [Decidable q] {t e : α × β}
    (ht : q → P t.1) (he : ¬q → P e.1) : P (if q then t else e).1 :=
  iteInduction (motive := fun x : α × β => P x.1) ht he

end UvModel
