import UvModel.FsBuf
/-! Specification vocabulary of C11 (a) and the lemmas under its theorems.  Every fact about `uv__fs_write_all`
is an induction along `writeLoop` by `fun_induction`, whose cases are: nothing to write (`writeSys … = none`); the
script has run out; the round stops; the round goes on, with the hypothesis for the rest of the script.  What a
round does is needed in three forms, `round_cont_workLeft`, `round_cont`, `round_stop`: only there are the kinds of
answer told apart. -/
namespace UvModel.FsBuf
variable {α : Type}

theorem writeSys_none (off : Int) (n : Nat) : writeSys off n = none ↔ n = 0 := by
  rcases n with _ | _ | n <;> simp [writeSys] <;> split <;> nofun

theorem readSys_none (off : Int) (n : Nat) : readSys off n = none ↔ n = 0 := by
  rcases n with _ | _ | n <;> simp [readSys] <;> split <;> nofun

theorem chunk_ne_nil {off : Int} {k : Nat} {bufs : List (List α)} {sys : Sys}
    (h : writeSys off (bufs.take k).length = some sys) : bufs.take k ≠ [] := by
  intro h0
  simp [h0, writeSys] at h

@[simp] theorem mapResult_neg_one (errno : Nat) : mapResult (-1) errno = -(errno : Int) := rfl

theorem mapResult_of_ne {r : Int} (h : r ≠ -1) (errno : Nat) : mapResult r errno = r := if_neg h

/-- bytes plus buffers still to write: what every round of `uv__fs_write_all` that is not an EINTR retry
    makes smaller -/
def workLeft (l : List (List α)) : Nat := l.flatten.length + l.length

theorem workLeft_cons (b : List α) (l : List (List α)) : workLeft (b :: l) = b.length + 1 + workLeft l := by
  simp only [workLeft, List.flatten_cons, List.length_append, List.length_cons]; omega

/-- the two branches that do not step over `b` are one: `b.drop 0 = b` -/
theorem bufOffset_cons (b : List α) (rest : List (List α)) (size : Nat) :
    bufOffset (b :: rest) size =
      if 0 < size ∧ b.length ≤ size then
        ((bufOffset rest (size - b.length)).1 + 1, b :: (bufOffset rest (size - b.length)).2)
      else (0, b.drop size :: rest) := by
  rw [bufOffset]
  split
  · rfl
  · split
    · rfl
    · next h => rw [Nat.eq_zero_of_not_pos h]; rfl

/-- `uv__fs_write_all` goes on with the array after the offset (`req->bufs += req->nbufs`) -/
theorem bufOffset_rest_cons (b : List α) (rest : List (List α)) (size : Nat) :
    (bufOffset (b :: rest) size).2.drop (bufOffset (b :: rest) size).1 =
      if 0 < size ∧ b.length ≤ size then
        (bufOffset rest (size - b.length)).2.drop (bufOffset rest (size - b.length)).1
      else b.drop size :: rest := by
  rw [bufOffset_cons]
  split <;> rfl

theorem bufOffset_flatten (bufs : List (List α)) (size : Nat) (h : size ≤ bufs.flatten.length) :
    ((bufOffset bufs size).2.drop (bufOffset bufs size).1).flatten = bufs.flatten.drop size := by
  induction bufs generalizing size with
  | nil => simp [bufOffset]
  | cons b rest ih =>
    rw [List.flatten_cons, List.length_append] at h
    rw [bufOffset_rest_cons, List.flatten_cons]
    split
    · next hc => rw [ih _ (by omega), List.drop_append, List.drop_eq_nil_of_le hc.2, List.nil_append]
    · rw [List.drop_append_of_le_length (by omega), List.flatten_cons]

theorem bufOffset_workLeft (bufs : List (List α)) (size : Nat) :
    workLeft ((bufOffset bufs size).2.drop (bufOffset bufs size).1) ≤ workLeft bufs ∧
    (0 < size → bufs ≠ [] → workLeft ((bufOffset bufs size).2.drop (bufOffset bufs size).1) < workLeft bufs) := by
  induction bufs generalizing size with
  | nil => exact ⟨Nat.le_refl _, fun _ h => absurd rfl h⟩
  | cons b rest ih =>
    have := (ih (size - b.length)).1
    rw [bufOffset_rest_cons]
    split
    · rw [workLeft_cons]; omega
    · rw [workLeft_cons, workLeft_cons, List.length_drop]; omega

/-- bytes in the first `k` buffers -/
def prefixBytes (bufs : List (List α)) (k : Nat) : Nat := (bufs.take k).flatten.length

@[simp] theorem prefixBytes_zero (bufs : List (List α)) : prefixBytes bufs 0 = 0 := rfl

@[simp] theorem prefixBytes_cons_succ (b : List α) (rest : List (List α)) (k : Nat) :
    prefixBytes (b :: rest) (k + 1) = b.length + prefixBytes rest k := by
  rw [prefixBytes, List.take_succ_cons, List.flatten_cons, List.length_append]; rfl

theorem leadingEmpty_le (l : List (List α)) : leadingEmpty l ≤ l.length := by
  induction l with
  | nil => exact Nat.le_refl 0
  | cons b r ih => rw [leadingEmpty]; split <;> simp <;> omega

theorem leadingEmpty_drop_flatten (bufs : List (List α)) (k : Nat) :
    (bufs.drop (leadingEmpty (bufs.take k))).flatten = bufs.flatten := by
  induction bufs generalizing k with
  | nil => simp
  | cons b rest ih =>
    cases k with
    | zero => simp [leadingEmpty]
    | succ k =>
      simp only [List.take_succ_cons, leadingEmpty]
      split
      · next h =>
        have : b = [] := List.eq_nil_of_length_eq_zero h
        simp [ih k, this]
      · simp

theorem leadingEmpty_pos (chunk : List (List α)) (hne : chunk ≠ []) (h0 : chunk.flatten.length = 0) :
    0 < leadingEmpty chunk := by
  cases chunk with
  | nil => exact absurd rfl hne
  | cons b r =>
    simp only [List.flatten_cons, List.length_append] at h0
    unfold leadingEmpty
    rw [if_pos (by omega)]; omega

theorem take_flatten_le (bufs : List (List α)) (k : Nat) :
    (bufs.take k).flatten.length ≤ bufs.flatten.length := by
  conv => rhs; rw [← List.take_append_drop k bufs]
  simp only [List.flatten_append, List.length_append]; omega

theorem take_flatten_take (bufs : List (List α)) (k n : Nat) (h : n ≤ (bufs.take k).flatten.length) :
    (bufs.take k).flatten.take n = bufs.flatten.take n := by
  conv => rhs; rw [← List.take_append_drop k bufs]
  rw [List.flatten_append, List.take_append_of_le_length h]

/-- the kernel never reports more bytes than the iovec holds -/
def Bounded (calls : List (Call α)) : Prop := ∀ c ∈ calls, ∀ n, c.out = .ok n → n ≤ c.iov.flatten.length
/-- a call that was given at least one byte and did not fail transferred at least one byte -/
def Progress (calls : List (Call α)) : Prop := ∀ c ∈ calls, c.out = .ok 0 → c.iov.flatten.length = 0
/-- no call reported an error other than EINTR -/
def NoError (calls : List (Call α)) : Prop := ∀ c ∈ calls, ∀ e, c.out = .fail e → e = EINTR
/-- each call is issued at the offset where the previous one stopped (off ≥ 0), or always with the
    "current position" convention (off < 0) -/
def Consecutive : Int → List (Call α) → Prop
  | _, [] => True
  | off, c :: cs => c.off = off ∧ Consecutive (if 0 ≤ off then off + (c.written.length : Int) else off) cs

/-- the answer is not an EINTR retry -/
def notEintr (o : Outcome) : Bool := decide (o ≠ .fail EINTR)

@[simp] theorem notEintr_eintr : notEintr (.fail EINTR) = false := by simp [notEintr]
@[simp] theorem notEintr_ok (n : Nat) : notEintr (.ok n) = true := by simp [notEintr]
theorem notEintr_of_ne {o : Outcome} (h : o ≠ .fail EINTR) : notEintr o = true := by simp [notEintr, h]

def writtenAll (calls : List (Call α)) : List α := calls.flatMap Call.written

theorem writtenAll_cons (c : Call α) (cs : List (Call α)) : writtenAll (c :: cs) = c.written ++ writtenAll cs :=
  List.flatMap_cons

theorem round_fail (off : Int) (bufs chunk : List (List α)) (total : Int) (e : Nat) :
    round off bufs chunk total (.fail e) =
      if e = EINTR then .cont off bufs total else .stop (if total = 0 then -1 else total) e := rfl
theorem round_zero (off : Int) (bufs chunk : List (List α)) (total : Int) :
    round off bufs chunk total (.ok 0) =
      if leadingEmpty chunk = 0 then .stop total 0 else .cont off (bufs.drop (leadingEmpty chunk)) total := rfl
theorem round_succ (off : Int) (bufs chunk : List (List α)) (total : Int) (n : Nat) :
    round off bufs chunk total (.ok (n + 1)) =
      .cont (if 0 ≤ off then off + ((n + 1 : Nat) : Int) else off)
        ((bufOffset bufs (n + 1)).2.drop (bufOffset bufs (n + 1)).1) (total + ((n + 1 : Nat) : Int)) := rfl

section
variable {iovmax k : Nat} {off off' total total' r : Int} {bufs bufs' chunk iov : List (List α)} {o : Outcome}
  {os : List Outcome} {sys : Sys} {e : Nat}

theorem workLeft_pos (h : bufs.take k ≠ []) : 0 < workLeft bufs := by
  cases bufs with
  | nil => exact absurd List.take_nil h
  | cons b r => rw [workLeft_cons]; omega

theorem round_cont_workLeft (hne : bufs.take k ≠ [])
    (h : round off bufs (bufs.take k) total o = .cont off' bufs' total') :
    workLeft bufs' + (if notEintr o = true then 1 else 0) ≤ workLeft bufs := by
  match o with
  | .fail e =>
    rw [round_fail] at h
    split at h
    · next he => cases h; subst he; exact Nat.le_refl _
    · cases h
  | .ok 0 =>
    rw [round_zero] at h
    split at h
    · cases h
    · cases h
      have h1 := leadingEmpty_le (bufs.take k)
      have h2 := List.length_take_le' k bufs
      rw [workLeft, leadingEmpty_drop_flatten, List.length_drop, workLeft, notEintr_ok, if_pos rfl]
      omega
  | .ok (n + 1) =>
    cases h
    exact (bufOffset_workLeft bufs (n + 1)).2 (Nat.succ_pos n) fun h0 => hne (by rw [h0, List.take_nil])

theorem round_cont (c : Call α) (hiov : c.iov = bufs.take k) (hb : ∀ n, c.out = .ok n → n ≤ c.iov.flatten.length)
    (h : round c.off bufs c.iov total c.out = .cont off' bufs' total') :
    c.written ++ bufs'.flatten = bufs.flatten ∧
    off' = (if 0 ≤ c.off then c.off + (c.written.length : Int) else c.off) ∧
    total' = total + (c.written.length : Int) ∧ ∀ e, c.out = .fail e → e = EINTR := by
  obtain ⟨sys, off, iov, o⟩ := c
  subst hiov
  match o with
  | .fail e =>
    rw [round_fail] at h
    split at h
    · next he =>
      cases h
      exact ⟨rfl, by simp [Call.written], by simp [Call.written], fun _ h => Outcome.fail.inj h ▸ he⟩
    · cases h
  | .ok 0 =>
    rw [round_zero] at h
    split at h
    · cases h
    · cases h
      exact ⟨leadingEmpty_drop_flatten bufs k, by simp [Call.written], by simp [Call.written], nofun⟩
  | .ok (n + 1) =>
    cases h
    have hn : n + 1 ≤ (bufs.take k).flatten.length := hb _ rfl
    have hn' := Nat.le_trans hn (take_flatten_le bufs k)
    have hw : (⟨sys, off, bufs.take k, .ok (n + 1)⟩ : Call α).written = bufs.flatten.take (n + 1) :=
      take_flatten_take bufs k _ hn
    rw [hw, bufOffset_flatten bufs _ hn', List.take_append_drop, List.length_take, Nat.min_eq_left hn']
    exact ⟨rfl, rfl, rfl, nofun⟩

theorem round_stop (hne : chunk ≠ []) (hp : o = .ok 0 → chunk.flatten.length = 0)
    (h : round off bufs chunk total o = .stop r e) :
    o = .fail e ∧ e ≠ EINTR ∧ r = if total = 0 then -1 else total := by
  match o with
  | .fail e' =>
    rw [round_fail] at h
    split at h
    · cases h
    · next he => cases h; exact ⟨rfl, he, rfl⟩
  | .ok 0 =>
    rw [round_zero, if_neg (Nat.ne_of_gt (leadingEmpty_pos chunk hne (hp rfl)))] at h
    cases h
  | .ok (n + 1) => cases h

theorem writeLoop_done (hs : writeSys off (bufs.take iovmax).length = none) :
    writeLoop iovmax os off bufs total = ⟨total, 0, [], off⟩ := by
  rw [writeLoop]; simp only [hs]

theorem writeLoop_nil (hs : writeSys off (bufs.take iovmax).length = some sys) :
    writeLoop iovmax [] off bufs total =
      ⟨if total = 0 then -1 else total, EIO, [⟨sys, off, bufs.take iovmax, .fail EIO⟩], off⟩ := by
  rw [writeLoop]; simp only [hs]

theorem writeLoop_cons (hs : writeSys off (bufs.take iovmax).length = some sys) :
    writeLoop iovmax (o :: os) off bufs total =
      match round off bufs (bufs.take iovmax) total o with
      | .stop r e => ⟨r, e, [⟨sys, off, bufs.take iovmax, o⟩], off⟩
      | .cont off' bufs' total' =>
        { writeLoop iovmax os off' bufs' total' with
          calls := ⟨sys, off, bufs.take iovmax, o⟩ :: (writeLoop iovmax os off' bufs' total').calls } := by
  rw [writeLoop]; simp only [hs]; rfl

/-- what `uv__fs_write_all` has done when it returns `r`, entered with `total` bytes written before, `bufs`
    still to write and `req->off = off` -/
def Complete (off : Int) (bufs : List (List α)) (total : Int) (r : WRes α) : Prop :=
  writtenAll r.calls <+: bufs.flatten ∧
  Consecutive off r.calls ∧
  ((NoError r.calls ∧ writtenAll r.calls = bufs.flatten ∧ r.ret = total + (bufs.flatten.length : Int)) ∨
   (∃ e, e ≠ EINTR ∧ (∃ c ∈ r.calls, c.out = .fail e) ∧ r.errno = e ∧
     r.ret = (if total + ((writtenAll r.calls).length : Int) = 0 then -1
              else total + ((writtenAll r.calls).length : Int))))

theorem Complete.fail (he : e ≠ EINTR) :
    Complete off bufs total ⟨if total = 0 then -1 else total, e, [⟨sys, off, iov, .fail e⟩], off'⟩ :=
  ⟨List.nil_prefix, ⟨rfl, trivial⟩,
    .inr ⟨e, he, ⟨_, List.mem_singleton.2 rfl, rfl⟩, rfl, by simp [writtenAll, Call.written]⟩⟩

theorem writeLoop_complete (iovmax : Nat) (hi : 0 < iovmax) (os : List Outcome) (off : Int) (bufs : List (List α))
    (total : Int) :
    Bounded (writeLoop iovmax os off bufs total).calls → Progress (writeLoop iovmax os off bufs total).calls →
      Complete off bufs total (writeLoop iovmax os off bufs total) := by
  fun_induction writeLoop iovmax os off bufs total with
  | case1 os off bufs total chunk hs =>
    intro _ _
    obtain rfl : bufs = [] :=
      (List.take_eq_nil_iff.1 (List.eq_nil_of_length_eq_zero ((writeSys_none _ _).1 hs))).resolve_left (Nat.ne_of_gt hi)
    exact ⟨List.prefix_rfl, trivial, .inl ⟨nofun, rfl, (Int.add_zero _).symm⟩⟩
  | case2 off bufs total chunk sys hs =>
    exact fun _ _ => Complete.fail (by decide)
  | case3 off bufs total chunk sys hs o os c r e hr =>
    intro _ hP
    obtain ⟨rfl, he, rfl⟩ := round_stop (chunk_ne_nil hs) (hP c List.mem_cons_self) hr
    exact Complete.fail he
  | case4 off bufs total chunk sys hs o os c off' bufs' total' hr r ih =>
    intro hB hP
    obtain ⟨hb, hB'⟩ := List.forall_mem_cons.1 hB
    obtain ⟨h1, h2, h3⟩ := ih hB' (List.forall_mem_cons.1 hP).2
    obtain ⟨hw, rfl, rfl, hne⟩ := round_cont c rfl hb hr
    refine ⟨?_, ⟨rfl, h2⟩, h3.imp ?_ ?_⟩
    · rw [← hw]
      exact (List.prefix_append_right_inj _).2 h1
    · rintro ⟨a, b, d⟩
      refine ⟨List.forall_mem_cons.2 ⟨hne, a⟩, ?_, ?_⟩
      · rw [← hw, ← b]; rfl
      · show r.ret = _
        rw [d, ← hw, List.length_append]; omega
    · rintro ⟨e, a, ⟨c', hc', hce⟩, b, d⟩
      refine ⟨e, a, ⟨c', List.mem_cons_of_mem _ hc', hce⟩, b, ?_⟩
      simp only [writtenAll_cons, List.length_append, Int.natCast_add, ← Int.add_assoc]
      exact d

theorem writeLoop_work_bound (iovmax : Nat) (os extra : List Outcome) (off : Int) (bufs : List (List α))
    (total : Int) :
    ((writeLoop iovmax os off bufs total).calls.filter (fun c => notEintr c.out)).length ≤ workLeft bufs ∧
    (workLeft bufs ≤ (os.filter notEintr).length →
      writeLoop iovmax (os ++ extra) off bufs total = writeLoop iovmax os off bufs total) := by
  fun_induction writeLoop iovmax os off bufs total with
  | case1 os off bufs total chunk hs =>
    exact ⟨Nat.zero_le _, fun _ => writeLoop_done hs⟩
  | case2 off bufs total chunk sys hs =>
    have := workLeft_pos (chunk_ne_nil hs)
    exact ⟨this, fun h => absurd this (Nat.not_lt.2 h)⟩
  | case3 off bufs total chunk sys hs o os c r e hr =>
    refine ⟨Nat.le_trans (List.length_filter_le _ _) (workLeft_pos (chunk_ne_nil hs)), fun _ => ?_⟩
    rw [List.cons_append, writeLoop_cons hs, hr]
  | case4 off bufs total chunk sys hs o os c off' bufs' total' hr r ih =>
    have := round_cont_workLeft (chunk_ne_nil hs) hr
    simp only [← List.countP_eq_length_filter, List.countP_cons] at ih ⊢
    refine ⟨Nat.le_trans (Nat.add_le_add_right ih.1 _) this, fun h => ?_⟩
    rw [List.cons_append, writeLoop_cons hs, hr]
    dsimp only
    rw [ih.2 (by omega)]

theorem writeLoop_eintr_filter (iovmax : Nat) (os : List Outcome) (off : Int) (bufs : List (List α)) (total : Int) :
    writeLoop iovmax (os.filter notEintr) off bufs total =
      { writeLoop iovmax os off bufs total with
        calls := (writeLoop iovmax os off bufs total).calls.filter (fun c => notEintr c.out) } := by
  fun_induction writeLoop iovmax os off bufs total with
  | case1 os off bufs total chunk hs => exact writeLoop_done hs
  | case2 off bufs total chunk sys hs => rw [List.filter_nil, writeLoop_nil hs]; rfl
  | case3 off bufs total chunk sys hs o os c r e hr =>
    have ho : notEintr o = true := notEintr_of_ne fun h => by rw [h] at hr; cases hr
    rw [List.filter_cons, if_pos ho, writeLoop_cons hs, hr]
    simp only [List.filter_cons, c, ho]; rfl
  | case4 off bufs total chunk sys hs o os c off' bufs' total' hr r ih =>
    by_cases ho : o = .fail EINTR
    · subst ho
      cases hr
      rw [List.filter_cons, if_neg (by simp), ih]
      simp [c, r]
    · have ho := notEintr_of_ne ho
      rw [List.filter_cons, if_pos ho, writeLoop_cons hs, hr]
      simp only [ih, List.filter_cons, c, ho]; rfl

end

theorem scatter_lengths (bufs : List (List α)) (d : List α) :
    (scatter bufs d).map List.length = bufs.map List.length := by
  induction bufs generalizing d with
  | nil => rfl
  | cons b bs ih =>
    simp only [scatter, List.map_cons, ih, List.length_append, List.length_take, List.length_drop]
    congr 1; omega

theorem scatter_flatten (bufs : List (List α)) (d : List α) (h : d.length ≤ bufs.flatten.length) :
    (scatter bufs d).flatten = d ++ bufs.flatten.drop d.length := by
  induction bufs generalizing d with
  | nil => rw [List.eq_nil_of_length_eq_zero (Nat.le_zero.1 h)]; rfl
  | cons b bs ih =>
    rw [List.flatten_cons, List.length_append] at h
    rw [scatter, List.flatten_cons, List.flatten_cons, ih _ (by rw [List.length_drop]; omega), List.drop_append,
      List.length_drop]
    by_cases hd : d.length ≤ b.length
    · rw [List.take_of_length_le hd, List.drop_eq_nil_of_le hd, List.append_assoc, List.nil_append]
    · rw [List.drop_eq_nil_of_le (Nat.le_of_not_le hd), List.append_nil, ← List.append_assoc, List.take_append_drop,
        List.nil_append]

theorem fsRead_some {iovmax : Nat} {off : Int} {bufs : List (List α)} {o : Outcome} {src : List α} {sys : Sys}
    (h : readSys off (bufs.take iovmax).length = some sys) :
    fsRead iovmax off bufs o src =
      match o with
      | .ok n =>
        ⟨n, 0, [⟨sys, off, bufs.take iovmax, o⟩], scatter (bufs.take iovmax) (src.take n) ++ bufs.drop iovmax⟩
      | .fail e => ⟨-1, e, [⟨sys, off, bufs.take iovmax, o⟩], bufs⟩ := by
  cases o <;> simp only [fsRead, h]

end UvModel.FsBuf
