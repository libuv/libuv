import UvModel.Lemmas.LoopPhaseSteps
/-!
  Request accounting: `loop->active_reqs.count` equals the number of owed request records.

  Every owed request is *held* by at most one queue slot: the thread-pool queues
  (`running`, `poolQ`, `doneQ`, `doneLocal`, `ringQ`) or a handle record (`wq`, `wcq`, `connReq`).
  `cnt e x s` counts the slots holding request `x` (`e = some id`: the connect request of handle `id`
  is not counted — the window inside `uv__stream_destroy` where the request is already unregistered
  while `connect_req` is cleared only after the callback).  `RInv e s`: `ar = |reqs|`, every request id
  is held at most as often as it is owed, owed at most once, and ids are below `nextReq`.
  Registration adds one record and one slot (`RInv.register`); a completion removes the record of a
  request that sits in a slot, together with that slot (`RInv.complete`); everything else only moves
  or drops slots (`RLe`).
-/
namespace UvModel.Loop
open UvModel.HandleKernels
namespace Reqs

def hp (h : Handle) : Nat × List Nat × List (Nat × Int) × Option Nat := (h.id, h.wq, h.wcq, h.connReq)

def rq (s : State) :=
  (s.ar, s.reqs, s.nextReq, s.running, s.poolQ, s.doneQ, s.doneLocal, s.ringQ, s.handles.map hp)

/-- occurrences of request `x` as first component -/
def cp {β : Type} (x : Nat) (l : List (Nat × β)) : Nat := l.countP (·.1 == x)

def hcW (x : Nat) (h : Handle) : Nat := h.wq.count x + cp x h.wcq
def hcC (x : Nat) (h : Handle) : Nat := if h.connReq = some x then 1 else 0

/-- slots of the handle records holding `x`; the connect request is skipped for the *first* record with id `e`
    only (the one `getH` finds), hence `none` for the tail -/
def hcnt (e : Option Nat) (x : Nat) : List Handle → Nat
  | [] => 0
  | h :: t => if e = some h.id then hcW x h + hcnt none x t else hcW x h + hcC x h + hcnt e x t

def wcnt (x : Nat) (s : State) : Nat :=
  (if s.running = some x then 1 else 0) + s.poolQ.count x + cp x s.doneQ + cp x s.doneLocal + s.ringQ.count x

def cnt (e : Option Nat) (x : Nat) (s : State) : Nat := wcnt x s + hcnt e x s.handles
def idc (x : Nat) (s : State) : Nat := s.reqs.countP (·.id == x)

def RInv (e : Option Nat) (s : State) : Prop :=
  s.ar = s.reqs.length ∧ (∀ x, cnt e x s ≤ idc x s) ∧ (∀ x, idc x s ≤ 1) ∧ (∀ x, s.nextReq ≤ x → idc x s = 0)

def RLe (s s' : State) : Prop :=
  s'.ar = s.ar ∧ s'.reqs = s.reqs ∧ s'.nextReq = s.nextReq ∧ ∀ e x, cnt e x s' ≤ cnt e x s

theorem hcnt_congr {hs hs' : List Handle} (h : hs.map hp = hs'.map hp) (e : Option Nat) (x : Nat) :
    hcnt e x hs = hcnt e x hs' := by
  induction hs generalizing hs' e with
  | nil => cases hs' with
    | nil => rfl
    | cons _ _ => simp at h
  | cons a t ih =>
    cases hs' with
    | nil => simp at h
    | cons b t' =>
      simp only [List.map_cons, List.cons.injEq, hp, Prod.mk.injEq] at h
      obtain ⟨⟨h1, h2, h3, h4⟩, h5⟩ := h
      simp only [hcnt, hcW, hcC, h1, h2, h3, h4, ih h5]

theorem cnt_of_rq {s s' : State} (h : rq s' = rq s) (e : Option Nat) (x : Nat) : cnt e x s' = cnt e x s := by
  simp only [rq, Prod.mk.injEq] at h
  obtain ⟨_, _, _, h4, h5, h6, h7, h7', h8⟩ := h
  simp only [cnt, wcnt, h4, h5, h6, h7, h7', hcnt_congr h8]

theorem RLe.refl (s : State) : RLe s s := ⟨rfl, rfl, rfl, fun _ _ => Nat.le_refl _⟩
theorem RLe.trans {a b c : State} (h1 : RLe a b) (h2 : RLe b c) : RLe a c :=
  ⟨h2.1.trans h1.1, h2.2.1.trans h1.2.1, h2.2.2.1.trans h1.2.2.1, fun e x => Nat.le_trans (h2.2.2.2 e x) (h1.2.2.2 e x)⟩
theorem RLe.of_rq {s s' : State} (h : rq s' = rq s) : RLe s s' := by
  have hc := cnt_of_rq h
  simp only [rq, Prod.mk.injEq] at h
  exact ⟨h.1, h.2.1, h.2.2.1, fun e x => Nat.le_of_eq (hc e x)⟩
theorem RLe.inv {s s' : State} {e : Option Nat} (h : RLe s s') (hi : RInv e s) : RInv e s' := by
  obtain ⟨h1, h2, h3, h4⟩ := h
  obtain ⟨i1, i2, i3, i4⟩ := hi
  refine ⟨by rw [h1, h2]; exact i1, ?_, ?_, ?_⟩
  · intro x; have := h4 e x; have := i2 x; simp only [idc, h2] at *; omega
  · intro x; simp only [idc, h2]; exact i3 x
  · intro x hx; simp only [idc, h2]; rw [h3] at hx; exact i4 x hx
theorem RLe.rq_left {a a' b : State} (h : rq a' = rq a) (h2 : RLe a' b) : RLe a b := (RLe.of_rq h).trans h2
theorem RInv.of_rq {s s' : State} {e : Option Nat} (h : rq s' = rq s) (hi : RInv e s) : RInv e s' := (RLe.of_rq h).inv hi

theorem countP_id_filter (l : List Req) (x r : Nat) :
    (l.filter (·.id != r)).countP (·.id == x) = if x = r then 0 else l.countP (·.id == x) := by
  rw [List.countP_filter]
  split
  · rename_i h; subst h; exact List.countP_eq_zero.mpr (by simp)
  · rename_i h
    refine List.countP_congr fun a _ => ?_
    have : a.id = x → a.id ≠ r := fun h1 => h1 ▸ h
    simpa using this

theorem length_id_filter (l : List Req) (r : Nat) :
    (l.filter (·.id != r)).length + l.countP (·.id == r) = l.length := by
  rw [← List.countP_eq_length_filter, Nat.add_comm, List.length_eq_countP_add_countP (·.id == r) (l := l)]
  exact congrArg _ (List.countP_congr fun a _ => by simp [bne])

/-! ### the two generic transitions: registration and completion -/
theorem RInv.register {e : Option Nat} {s s' : State} (k : ReqKind) (hi : RInv e s)
    (har : s'.ar = reqRegister s.ar) (hr : s'.reqs = s.reqs ++ [({ id := s.nextReq, kind := k } : Req)])
    (hn : s'.nextReq = s.nextReq + 1)
    (hc : ∀ x, cnt e x s' ≤ cnt e x s + (if x = s.nextReq then 1 else 0)) : RInv e s' := by
  obtain ⟨i1, i2, i3, i4⟩ := hi
  have hid : ∀ x, idc x s' = idc x s + (if x = s.nextReq then 1 else 0) := by
    intro x
    simp only [idc, hr, List.countP_append, List.countP_cons, List.countP_nil, Nat.zero_add]
    by_cases hx : x = s.nextReq
    · subst hx; simp
    · have : (s.nextReq == x) = false := by simp; omega
      simp [hx, this]
  refine ⟨by rw [har, hr, i1]; simp [reqRegister], ?_, ?_, ?_⟩
  · intro x; have := hc x; have := i2 x; rw [hid]; omega
  · intro x; rw [hid]
    split
    · rename_i hx; have := i4 x (by omega); omega
    · have := i3 x; omega
  · intro x hx; rw [hid, hn] at *
    have := i4 x (by omega)
    have : x ≠ s.nextReq := by omega
    simp [*]

/-- completion of `r`: one holder of `r` disappears together with the record -/
theorem RInv.complete {e e' : Option Nat} {s s' : State} (r : Nat) (hi : RInv e s)
    (har : s'.ar = reqUnregister s.ar) (hr : s'.reqs = s.reqs.filter (·.id != r))
    (hn : s'.nextReq = s.nextReq)
    (hc : ∀ x, cnt e' x s' + (if x = r then 1 else 0) ≤ cnt e x s) : RInv e' s' := by
  obtain ⟨i1, i2, i3, i4⟩ := hi
  have hid : ∀ x, idc x s' = if x = r then 0 else idc x s := by
    intro x; simp only [idc, hr]; exact countP_id_filter _ _ _
  have h1 : idc r s = 1 := by
    have := hc r; have := i2 r; have := i3 r; simp at *; omega
  refine ⟨?_, ?_, ?_, ?_⟩
  · have := length_id_filter s.reqs r
    simp only [idc] at h1
    rw [har, hr, i1]; simp only [reqUnregister]; omega
  · intro x; have := hc x; have := i2 x; rw [hid]
    split
    · rename_i hx; subst hx; simp at *; omega
    · rename_i hx; simp [hx] at *; omega
  · intro x; rw [hid]; split
    · omega
    · exact i3 x
  · intro x hx; rw [hid]; split
    · rfl
    · exact i4 x (by omega)

/-- contribution of one handle record -/
def hcK (e : Option Nat) (x : Nat) (h : Handle) : Nat := if e = some h.id then hcW x h else hcW x h + hcC x h

/-- `modH` rewrites exactly the record `getH` returns -/
theorem hcnt_updH {hs : List Handle} {id : Nat} {h : Handle} (g : Handle → Handle) (hg : ∀ h, (g h).id = h.id)
    (hf : hs.find? (·.id == id) = some h) (e : Option Nat) (x : Nat) :
    hcnt e x (updH hs id g) + hcK e x h = hcnt e x hs + hcK e x (g h) := by
  induction hs generalizing e with
  | nil => simp at hf
  | cons a t ih =>
    by_cases ha : (a.id == id) = true
    · simp only [List.find?, ha, Option.some.injEq] at hf
      subst hf
      simp only [updH, ha, if_true, hcnt, hcK, hg]
      split <;> omega
    · have ha' : (a.id == id) = false := by simpa using ha
      simp only [List.find?, ha'] at hf
      simp only [updH, ha', Bool.false_eq_true, if_false, hcnt]
      have hid := find_id hf
      split
      · rename_i he
        have hne : ¬ (e = some h.id) := by
          rw [he, hid]; intro h0; simp at ha'; simp at h0; exact ha' h0
        have := ih hf none
        simp only [hcK, hg, hne, if_false] at this ⊢
        simp only [reduceCtorEq, if_false] at this
        omega
      · have := ih hf e
        omega

theorem updH_none {hs : List Handle} {id : Nat} (g : Handle → Handle) (hf : hs.find? (·.id == id) = none) :
    updH hs id g = hs := by
  induction hs with
  | nil => rfl
  | cons a t ih =>
    by_cases ha : (a.id == id) = true
    · simp [List.find?, ha] at hf
    · have ha' : (a.id == id) = false := by simpa using ha
      simp only [List.find?, ha'] at hf
      simp [updH, ha', ih hf]

theorem hcnt_skip_le (hs : List Handle) (e : Option Nat) (x : Nat) : hcnt e x hs ≤ hcnt none x hs := by
  induction hs generalizing e with
  | nil => exact Nat.le_refl _
  | cons a t ih =>
    simp only [hcnt, reduceCtorEq, if_false]
    split
    · omega
    · have := ih e; omega

theorem hcnt_filter_le (hs : List Handle) (p : Handle → Bool) (e : Option Nat) (x : Nat) :
    hcnt e x (hs.filter p) ≤ hcnt e x hs := by
  induction hs generalizing e with
  | nil => exact Nat.le_refl _
  | cons a t ih =>
    simp only [List.filter]
    cases p a with
    | true =>
      simp only [hcnt]
      split
      · have := ih none; omega
      · have := ih e; omega
    | false =>
      simp only [hcnt]
      split
      · have := ih none; have := hcnt_skip_le (t.filter p) e x; omega
      · have := ih e; omega

theorem hcnt_append_empty (hs : List Handle) (n : Handle) (h1 : n.wq = []) (h2 : n.wcq = []) (h3 : n.connReq = none)
    (e : Option Nat) (x : Nat) : hcnt e x (hs ++ [n]) = hcnt e x hs := by
  induction hs generalizing e with
  | nil => simp [hcnt, hcW, hcC, cp, h1, h2, h3]
  | cons a t ih => simp only [List.cons_append, hcnt, ih]

/-- the skipped connect request of the first record `id` -/
theorem hcnt_skip {hs : List Handle} {id : Nat} {h : Handle} (hf : hs.find? (·.id == id) = some h) (x : Nat) :
    hcnt (some id) x hs + hcC x h = hcnt none x hs := by
  induction hs with
  | nil => simp at hf
  | cons a t ih =>
    by_cases ha : (a.id == id) = true
    · simp only [List.find?, ha, Option.some.injEq] at hf
      subst hf
      have : a.id = id := by simpa using ha
      simp only [hcnt, this, if_true]
      simp; omega
    · have ha' : (a.id == id) = false := by simpa using ha
      simp only [List.find?, ha'] at hf
      have hne : ¬ (some id = some a.id) := by simp at ha' ⊢; omega
      simp only [hcnt, hne, if_false]
      have := ih hf
      simp; omega

theorem hcnt_clear_conn (hs : List Handle) (id : Nat) (x : Nat) :
    hcnt none x (updH hs id (fun h => { h with connReq := none })) = hcnt (some id) x hs := by
  induction hs with
  | nil => rfl
  | cons a t ih =>
    by_cases ha : (a.id == id) = true
    · have : a.id = id := by simpa using ha
      simp [updH, hcnt, this, hcW, hcC]
    · have ha' : (a.id == id) = false := by simpa using ha
      have hne : ¬ (some id = some a.id) := by simp at ha' ⊢; omega
      simp only [updH, ha', hcnt, hne, if_false, ih, Bool.false_eq_true, reduceCtorEq]

theorem RInv.owed_of_held {e : Option Nat} {s : State} (hi : RInv e s) {r : Nat} (h : 0 < cnt e r s) : idc r s = 1 := by
  have := hi.2.1 r; have := hi.2.2.1 r; omega

/-! ### `rq` is part of the request view -/
theorem rq_of_rview {s s' : State} (h : rview s' = rview s) : rq s' = rq s := by
  simp only [rview, Prod.mk.injEq] at h
  have hh : s'.handles.map hp = s.handles.map hp := by
    have := congrArg (List.map fun q => (q.1, q.2.2)) h.1
    rw [List.map_map, List.map_map] at this
    exact this
  simp only [rq, h, hh]
theorem rq_of_key {s s' : State} (h : key s' = key s) : rq s' = rq s := rq_of_rview (rview_of_key h)

@[simp] theorem rq_withKernel (s : State) (id : Nat) (k : HK → HK) : rq (withKernel s id k) = rq s := rfl
@[simp] theorem rq_invalidate (s : State) (id : Nat) : rq (invalidate s id) = rq s := rfl
@[simp] theorem rq_makeClosePending (s : State) (id : Nat) : rq (makeClosePending s id) = rq s := rfl
@[simp] theorem rq_emit (s : State) (e : Event) : rq (emit s e) = rq s := by
  unfold emit; split <;> rfl
theorem rq_asyncSend (s : State) (id : Nat) : rq (asyncSend s id) = rq s := rq_of_key (key_asyncSend s id)
theorem rq_cbEv (ph : Phase) (k : CbKind) (id : Nat) (a b : Int) (s : State) : rq (cbEv ph k id a b s) = rq s :=
  rq_emit ..

theorem cp_append {β : Type} (x : Nat) (l l' : List (Nat × β)) : cp x (l ++ l') = cp x l + cp x l' := by
  simp [cp, List.countP_append]
theorem cp_map_pair {β : Type} (x : Nat) (l : List Nat) (c : β) : cp x (l.map (fun r => (r, c))) = l.count x := by
  induction l with
  | nil => rfl
  | cons a t ih =>
    simp only [cp, List.map_cons, List.countP_cons, List.count_cons] at ih ⊢
    rw [ih]
theorem cp_cons {β : Type} (x : Nat) (a : Nat × β) (l : List (Nat × β)) :
    cp x (a :: l) = cp x l + (if a.1 = x then 1 else 0) := by
  simp [cp, List.countP_cons]
theorem cp_filter_le {β : Type} (x : Nat) (p : Nat × β → Bool) (l : List (Nat × β)) : cp x (l.filter p) ≤ cp x l :=
  List.filter_sublist.countP_le
theorem cp_filter_ne {x r : Nat} (hx : x ≠ r) (b : Bool) (l : List (Nat × Bool)) :
    cp x (l.filter (· != (r, b))) = cp x l := by
  simp only [cp, List.countP_filter]
  refine List.countP_congr fun a _ => ?_
  have : a.1 = x → a ≠ (r, b) := fun h1 h2 => hx (by rw [← h1, h2])
  simpa using this
theorem cp_filter_mem {r : Nat} (b : Bool) (l : List (Nat × Bool)) (h : (r, b) ∈ l) :
    cp r (l.filter (· != (r, b))) + 1 ≤ cp r l := by
  induction l with
  | nil => simp at h
  | cons a t ih =>
    simp only [List.filter]
    split
    · rename_i hne
      have hne' : a ≠ (r, b) := by simpa using hne
      rcases List.mem_cons.mp h with h | h
      · exact absurd h.symm hne'
      · have := ih h; simp only [cp_cons]; omega
    · rename_i heq
      have : a = (r, b) := by simpa using heq
      subst this
      have := cp_filter_le r (· != (r, b)) t
      simp only [cp_cons]; simp; omega
theorem count_filter_ne {x r : Nat} (hx : x ≠ r) (l : List Nat) : (l.filter (· != r)).count x = l.count x :=
  List.count_filter (by simpa using hx)
theorem count_filter_self (r : Nat) (l : List Nat) : (l.filter (· != r)).count r = 0 :=
  List.count_eq_zero.mpr (by simp)

theorem cnt_modH {s : State} {id : Nat} {h : Handle} (g : Handle → Handle) (hg : ∀ h, (g h).id = h.id)
    (hf : getH s id = some h) (e : Option Nat) (x : Nat) :
    cnt e x (modH s id g) + hcK e x h = cnt e x s + hcK e x (g h) := by
  have := hcnt_updH g hg hf e x
  show wcnt x s + hcnt e x (updH s.handles id g) + _ = _
  simp only [cnt]
  omega

theorem modH_none {s : State} {id : Nat} (g : Handle → Handle) (hf : getH s id = none) : modH s id g = s := by
  simp only [modH, updH_none g hf]

/-- a `modH` that keeps ar/reqs/nextReq and does not increase the record's contribution -/
theorem modH_rle (s : State) (id : Nat) (g : Handle → Handle) (hg : ∀ h, (g h).id = h.id)
    (hk : ∀ e x h, hcK e x (g h) ≤ hcK e x h) : RLe s (modH s id g) := by
  refine ⟨rfl, rfl, rfl, ?_⟩
  intro e x
  cases hf : getH s id with
  | none => rw [modH_none g hf]; exact Nat.le_refl _
  | some h => have := cnt_modH g hg hf e x; have := hk e x h; omega

theorem addHandle_rle (s : State) (k : Kind) : RLe s (addHandle s k) := by
  refine ⟨rfl, rfl, rfl, ?_⟩
  intro e x
  simp only [cnt, addHandle, wcnt]
  rw [hcnt_append_empty _ _ rfl rfl rfl]
  exact Nat.le_refl _

theorem initH_rle (s : State) (k : Kind) : RLe s (initH s k) := by
  unfold initH
  simp only
  have ha := addHandle_rle s k
  cases k with
  | timer => exact ha.trans (RLe.of_rq rfl)
  | async => exact ha.trans (RLe.of_rq rfl)
  | poll => exact ha.trans (RLe.of_rq (rq_of_key (key_modH _ _ _ (fun _ => rfl))))
  | _ => exact ha

theorem modH_move_rle (s : State) (id : Nat) (st : Int) :
    RLe s (modH s id (fun h => { h with wcq := h.wcq ++ h.wq.map (fun r => (r, st)), wq := [] })) := by
  refine modH_rle s id _ (fun _ => rfl) ?_
  intro e x h
  simp only [hcK, hcW, hcC, cp_append, cp_map_pair, List.count_nil]
  split <;> omega

theorem udpSendEnqueue_rinv {e : Option Nat} (s : State) (id : Nat) (hi : RInv e s) : RInv e (udpSendEnqueue s id) := by
  refine RInv.register (.udpSend id) hi rfl rfl rfl ?_
  intro x
  unfold udpSendEnqueue
  simp only
  generalize hs1 : ({ s with ar := reqRegister s.ar, reqs := s.reqs ++ [({ id := s.nextReq, kind := .udpSend id } : Req)], nextReq := s.nextReq + 1 } : State) = s1
  have h1 : cnt e x s1 = cnt e x s := by subst hs1; rfl
  cases hf : getH s1 id with
  | none => rw [modH_none _ hf, h1]; omega
  | some h =>
    have := cnt_modH (fun h => { h with io := { h.io with hasFd := true }, sqc := h.sqc + 1, wq := h.wq ++ [s.nextReq] })
      (fun _ => rfl) hf e x
    simp only [hcK, hcW, hcC, List.count_append, List.count_cons, List.count_nil] at this
    have h2 : ((s.nextReq == x) = true) ↔ x = s.nextReq := by simp; omega
    by_cases hx : x = s.nextReq
    · subst hx
      simp only [BEq.rfl, if_true] at this ⊢
      split at this <;> omega
    · have h3 : (s.nextReq == x) = false := by simp; omega
      simp only [h3, hx, if_false] at this ⊢
      split at this <;> simp at this <;> omega

theorem connect_rinv {e : Option Nat} (s : State) (id : Nat) (hi : RInv e s)
    (hn : ∀ h, getH s id = some h → h.connReq = none) :
    RInv e (modH { s with ar := reqRegister s.ar, reqs := s.reqs ++ [({ id := s.nextReq, kind := .connect id } : Req)],
                          nextReq := s.nextReq + 1 } id fun h => { h with connReq := some s.nextReq }) := by
  refine RInv.register (.connect id) hi rfl rfl rfl ?_
  intro x
  generalize hs1 : ({ s with ar := reqRegister s.ar, reqs := s.reqs ++ [({ id := s.nextReq, kind := .connect id } : Req)], nextReq := s.nextReq + 1 } : State) = s1
  have h1 : cnt e x s1 = cnt e x s := by subst hs1; rfl
  have h0 : getH s1 id = getH s id := by subst hs1; rfl
  cases hf : getH s1 id with
  | none => rw [modH_none _ hf, h1]; omega
  | some h =>
    have hc := hn h (by rw [← h0, hf])
    have := cnt_modH (fun h => { h with connReq := some s.nextReq }) (fun _ => rfl) hf e x
    simp only [hcK, hcW, hcC, hc] at this
    by_cases hx : x = s.nextReq
    · subst hx
      simp only [if_true] at this ⊢
      split at this <;> simp at this <;> omega
    · have h3 : ¬ (s.nextReq = x) := by omega
      simp only [hx, if_false] at this ⊢
      split at this <;> simp [h3] at this <;> omega

/-- the registration half of uv__work_submit -/
theorem workSubmit_reg (s : State) (api : Api) :
    (workSubmit s api).ar = reqRegister s.ar ∧
    (workSubmit s api).reqs = s.reqs ++ [({ id := s.nextReq, kind := .work api } : Req)] ∧
    (workSubmit s api).nextReq = s.nextReq + 1 := by
  unfold workSubmit; simp only; split
  · split
    · exact ⟨rfl, rfl, rfl⟩
    · refine (?_ : ∀ t : State, rq (asyncSend t 1) = rq t → (asyncSend t 1).ar = t.ar ∧ (asyncSend t 1).reqs = t.reqs ∧
        (asyncSend t 1).nextReq = t.nextReq) _ (rq_asyncSend _ 1)
      intro t h
      simp only [rq, Prod.mk.injEq] at h; exact ⟨h.1, h.2.1, h.2.2.1⟩
  · exact ⟨rfl, rfl, rfl⟩

theorem workSubmit_rinv {e : Option Nat} (s : State) (api : Api) (hi : RInv e s) : RInv e (workSubmit s api) := by
  obtain ⟨h1, h2, h3⟩ := workSubmit_reg s api
  refine RInv.register (.work api) hi h1 h2 h3 ?_
  intro x
  unfold workSubmit
  simp only
  split
  · rename_i hr
    split
    · simp only [cnt, wcnt, hr]
      by_cases hx : x = s.nextReq
      · simp [hx]; omega
      · have : ¬ (s.nextReq = x) := by omega
        simp [hx, this]
    · rw [cnt_of_rq (rq_asyncSend _ 1)]
      simp only [cnt, wcnt, hr, cp_append, cp_cons]
      by_cases hx : x = s.nextReq
      · simp [hx, cp]; omega
      · have h' : ¬ (s.nextReq = x) := by omega
        simp [hx, h', cp]
  · rename_i hr
    simp only [cnt, wcnt, hr, List.count_append, List.count_cons, List.count_nil]
    by_cases hx : x = s.nextReq
    · simp [hx]; omega
    · have : (s.nextReq == x) = false := by simp; omega
      simp [hx, this]

theorem ringSubmit_rinv {e : Option Nat} (s : State) (api : Api) (hi : RInv e s) : RInv e (ringSubmit s api) := by
  refine RInv.register (.ring api) hi rfl rfl rfl ?_
  intro x
  show wcnt x (ringSubmit s api) + hcnt e x s.handles ≤ wcnt x s + hcnt e x s.handles + _
  simp only [ringSubmit, wcnt, List.count_append, List.count_cons, List.count_nil]
  by_cases hx : x = s.nextReq
  · simp [hx]; omega
  · have : (s.nextReq == x) = false := by simp; omega
    by_cases hrn : s.running = some x <;> simp [hx, this, hrn]

/-- uv__poll_io_uring reading the completion queue: ids move from `ringQ` to `doneLocal` -/
theorem ringTake_rle (s : State) (cq : List Nat) : RLe s (ringTake s cq) := by
  induction cq generalizing s with
  | nil => exact RLe.refl _
  | cons r t ih =>
    rw [ringTake_cons]
    split
    · rename_i hc
      refine RLe.trans ?_ (ih _)
      refine ⟨rfl, rfl, rfl, ?_⟩
      intro e x
      simp only [cnt, wcnt, cp_append, cp_cons]
      by_cases hx : x = r
      · subst hx
        have h2 : 0 < s.ringQ.count x := List.count_pos_iff.mpr (by simpa using hc)
        have h1 : (s.ringQ.erase x).count x = s.ringQ.count x - 1 := List.count_erase_self
        simp [cp, h1]; omega
      · have h1 : (s.ringQ.erase r).count x = s.ringQ.count x := List.count_erase_of_ne hx
        have : ¬ (r = x) := by omega
        simp [cp, h1, this]
    · exact ih s

theorem workCancel_rle (s : State) (r : Nat) : RLe s (workCancel s r).1 := by
  unfold workCancel
  split
  · rename_i hc
    refine RLe.trans ?_ (RLe.of_rq (rq_asyncSend _ 1))
    refine ⟨rfl, rfl, rfl, ?_⟩
    intro e x
    simp only [cnt, wcnt, cp_append, cp_cons]
    by_cases hx : x = r
    · subst hx
      have h1 := count_filter_self x s.poolQ
      have h2 : 0 < s.poolQ.count x := List.count_pos_iff.mpr (by simpa using hc)
      simp [cp, h1]; omega
    · have h1 := count_filter_ne hx s.poolQ
      have : ¬ (r = x) := by omega
      simp [cp, h1, this]
  · split
    · rename_i hc
      refine RLe.trans ?_ (RLe.of_rq (rq_asyncSend _ 1))
      refine ⟨rfl, rfl, rfl, ?_⟩
      intro e x
      simp only [cnt, wcnt, cp_append, cp_cons]
      by_cases hx : x = r
      · subst hx
        have h1 := cp_filter_le x (· != (x, true)) s.doneQ
        have h2 := cp_filter_le x (· != (x, true)) s.doneLocal
        simp only [Bool.or_eq_true, List.contains_iff_mem] at hc
        rcases hc with hc | hc
        · have := cp_filter_mem true s.doneQ hc
          simp [cp] at *; omega
        · have := cp_filter_mem true s.doneLocal hc
          simp [cp] at *; omega
      · have h1 := cp_filter_ne hx true s.doneQ
        have h2 := cp_filter_ne hx true s.doneLocal
        have : ¬ (r = x) := by omega
        simp [cp, this] at *; omega
    · exact RLe.refl _

theorem completeWorks_rle (s : State) (k : Nat) : RLe s (completeWorks s k) := by
  unfold completeWorks
  split
  · exact RLe.refl _
  · simp only
    refine RLe.trans ?_ (RLe.of_rq (rq_asyncSend _ 1))
    refine ⟨rfl, rfl, rfl, ?_⟩
    intro e x
    simp only [cnt, wcnt, cp_append, cp_map_pair]
    generalize hall : s.running.toList ++ s.poolQ = all
    have h1 : all.count x = (if s.running = some x then 1 else 0) + s.poolQ.count x := by
      rw [← hall, List.count_append]
      cases s.running with
      | none => simp
      | some a => simp [List.count_cons]
    have h2 : (all.take k).count x + (all.drop k).count x = all.count x := by
      rw [← List.count_append, List.take_append_drop]
    have h3 : (if (all.drop k).head? = some x then 1 else 0) + (all.drop k).tail.count x = (all.drop k).count x := by
      cases all.drop k with
      | nil => simp
      | cons a t => simp [List.count_cons]; omega
    omega

end Reqs
open Reqs

theorem ReqStep.rinv {e : Option Nat} : ∀ {s s' : State}, ReqStep s s' → RInv e s → RInv e s'
  | _, _, .move s id st _, hi => (modH_move_rle s id st).inv hi
  | _, _, .enqueue s id _, hi => udpSendEnqueue_rinv s id hi
  | _, _, .connect s id _ hn, hi => connect_rinv s id hi hn
  | _, _, .work s api, hi => workSubmit_rinv s api hi
  | _, _, .ring s api, hi => ringSubmit_rinv s api hi
  | _, _, .cancel s r, hi => (workCancel_rle s r).inv hi
  | _, _, .complete s k, hi => (completeWorks_rle s k).inv hi
  | _, _, .detach s, hi => by
    refine RLe.inv (s := s) ⟨rfl, rfl, rfl, fun e x => ?_⟩ hi
    simp only [cnt, wcnt, cp, List.countP_nil]
    omega
  | _, _, .take s cq, hi => (ringTake_rle s cq).inv hi

theorem OpStep.rinv {e : Option Nat} {q : Bool} {u : Option Nat} {s s' : State} (h : OpStep q u s s') : RInv e s → RInv e s' := by
  induction h with
  | frame h => exact RInv.of_rq (rq_of_key h)
  | trans _ _ ih1 ih2 => exact fun hi => ih2 (ih1 hi)
  | kern h => exact RInv.of_rq (rq_of_rview h.rview)
  | req h => exact h.rinv
  | unwatch => exact RInv.of_rq rfl
  | init s k => exact (initH_rle s k).inv
  | close => exact RInv.of_rq rfl

theorem Reqs.stepOp_rinv {e : Option Nat} (s : State) (o : Op) (hi : RInv e s) : RInv e (stepOp s o) :=
  RInv.of_rq ((rq_emit ..).trans (rq_emit ..)) ((applyOp_step s o).rinv hi)

theorem CbStep.rinv {e : Option Nat} {s s' : State} (h : CbStep s s') : RInv e s → RInv e s' := by
  induction h with
  | quiet h => exact h.rinv
  | call s o => exact stepOp_rinv s o
  | emit s ev _ => exact RInv.of_rq (rq_emit s ev)
  | trans _ _ ih1 ih2 => exact fun hi => ih2 (ih1 hi)

namespace Reqs

theorem foldl_stepOp_rinv {e : Option Nat} (ops : List Op) (s : State) (hi : RInv e s) : RInv e (ops.foldl stepOp s) :=
  (foldl_stepOp_cb ops s).rinv hi

theorem runCb_rinv {e : Option Nat} (sc : Script) (ph : Phase) (k : CbKind) (key : CbKey) (id : Nat) (a b : Int) (occ : Nat)
    (s : State) (hi : RInv e s) : RInv e (runCb sc ph k key id a b occ s) :=
  (runCb_cb sc ph k key id a b occ s).rinv (RInv.of_rq (rq_cbEv ..) hi)

theorem RInv.clear_conn {s : State} {id : Nat} (hi : RInv (some id) s) :
    RInv none (modH s id (fun h => { h with connReq := none })) := by
  obtain ⟨i1, i2, i3, i4⟩ := hi
  refine ⟨i1, ?_, i3, i4⟩
  intro x
  have := i2 x
  have h2 := hcnt_clear_conn s.handles id x
  show wcnt x s + hcnt none x (updH s.handles id _) ≤ idc x s
  simp only [cnt] at this
  omega

/-! ### completion sites: the slot that is given up -/
theorem cnt_udpDone {s : State} {id r : Nat} {h : Handle} {st : Int} {rest : List (Nat × Int)}
    (hf : getH s id = some h) (hw : h.wcq = (r, st) :: rest) (a : Int) (q : List Req) (x : Nat) :
    cnt none x { modH s id (fun h => { h with wcq := rest, sqc := h.sqc - 1 }) with ar := a, reqs := q } +
      (if x = r then 1 else 0) ≤ cnt none x s := by
  show cnt none x (modH s id fun h => { h with wcq := rest, sqc := h.sqc - 1 }) + _ ≤ _
  have := cnt_modH (fun h => { h with wcq := rest, sqc := h.sqc - 1 }) (fun _ => rfl) hf none x
  simp only [hcK, hcW, hcC, hw, cp_cons, reduceCtorEq, if_false] at this
  by_cases hx : x = r
  · subst hx; simp only [if_true] at this ⊢; omega
  · have : ¬ (r = x) := by omega
    simp only [hx, this, if_false] at *; omega

theorem cnt_connDone {s : State} {id r : Nat} {h : Handle} (hf : getH s id = some h) (hr : h.connReq = some r)
    (a : Int) (q : List Req) (x : Nat) :
    cnt none x { modH s id (fun h => { h with connReq := none }) with ar := a, reqs := q } + (if x = r then 1 else 0) ≤
      cnt none x s := by
  show cnt none x (modH s id fun h => { h with connReq := none }) + _ ≤ _
  have := cnt_modH (fun h => { h with connReq := none }) (fun _ => rfl) hf none x
  simp only [hcK, hcW, hcC, hr, reduceCtorEq, if_false, Option.some.injEq] at this
  by_cases hx : x = r
  · subst hx; simp only [if_true] at this ⊢; omega
  · have : ¬ (r = x) := by omega
    simp only [hx, this, if_false] at *; omega

theorem cnt_workDone {s : State} {r : Nat} {c : Bool} {rest : List (Nat × Bool)} (hd : s.doneLocal = (r, c) :: rest)
    (a : Int) (q : List Req) (x : Nat) :
    cnt none x { s with doneLocal := rest, ar := a, reqs := q } + (if x = r then 1 else 0) ≤ cnt none x s := by
  simp only [cnt, wcnt, hd, cp_cons]
  by_cases hx : x = r
  · subst hx; simp only [if_true]; omega
  · have : ¬ (r = x) := by omega
    simp only [hx, this, if_false]; omega

/-- inside uv__stream_destroy the connect request of `id` is no longer counted -/
theorem cnt_destroy {s : State} {id r : Nat} {h : Handle} (hf : getH s id = some h) (hr : h.connReq = some r)
    (a : Int) (q : List Req) (x : Nat) :
    cnt (some id) x { s with ar := a, reqs := q } + (if x = r then 1 else 0) ≤ cnt none x s := by
  have := hcnt_skip hf x
  simp only [hcC, hr, Option.some.injEq] at this
  show wcnt x s + hcnt (some id) x s.handles + _ ≤ wcnt x s + hcnt none x s.handles
  by_cases hx : x = r
  · subst hx; simp only [if_true] at this ⊢; omega
  · have : ¬ (r = x) := by omega
    simp only [hx, this, if_false] at *; omega

/-- uv__queue_remove drops a record together with the slots it may still hold -/
theorem unlink_rle (s : State) (id : Nat) : RLe s (unlink s id) :=
  ⟨rfl, rfl, rfl, fun e x => Nat.add_le_add_left (hcnt_filter_le s.handles (·.id != id) e x) _⟩

end Reqs
open Reqs

theorem Reach0.rinv {ph : Phase} {s s' : State} (h : Reach0 ph s s') : RInv none s → RInv none s' := by
  induction h with
  | cb h => exact h.rinv
  | trans _ _ ih1 ih2 => exact fun hi => ih2 (ih1 hi)
  | handleCb => exact RInv.of_rq (rq_cbEv ..)
  | drain s id => exact (modH_move_rle s id (-125)).inv
  | watchers => exact RInv.of_rq rfl
  | udpDone s id h r st rest ph a b hf hw =>
    exact fun hi => RInv.of_rq (rq_cbEv ..) (RInv.complete r hi rfl rfl rfl (cnt_udpDone hf hw _ _))
  | connDone s id h r ph a b hf hr =>
    exact fun hi => RInv.of_rq ((rq_cbEv ..).trans (rq_of_key (key_ioStop _ (.h id) POLLOUT)))
      (RInv.complete r hi rfl rfl rfl (cnt_connDone hf hr _ _))
  | workDone s r c rest ph a b hd =>
    exact fun hi => RInv.of_rq (rq_cbEv ..) (RInv.complete r hi rfl rfl rfl (cnt_workDone hd _ _))
  | destroy s id h r s2 hf hr hcb =>
    exact fun hi => RInv.clear_conn (hcb.rinv (RInv.of_rq (rq_cbEv ..)
      (RInv.complete (e' := some id) r hi rfl rfl rfl (cnt_destroy hf hr _ _))))

theorem Reach.rinv {s s' : State} (h : Reach s s') : RInv none s → RInv none s' := by
  induction h with
  | base h => exact h.rinv
  | trans _ _ ih1 ih2 => exact fun hi => ih2 (ih1 hi)
  | halt s => exact RInv.of_rq rfl
  | ask s => exact RInv.of_rq rfl
  | polled s => exact RInv.of_rq (rq_emit ..)

theorem ReachC.rinv {s s' : State} (h : ReachC s s') : RInv none s → RInv none s' := by
  induction h with
  | base h => exact h.rinv
  | trans _ _ ih1 ih2 => exact fun hi => ih2 (ih1 hi)
  | setClosed s id => exact RInv.of_rq rfl
  | unlink s id _ => exact (unlink_rle s id).inv
  | closeCb => exact RInv.of_rq (rq_cbEv ..)
  | detach s => exact RInv.of_rq rfl
  | pop s => exact RInv.of_rq rfl

namespace Reqs

theorem runClosing_rinv (sc : Script) (s : State) (hi : RInv none s) : RInv none (runClosing sc s) :=
  (runClosing_reachC sc s).rinv hi

theorem iteration_rinv (sc : Script) (mode : Mode) (s : State) (hi : RInv none s) : RInv none (iteration sc mode s) :=
  iteration_keeps Reach.rinv runClosing_rinv sc mode s hi

theorem runMain_rinv (sc : Script) (fuel : Nat) (prog : List MainOp) (s : State) (hi : RInv none s) :
    RInv none (runMain sc fuel s prog) :=
  runMain_keeps Reach.rinv runClosing_rinv sc fuel prog s hi

theorem initLoop_rinv (clock0 : Nat) (metrics : Bool) (oracle : List PollRes) : RInv none (initLoop clock0 metrics oracle) :=
  (initLoop_step clock0 metrics oracle).rinv ⟨rfl, fun _ => Nat.le_refl _, fun _ => Nat.zero_le _, fun _ _ => rfl⟩

end Reqs
end UvModel.Loop
