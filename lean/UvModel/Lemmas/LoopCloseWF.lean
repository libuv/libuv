import UvModel.Lemmas.LoopPhaseRel
/-!
  The close bookkeeping invariant `CloseWF` (closing lists duplicate-free, their members are live records with
  CLOSING set) and the delivery count of close callbacks in `uv__run_closing_handles`.
-/
namespace UvModel.Loop
open UvModel.HandleKernels

/-- number of close callbacks delivered for handle `id` in a trace -/
def closeCbs (id : Nat) : List Event → Nat
  | [] => 0
  | .cb _ .close i _ _ :: t => (if i = id then 1 else 0) + closeCbs id t
  | _ :: t => closeCbs id t

theorem closeCbs_emit_obs (id : Nat) (s : State) : closeCbs id (emitObs s).trace = closeCbs id s.trace := by
  unfold emitObs emit; split <;> simp [closeCbs]

theorem closeCbs_emit_ne (id : Nat) (s : State) (e : Event) (he : ∀ ph i a b, e ≠ Event.cb ph .close i a b) :
    closeCbs id (emit s e).trace = closeCbs id s.trace := by
  unfold emit; split
  · rfl
  · cases e with
    | cb ph k i a b =>
      cases k <;> first | rfl | exact absurd rfl (he ph i a b)
    | _ => rfl

theorem closeCbs_stepOp (id : Nat) (s : State) (o : Op) : closeCbs id (stepOp s o).trace = closeCbs id s.trace := by
  unfold stepOp
  rw [closeCbs_emit_obs, closeCbs_emit_ne _ _ _ (fun _ _ _ _ h => by cases h)]
  exact congrArg _ (trOf (tr_applyOp s o))

theorem closeCbs_foldl (id : Nat) (ops : List Op) (s : State) :
    closeCbs id (ops.foldl stepOp s).trace = closeCbs id s.trace := by
  induction ops generalizing s with
  | nil => rfl
  | cons o t ih => simp only [List.foldl]; rw [ih, closeCbs_stepOp]

/-- a callback invocation adds exactly its own `cb` event: one close callback for `id` iff it is the
    close callback of `id`, whatever the script does inside -/
theorem runCb_closeCbs (sc : Script) (ph : Phase) (k : CbKind) (key : CbKey) (i : Nat) (a b : Int) (occ : Nat)
    (id : Nat) (s : State) (hh : s.halted = false) :
    closeCbs id (runCb sc ph k key i a b occ s).trace =
      closeCbs id s.trace + (if k = .close ∧ i = id then 1 else 0) := by
  unfold runCb
  simp only
  rw [closeCbs_emit_obs, closeCbs_emit_ne _ _ _ (fun _ _ _ _ h => by cases h), closeCbs_foldl, closeCbs_emit_obs]
  unfold emit
  simp only [hh, Bool.false_eq_true, if_false]
  cases k <;> simp [closeCbs] <;> (try (split <;> omega))

/-- outside `uv__finish_close` nothing delivers a close callback -/
def CntRel (id : Nat) (s s' : State) : Prop := closeCbs id s'.trace = closeCbs id s.trace

theorem cntRel (id : Nat) : PhaseRel (CntRel id) where
  refl := fun _ => rfl
  trans := fun h1 h2 => Eq.trans h2 h1
  keep := fun _ ht => congrArg _ ht
  emit := fun s e he => closeCbs_emit_ne id s e (fun ph i a b => he ph .close i a b)
  stepOp := fun s o => closeCbs_stepOp id s o
  cbH := fun s ph k i a b _ hk => closeCbs_emit_ne id s _ (fun _ _ _ _ h => by cases h; exact hk rfl)
  cbR := fun s ph k r a b hk => closeCbs_emit_ne id s _ (fun _ _ _ _ h => by cases h; simp at hk)
  halt := fun _ => rfl

/-- ids whose close callback is owed: the one being finished (`x`), the detached chain, `closing_handles` -/
def clList (x : Option Nat) (s : State) : List Nat := x.toList ++ s.closingLocal ++ s.closing

def CloseWF' (x : Option Nat) (s : State) : Prop :=
  (clList x s).Nodup ∧ ∀ id ∈ clList x s, id ∈ hids s ∧ ∃ f, getF s id = some f ∧ f.closing = true

/-- the close bookkeeping invariant: no handle is queued for closing twice, every queued handle still has its
    record and carries UV_HANDLE_CLOSING -/
abbrev CloseWF (s : State) : Prop := CloseWF' none s

theorem CloseWF'.keep {x : Option Nat} {s s' : State} (h : Keep s s') (hw : CloseWF' x s) : CloseWF' x s' := by
  have hl : clList x s' = clList x s := by simp [clList, h.closing, h.closingLocal]
  refine ⟨hl ▸ hw.1, ?_⟩
  intro id hid
  rw [hl] at hid
  obtain ⟨h1, f, hf, hc⟩ := hw.2 id hid
  obtain ⟨f', hf', hm⟩ := h.flags id f hf
  exact ⟨h.hold id h1, f', hf', hm hc⟩

theorem CloseWF'.closeOp {x : Option Nat} {s s' : State} (h : CloseOp s s') (hw : CloseWF' x s) : CloseWF' x s' := by
  obtain ⟨id, s2, hk, rfl, hid, ⟨f, hf, hfc⟩, ⟨f', hf', hfc'⟩⟩ := h
  have hw2 := hw.keep hk.1
  have hl : clList x (makeClosePending s2 id) = x.toList ++ s2.closingLocal ++ id :: s2.closing := rfl
  have hnot : id ∉ clList x s2 := by
    intro hm
    have : clList x s2 = clList x s := by simp [clList, hk.1.closing, hk.1.closingLocal]
    rw [this] at hm
    obtain ⟨_, g, hg, hgc⟩ := hw.2 id hm
    rw [hf] at hg; cases hg; rw [hfc] at hgc; cases hgc
  have hperm : (clList x (makeClosePending s2 id)).Perm (id :: clList x s2) := by
    rw [hl]; exact List.perm_middle
  refine ⟨hperm.nodup_iff.mpr (List.nodup_cons.mpr ⟨hnot, hw2.1⟩), ?_⟩
  intro j hj
  rcases List.mem_cons.mp (hperm.mem_iff.mp hj) with rfl | hj
  · exact ⟨hk.1.hold _ hid, f', hf', hfc'⟩
  · exact hw2.2 j hj

theorem closeH_closing (s : State) (k : Kind) (id : Nat) : (closeH s k id).closing = id :: s.closing := by
  obtain ⟨b, h⟩ := key_closeH s k id
  cases b <;> exact congrArg (·.2.2.2.1) (hview_of_key h)

/-- `uv_close` of a handle that is already queued is refused (`illegal`) -/
theorem applyOp_close_queued {s : State} {id : Nat} (hw : CloseWF s) (hm : id ∈ clList none s) :
    (applyOp s (.close id)).2 = none := by
  obtain ⟨_, g, hg, hgc⟩ := hw.2 id hm
  have e : applyOp s (.close id) = if s.closed then illegal s else
      match getHF s id with
      | some (h, f) => if f.internal || hClosing f then illegal s else ok (closeH s h.kind id)
      | none => illegal s := rfl
  rw [e]
  cases hh : getHF s id with
  | none => split <;> rfl
  | some p =>
    rw [getHF_getF hh] at hg; cases hg
    have hc : hClosing p.2 = true := by simp [hClosing, isClosing, toHK, hgc]
    simp only [hc, Bool.or_true, if_true]
    split <;> rfl

/-- preserved, and neither the detached chain nor the halt marker is touched -/
def WFStep (s s' : State) : Prop :=
  (∀ x, CloseWF' x s → CloseWF' x s') ∧ s'.closingLocal = s.closingLocal ∧ s'.halted = s.halted

theorem WFStep.refl (s : State) : WFStep s s := ⟨fun _ h => h, rfl, rfl⟩
theorem WFStep.trans {a b c : State} (h1 : WFStep a b) (h2 : WFStep b c) : WFStep a c :=
  ⟨fun x h => h2.1 x (h1.1 x h), h2.2.1.trans h1.2.1, h2.2.2.trans h1.2.2⟩
theorem WFStep.of_keep {s s' : State} (h : Keep s s') : WFStep s s' :=
  ⟨fun _ hw => hw.keep h, h.closingLocal, h.halted⟩
theorem WFStep.of_kp {s s' : State} (h : kp s' = kp s) : WFStep s s' := WFStep.of_keep (KeepQ.of_kp h).1

theorem WFStep.of_opRes {s s' : State} (h : OpRes s s') : WFStep s s' := by
  rcases h with h | ⟨j, h, _⟩ | h
  · exact WFStep.of_keep h.1
  · exact WFStep.of_keep h.1
  · refine ⟨fun _ hw => hw.closeOp h, ?_, ?_⟩
    · obtain ⟨id, s2, hk, rfl, _⟩ := h; exact hk.1.closingLocal
    · obtain ⟨id, s2, hk, rfl, _⟩ := h; exact hk.1.halted

theorem WFStep.stepOp (s : State) (o : Op) : WFStep s (stepOp s o) := by
  exact ((applyOp_step s o).opRes_closure (R := WFStep) WFStep.trans WFStep.of_opRes).trans (WFStep.of_kp (kp_stepOp s o))

theorem wfRel0 : PhaseRel0 WFStep where
  refl := WFStep.refl
  trans := WFStep.trans
  keep := fun h _ => WFStep.of_keep h
  emit := fun _ _ _ => WFStep.of_kp (kp_emit _ _)
  stepOp := WFStep.stepOp
  cbH := fun _ _ _ _ _ _ _ _ => WFStep.of_kp (kp_emit _ _)
  cbR := fun _ _ _ _ _ _ _ => WFStep.of_kp (kp_emit _ _)

/-- any callback, also a close callback -/
theorem WFStep.runCb (sc : Script) (ph : Phase) (k : CbKind) (key : CbKey) (i : Nat) (a b : Int) (occ : Nat) (s : State) :
    WFStep s (runCb sc ph k key i a b occ s) :=
  wfRel0.runCb_of (WFStep.of_kp (kp_emit _ _)) sc key occ

theorem lookF_eraseF_ne (fl : List (Nat × HFlags)) (id id' : Nat) (hne : id' ≠ id) :
    lookF (eraseF fl id) id' = lookF fl id' := by
  induction fl with
  | nil => rfl
  | cons e t ih =>
    simp only [eraseF]
    split
    · rename_i he
      have he' : e.1 = id := by simpa using he
      have h2 : (e.1 == id') = false := by simp [he']; omega
      simp [lookF, h2]
    · simp only [lookF, ih]

/-- unlinking the record of the handle being finished -/
theorem CloseWF'.remove {j : Nat} {s : State} (hw : CloseWF' (some j) s) :
    CloseWF' none { s with c := s.c.remove j, handles := s.handles.filter (·.id != j) } := by
  have hl : clList (some j) s = j :: clList none { s with c := s.c.remove j, handles := s.handles.filter (·.id != j) } := by
    simp [clList]
  have hnd := hw.1
  rw [hl] at hnd
  obtain ⟨hj, hnd'⟩ := List.nodup_cons.mp hnd
  refine ⟨hnd', ?_⟩
  intro id hid
  have hne : id ≠ j := fun h => hj (h ▸ hid)
  obtain ⟨h1, f, hf, hc⟩ := hw.2 id (by rw [hl]; exact List.mem_cons_of_mem _ hid)
  refine ⟨?_, f, ?_, hc⟩
  · simp only [hids, List.mem_map, List.mem_filter] at h1 ⊢
    obtain ⟨h, hm, he⟩ := h1
    exact ⟨h, ⟨hm, by simp [he, hne]⟩, he⟩
  · simp only [getF, Core.get, Core.remove] at hf ⊢
    rw [lookF_eraseF_ne _ _ _ hne]; exact hf

/-- `uv__run_closing_handles` takes the head of the detached chain -/
theorem CloseWF.pop {s : State} {j : Nat} {rest : List Nat} (hw : CloseWF s) (hl : s.closingLocal = j :: rest) :
    CloseWF' (some j) { s with closingLocal := rest } := by
  have e : clList (some j) { s with closingLocal := rest } = clList none s := by simp [clList, hl]
  exact ⟨e ▸ hw.1, fun i hi => hw.2 i (e ▸ hi)⟩

/-- … after detaching `closing_handles` -/
theorem CloseWF.detach {s : State} (hw : CloseWF s) : CloseWF { s with closingLocal := s.closing, closing := [] } := by
  have hsub : (clList none { s with closingLocal := s.closing, closing := [] }).Sublist (clList none s) := by
    simp [clList]
  exact ⟨hw.1.sublist hsub, fun i hi => hw.2 i (hsub.subset hi)⟩

/-- `uv__finish_close` of the handle at the head of the chain: its record exists, the request callbacks (`s2`) keep
    the invariant, the flags are still there afterwards, so the close callback runs, on the unlinked state -/
theorem finishClose_queued (sc : Script) {j : Nat} {s : State} (hw : CloseWF' (some j) s) :
    ∃ h f s2, getH s j = some h ∧ s2 = finishReqs sc h.kind j (withKernel s j setClosed) ∧
      CloseWF' (some j) (withKernel s2 j handleUnref) ∧ s2.closingLocal = s.closingLocal ∧ s2.halted = s.halted ∧
      finishClose sc j s = runCb sc .closing .close (.c j) j (flagBits f) 0 0 (unlink (withKernel s2 j handleUnref) j) := by
  obtain ⟨h, hg⟩ := Option.isSome_iff_exists.mp ((getH_isSome_iff s j).mpr (hw.2 j (by simp [clList])).1)
  have w2 : WFStep (withKernel s j setClosed) (finishReqs sc h.kind j (withKernel s j setClosed)) := wfRel0.finishReqs _ _ _ _
  have hw3 := (w2.1 _ (hw.keep (keepQ_withKernel s j _ clMono_setClosed).1)).keep (keepQ_withKernel _ j _ clMono_unref).1
  obtain ⟨_, f, hf, _⟩ := hw3.2 j (by simp [clList])
  refine ⟨h, f, _, hg, rfl, hw3, w2.2.1, w2.2.2, ?_⟩
  rw [finishClose_some hg]
  simp only [hf]

/-- `uv__finish_close` keeps the invariant (no matter whether the simulator is halted) -/
theorem finishClose_wf (sc : Script) (j : Nat) (s : State) (hw : CloseWF' (some j) s) :
    CloseWF' none (finishClose sc j s) ∧ (finishClose sc j s).closingLocal = s.closingLocal := by
  obtain ⟨h, f, s2, _, _, hw3, hcl, _, he⟩ := finishClose_queued sc hw
  have w4 := WFStep.runCb sc .closing .close (.c j) j (flagBits f) 0 0 (unlink (withKernel s2 j handleUnref) j)
  rw [he]
  exact ⟨w4.1 _ hw3.remove, w4.2.1.trans hcl⟩

theorem runClosingLoop_wf (sc : Script) (fuel : Nat) (s : State) (hw : CloseWF s) : CloseWF (runClosingLoop sc fuel s) := by
  induction fuel generalizing s with
  | zero => exact hw
  | succ n ih =>
    unfold runClosingLoop
    split
    · exact hw
    · rename_i j rest heq
      exact ih _ (finishClose_wf sc j _ (hw.pop heq)).1

theorem runClosing_wf (sc : Script) (s : State) (hw : CloseWF s) : CloseWF (runClosing sc s) :=
  runClosingLoop_wf sc _ _ hw.detach

/-- the invariant is respected by every step of the loop -/
def WFRel (s s' : State) : Prop := CloseWF s → CloseWF s'

theorem wfRel : PhaseRel WFRel where
  refl := fun _ h => h
  trans := fun h1 h2 h => h2 (h1 h)
  keep := fun h _ hw => hw.keep h
  emit := fun _ _ _ hw => hw.keep (KeepQ.of_kp (kp_emit _ _)).1
  stepOp := fun s o hw => (WFStep.stepOp s o).1 _ hw
  cbH := fun _ _ _ _ _ _ _ _ hw => hw.keep (KeepQ.of_kp (kp_emit _ _)).1
  cbR := fun _ _ _ _ _ _ _ hw => hw.keep (KeepQ.of_kp (kp_emit _ _)).1
  halt := fun _ hw => ⟨hw.1, hw.2⟩

/-- `CloseWF` holds in every state a program can reach -/
theorem closeWF_runMain (sc : Script) (fuel : Nat) (prog : List MainOp) (s : State) (hw : CloseWF s) :
    CloseWF (runMain sc fuel s prog) :=
  wfRel.runMain (fun sc s => runClosing_wf sc s) sc fuel prog s hw

theorem closeWF_of_empty {s : State} (h1 : s.closing = []) (h2 : s.closingLocal = []) : CloseWF s := by
  have : clList none s = [] := by simp [clList, h1, h2]
  exact ⟨this ▸ List.nodup_nil, fun i hi => by rw [this] at hi; cases hi⟩

theorem closeWF_initLoop (clock0 : Nat) (metrics : Bool) (oracle : List PollRes) : CloseWF (initLoop clock0 metrics oracle) :=
  ((initLoop_step clock0 metrics oracle).opRes_closure (R := WFStep) WFStep.trans WFStep.of_opRes).1 none
    (closeWF_of_empty rfl rfl)

theorem finishClose_cnt (sc : Script) (id j : Nat) (s : State) (hw : CloseWF' (some j) s) (hh : s.halted = false) :
    closeCbs id (finishClose sc j s).trace = closeCbs id s.trace + (if j = id then 1 else 0) ∧
    (finishClose sc j s).halted = false := by
  obtain ⟨h, f, s2, _, e2, _, _, hha, he⟩ := finishClose_queued sc hw
  have hh2 : (unlink (withKernel s2 j handleUnref) j).halted = false := hha.trans hh
  have c2 : closeCbs id (unlink (withKernel s2 j handleUnref) j).trace = closeCbs id s.trace :=
    e2 ▸ (cntRel id).finishReqs sc h.kind j (withKernel s j setClosed)
  rw [he]
  refine ⟨?_, (WFStep.runCb _ _ _ _ _ _ _ _ _).2.2.trans hh2⟩
  rw [runCb_closeCbs _ _ _ _ _ _ _ _ _ _ hh2, c2]
  simp

theorem runClosingLoop_cnt (sc : Script) (id : Nat) (fuel : Nat) (s : State) (hw : CloseWF s) (hh : s.halted = false) :
    closeCbs id (runClosingLoop sc fuel s).trace =
      closeCbs id s.trace + (if id ∈ s.closingLocal.take fuel then 1 else 0) := by
  induction fuel generalizing s with
  | zero => simp [runClosingLoop]
  | succ n ih =>
    unfold runClosingLoop
    split
    · rename_i heq
      simp [heq]
    · rename_i j rest heq
      obtain ⟨hc, hh'⟩ := finishClose_cnt sc id j _ (hw.pop heq) hh
      obtain ⟨hw', hcl⟩ := finishClose_wf sc j _ (hw.pop heq)
      simp only
      rw [ih _ hw' hh', hc, hcl, heq]
      simp only [List.take_succ_cons, List.mem_cons]
      have hnd : (j :: rest).Nodup := by
        have := hw.1
        simp only [clList, heq, Option.toList_none, List.nil_append] at this
        exact (List.nodup_append.mp this).1
      by_cases hji : j = id
      · subst hji
        have hnot : j ∉ rest.take n := fun hm => (List.nodup_cons.mp hnd).1 (List.mem_of_mem_take hm)
        simp [hnot]
      · have : ¬ id = j := fun h => hji h.symm
        simp [hji, this]

/-- `close_cb_exactly_once`, on any state satisfying the bookkeeping invariant -/
theorem runClosing_spec (sc : Script) (id : Nat) (s : State) (hw : CloseWF s) (hh : s.halted = false) :
    closeCbs id (runClosing sc s).trace = closeCbs id s.trace + (if id ∈ s.closing then 1 else 0) ∧
    CloseWF (runClosing sc s) := by
  refine ⟨?_, runClosing_wf sc s hw⟩
  unfold runClosing
  rw [runClosingLoop_cnt sc id _ _ hw.detach hh]
  simp [List.take_of_length_le]

end UvModel.Loop
