import UvModel.Lemmas.LoopCloseWF
/-!
  Silence after the close callback: once a handle's record has been unlinked (`uv__finish_close`), no handle
  callback for that id is ever emitted again — ids are never reused and every callback site looks the record up.
-/
namespace UvModel.Loop
open UvModel.HandleKernels

/-- the record of `id` is gone for good: not in `handle_queue`, and the id has been handed out already -/
def Gone (id : Nat) (s : State) : Prop := id ∉ hids s ∧ id < s.nextId

/-- the event is not a handle-kind callback for `id` (request callbacks carry request ids: another namespace) -/
def NoH (id : Nat) (e : Event) : Prop :=
  ∀ ph k a b, e = Event.cb ph k id a b → k = .work ∨ k = .udpSend ∨ k = .connect

def SilRel (id : Nat) (s s' : State) : Prop :=
  Gone id s → Gone id s' ∧ ∃ new, s'.trace = new ++ s.trace ∧ ∀ e ∈ new, NoH id e

theorem Gone.keep {id : Nat} {s s' : State} (h : Keep s s') (hg : Gone id s) : Gone id s' := by
  refine ⟨fun hm => ?_, Nat.lt_of_lt_of_le hg.2 h.nextId⟩
  rcases h.hnew id hm with h1 | h1
  · exact hg.1 h1
  · exact absurd hg.2 (by omega)

theorem Gone.opRes {id : Nat} {s s' : State} (h : OpRes s s') (hg : Gone id s) : Gone id s' := by
  rcases h with h | ⟨j, h, _⟩ | ⟨j, s2, hk, rfl, _⟩
  · exact hg.keep h.1
  · exact hg.keep h.1
  · exact ⟨(hg.keep hk.1).1, (hg.keep hk.1).2⟩

theorem SilRel.refl (id : Nat) (s : State) : SilRel id s s := fun hg => ⟨hg, [], rfl, fun _ h => by cases h⟩
theorem SilRel.trans {id : Nat} {a b c : State} (h1 : SilRel id a b) (h2 : SilRel id b c) : SilRel id a c := by
  intro hg
  obtain ⟨g1, n1, e1, p1⟩ := h1 hg
  obtain ⟨g2, n2, e2, p2⟩ := h2 g1
  refine ⟨g2, n2 ++ n1, by rw [e2, e1, List.append_assoc], ?_⟩
  intro e he
  rcases List.mem_append.mp he with h | h
  · exact p2 e h
  · exact p1 e h

theorem SilRel.of_keep {id : Nat} {s s' : State} (h : Keep s s') (ht : s'.trace = s.trace) : SilRel id s s' :=
  fun hg => ⟨hg.keep h, [], by simpa using ht, fun _ h => by cases h⟩

theorem SilRel.emit_any {id : Nat} (s : State) (e : Event) (he : NoH id e) : SilRel id s (emit s e) := by
  intro hg
  refine ⟨hg.keep (KeepQ.of_kp (kp_emit _ _)).1, ?_⟩
  unfold emit
  split
  · exact ⟨[], rfl, fun _ h => by cases h⟩
  · exact ⟨[e], rfl, fun e' h => by rw [List.mem_singleton.mp h]; exact he⟩

theorem SilRel.stepOp (id : Nat) (s : State) (o : Op) : SilRel id s (stepOp s o) := by
  unfold Loop.stepOp
  refine SilRel.trans (b := (applyOp s o).1) ?_ ?_
  · exact fun hg => ⟨(applyOp_step s o).opRes_closure (R := fun a b => Gone id a → Gone id b) (fun h1 h2 g => h2 (h1 g))
      (fun h g => g.opRes h) hg, [], by simpa using trOf (tr_applyOp s o), fun _ h => by cases h⟩
  · exact (SilRel.emit_any _ _ (fun _ _ _ _ h => by cases h)).trans (SilRel.emit_any _ _ (fun _ _ _ _ h => by cases h))

theorem silRel (id : Nat) : PhaseRel (SilRel id) where
  refl := SilRel.refl id
  trans := SilRel.trans
  keep := SilRel.of_keep
  emit := fun s e he => SilRel.emit_any s e (fun ph k a b h => absurd h (he ph k id a b))
  stepOp := SilRel.stepOp id
  cbH := by
    intro s ph k i a b hi _ hg
    have hne : i ≠ id := fun h => hg.1 (h ▸ hi)
    exact SilRel.emit_any s _ (fun _ _ _ _ h => by cases h; exact absurd rfl hne) hg
  cbR := fun s ph k r a b hk => SilRel.emit_any s _ (fun _ _ _ _ h => by cases h; exact hk)
  halt := fun s hg => ⟨hg, [], rfl, fun _ h => by cases h⟩

/-- moving ids between the closing lists, unlinking a record: no event, nothing comes back -/
theorem SilRel.of_hids {id : Nat} {s s' : State} (hs : ∀ i ∈ hids s', i ∈ hids s) (hn : s'.nextId = s.nextId)
    (ht : s'.trace = s.trace) : SilRel id s s' :=
  fun hg => ⟨⟨fun hm => hg.1 (hs id hm), hn ▸ hg.2⟩, [], by simpa using ht, fun _ h => by cases h⟩

theorem hids_unlink {s : State} {j i : Nat} (h : i ∈ hids (unlink s j)) : i ∈ hids s ∧ i ≠ j := by
  simp only [hids, unlink, List.mem_map, List.mem_filter] at h ⊢
  obtain ⟨x, ⟨hx, hj⟩, he⟩ := h
  exact ⟨⟨x, hx, he⟩, by simpa [he] using hj⟩

theorem SilRel.finishClose (id : Nat) (sc : Script) (j : Nat) (s : State) : SilRel id s (finishClose sc j s) := by
  intro hg
  cases hj : getH s j with
  | none => unfold Loop.finishClose; rw [hj]; exact SilRel.refl id s hg
  | some h =>
    have hne : j ≠ id := fun he => hg.1 (he ▸ getH_some_mem hj)
    exact (silRel id).finishClose (fun _ => SilRel.of_hids (fun _ hi => (hids_unlink hi).1) rfl rfl)
      (fun _ _ _ => SilRel.emit_any _ _ (fun _ _ _ _ h => by cases h; exact absurd rfl hne)) sc s hg

theorem SilRel.runClosing (id : Nat) (sc : Script) (s : State) : SilRel id s (runClosing sc s) :=
  (silRel id).runClosing (fun _ _ _ => SilRel.of_hids (fun _ h => h) rfl rfl) (SilRel.finishClose id sc) s

theorem SilRel.runMain (id : Nat) (sc : Script) (fuel : Nat) (prog : List MainOp) (s : State) :
    SilRel id s (runMain sc fuel s prog) :=
  (silRel id).runMain (SilRel.runClosing id) sc fuel prog s

/-- `Gone` is stable under everything a callback can do, and ids are only ever handed out upwards -/
def GoneRel (id : Nat) (s s' : State) : Prop := (Gone id s → Gone id s') ∧ s.nextId ≤ s'.nextId

theorem GoneRel.of_keep {id : Nat} {s s' : State} (h : Keep s s') : GoneRel id s s' := ⟨fun hg => hg.keep h, h.nextId⟩

theorem goneRel0 (id : Nat) : PhaseRel0 (GoneRel id) where
  refl := fun _ => ⟨fun h => h, Nat.le_refl _⟩
  trans := fun h1 h2 => ⟨fun h => h2.1 (h1.1 h), Nat.le_trans h1.2 h2.2⟩
  keep := fun h _ => .of_keep h
  emit := fun _ _ _ => .of_keep (KeepQ.of_kp (kp_emit _ _)).1
  stepOp := fun s o => by
    refine ⟨fun hg => ((SilRel.stepOp id s o) hg).1, ?_⟩
    refine Nat.le_trans (m := (applyOp s o).1.nextId) ?_ (KeepQ.of_kp (kp_stepOp s o)).1.nextId
    refine (applyOp_step s o).opRes_closure (R := fun a b => a.nextId ≤ b.nextId) Nat.le_trans fun h => ?_
    rcases h with h | ⟨j, h, _⟩ | ⟨j, s2, hk, he, _⟩
    · exact h.1.nextId
    · exact h.1.nextId
    · rw [he]; exact hk.1.nextId
  cbH := fun _ _ _ _ _ _ _ _ => .of_keep (KeepQ.of_kp (kp_emit _ _)).1
  cbR := fun _ _ _ _ _ _ _ => .of_keep (KeepQ.of_kp (kp_emit _ _)).1

/-- any callback, also the close callback of `id` itself -/
theorem GoneRel.runCb (id : Nat) (sc : Script) (ph : Phase) (k : CbKind) (key : CbKey) (i : Nat) (a b : Int) (occ : Nat)
    (s : State) : GoneRel id s (runCb sc ph k key i a b occ s) :=
  (goneRel0 id).runCb_of (.of_keep (KeepQ.of_kp (kp_emit _ _)).1) sc key occ

/-- `uv__finish_close` of a live record leaves it `Gone`: the close callback already runs on a state without it -/
theorem finishClose_gone (sc : Script) (j : Nat) (s : State) (hw : CloseWF' (some j) s) (hn : j < s.nextId) :
    Gone j (finishClose sc j s) := by
  obtain ⟨h, f, s2, _, e2, _, _, _, he⟩ := finishClose_queued sc hw
  have n2 : s.nextId ≤ s2.nextId := e2 ▸ ((goneRel0 j).finishReqs sc h.kind j (withKernel s j setClosed)).2
  rw [he]
  exact (GoneRel.runCb j _ _ _ _ _ _ _ _ _).1 ⟨fun hm => (hids_unlink hm).2 rfl, Nat.lt_of_lt_of_le hn n2⟩

end UvModel.Loop
