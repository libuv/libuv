import UvModel.Queue
/-!
`Linked` as a chain of edges, and what each `queue.h` function does to edges: the ones it makes and
the ones it keeps.  `Props/QueueRefine.lean` cuts a ring into chains, carries each chain through an
operation edge by edge, and closes the pieces with the edges the operation makes.
-/
namespace UvModel.Queue

@[simp] theorem setNext_next (m a v x) : (setNext m a v).next x = if x = a then v else m.next x := rfl
@[simp] theorem setNext_prev (m a v x) : (setNext m a v).prev x = m.prev x := rfl
@[simp] theorem setPrev_prev (m a v x) : (setPrev m a v).prev x = if x = a then v else m.prev x := rfl
@[simp] theorem setPrev_next (m a v x) : (setPrev m a v).next x = m.next x := rfl

@[simp] theorem linked_nil (m) : Linked m [] = True := rfl
@[simp] theorem linked_single (m x) : Linked m [x] = True := rfl
@[simp] theorem linked_cons_cons (m x y r) :
    Linked m (x :: y :: r) = ((m.next x = y ∧ m.prev y = x) ∧ Linked m (y :: r)) := rfl

def Edge (m : Mem) (a b : Nat) : Prop := m.next a = b ∧ m.prev b = a

variable {m m' : Mem} {a b h n p q s t x y z : Nat} {l l1 l2 : List Nat}

theorem Edge.src_ne (e : Edge m a b) (e' : Edge m x y) (h : y ≠ b) : x ≠ a :=
  fun c => h (by rw [← e'.1, c, e.1])

theorem Edge.tgt_ne (e : Edge m a b) (e' : Edge m x y) (h : x ≠ a) : y ≠ b :=
  fun c => h (by rw [← e'.2, c, e.2])

theorem linked_append : ∀ {P S : List Nat} (hP : P ≠ []) (hS : S ≠ []),
    Linked m (P ++ S) ↔ Linked m P ∧ Edge m (P.getLast hP) (S.head hS) ∧ Linked m S
  | [_], _ :: _, _, _ => ⟨fun h => ⟨trivial, h⟩, And.right⟩
  | x :: y :: P, S, _, hS => by
      show Edge m x y ∧ Linked m ((y :: P) ++ S) ↔ (Edge m x y ∧ Linked m (y :: P)) ∧ _
      rw [linked_append (List.cons_ne_nil y P) hS, and_assoc]
      exact Iff.rfl

theorem linked_snoc {A : List Nat} :
    Linked m (a :: A ++ [b]) ↔ Linked m (a :: A) ∧ Edge m ((a :: A).getLast (List.cons_ne_nil a A)) b :=
  (linked_append _ (List.cons_ne_nil b [])).trans ⟨fun h => ⟨h.1, h.2.1⟩, fun h => ⟨h.1, h.2, trivial⟩⟩

theorem linked_cons {S : List Nat} (hS : S ≠ []) :
    Linked m (a :: S) ↔ Edge m a (S.head hS) ∧ Linked m S :=
  (linked_append (List.cons_ne_nil a []) hS).trans ⟨And.right, fun h => ⟨trivial, h⟩⟩

theorem Linked.mono : ∀ {ns : List Nat}, Linked m ns →
    (∀ x ∈ ns.dropLast, ∀ y ∈ ns.tail, Edge m x y → Edge m' x y) → Linked m' ns
  | [], _, _ => trivial
  | [_], _, _ => trivial
  | x :: y :: _, hl, k =>
      ⟨k x List.mem_cons_self y List.mem_cons_self hl.1,
       Linked.mono hl.2 fun a ha b hb => k a (List.mem_cons_of_mem x ha) b (List.mem_cons_of_mem y hb)⟩

theorem Linked.succ : ∀ {ns : List Nat}, Linked m ns → ∀ x ∈ ns.dropLast, ∃ y ∈ ns.tail, Edge m x y
  | [_], _, _, hx => nomatch hx
  | a :: b :: _, hl, x, hx => by
      rcases List.mem_cons.1 hx with rfl | hx
      · exact ⟨b, List.mem_cons_self, hl.1⟩
      · obtain ⟨y, hy, e⟩ := Linked.succ hl.2 x hx
        exact ⟨y, List.mem_cons_of_mem b hy, e⟩

theorem Linked.pred : ∀ {ns : List Nat}, Linked m ns → ∀ y ∈ ns.tail, ∃ x ∈ ns.dropLast, Edge m x y
  | [_], _, _, hy => nomatch hy
  | a :: b :: _, hl, y, hy => by
      rcases List.mem_cons.1 hy with rfl | hy
      · exact ⟨a, List.mem_cons_self, hl.1⟩
      · obtain ⟨x, hx, e⟩ := Linked.pred hl.2 y hy
        exact ⟨x, List.mem_cons_of_mem a hx, e⟩

/-! The neighbours an operation reads are named by edges of the memory it starts from.  Such an edge is
destroyed by a write to its source's `next` or its target's `prev`; `Edge.src_ne`/`tgt_ne` let one of the
two ends of each destroyed edge stand for both, so the conditions for keeping an edge mention only the
nodes in the operation's arguments.  Names: `p → q → s` a member between its neighbours, `t → h` the tail
and the sentinel, `n` the second sentinel with `n → a … z → n`. -/

theorem init_keep (e : Edge m x y) (hx : x ≠ q) (hy : y ≠ q) : Edge (init m q) x y := by
  simpa only [Edge, init, setNext_next, setPrev_prev, setNext_prev, setPrev_next, hx, hy, ↓reduceIte] using e

theorem remove_new (hp : Edge m p q) (hs : Edge m q s) : Edge (remove m q) p s := by
  simp only [Edge, remove, setNext_next, setPrev_prev, setNext_prev, setPrev_next, hp.2, hs.1, ite_self,
    ↓reduceIte, and_self]

theorem remove_keep (hp : Edge m p q) (hs : Edge m q s) (e : Edge m x y)
    (hx : x ≠ q) (hy : y ≠ q) : Edge (remove m q) x y := by
  simpa only [Edge, remove, setNext_next, setPrev_prev, setNext_prev, setPrev_next, hp.2, hs.1, ite_self,
    hp.src_ne e hy, hs.tgt_ne e hx, ↓reduceIte] using e

theorem remove_self (hp : Edge m p q) (hs : Edge m q s) (hqp : q ≠ p) (hqs : q ≠ s) :
    (remove m q).next q = m.next q ∧ (remove m q).prev q = m.prev q := by
  simp only [remove, setNext_next, setPrev_prev, setNext_prev, setPrev_next, hp.2, hs.1, hqp, hqs, ↓reduceIte,
    and_self]

theorem insertHead_new (hs : Edge m h s) (hqh : q ≠ h) (hqs : q ≠ s) :
    Edge (insertHead m h q) h q ∧ Edge (insertHead m h q) q s := by
  simp only [Edge, insertHead, setNext_next, setPrev_prev, setNext_prev, setPrev_next, hs.1, hqh, hqs, ↓reduceIte,
    and_self]

theorem insertHead_keep (hs : Edge m h s) (e : Edge m x y)
    (hxh : x ≠ h) (hxq : x ≠ q) (hyq : y ≠ q) : Edge (insertHead m h q) x y := by
  simpa only [Edge, insertHead, setNext_next, setPrev_prev, setNext_prev, setPrev_next, hs.1,
    hxh, hxq, hyq, hs.tgt_ne e hxh, ↓reduceIte] using e

theorem insertTail_new (ht : Edge m t h) (hqh : q ≠ h) (hqt : q ≠ t) :
    Edge (insertTail m h q) t q ∧ Edge (insertTail m h q) q h := by
  simp only [Edge, insertTail, setNext_next, setPrev_prev, setNext_prev, setPrev_next, ht.2, hqh, hqt, ↓reduceIte,
    and_self]

theorem insertTail_keep (ht : Edge m t h) (e : Edge m x y)
    (hyh : y ≠ h) (hxq : x ≠ q) (hyq : y ≠ q) : Edge (insertTail m h q) x y := by
  simpa only [Edge, insertTail, setNext_next, setPrev_prev, setNext_prev, setPrev_next, ht.2,
    hyh, hxq, hyq, ht.src_ne e hyh, ↓reduceIte] using e

theorem split_new (hp : Edge m p q) (ht : Edge m t h)
    (hnh : n ≠ h) (hqn : q ≠ n) (hhq : h ≠ q) (htp : t ≠ p) (htn : t ≠ n) (hnp : n ≠ p) :
    Edge (split m h q n) p h ∧ Edge (split m h q n) t n ∧ Edge (split m h q n) n q := by
  simp only [Edge, split, setNext_next, setPrev_prev, setNext_prev, setPrev_next, hp.2, ht.2,
    hnh, hqn, hqn.symm, hhq, htp, htn, hnp, ↓reduceIte, and_self]

/-- `q = n` is allowed: `uv__queue_move` does not ask its target to be fresh. -/
theorem split_keep (hp : Edge m p q) (ht : Edge m t h)
    (e : Edge m x y) (hyq : y ≠ q) (hyh : y ≠ h) (hxn : x ≠ n) (hyn : y ≠ n) : Edge (split m h q n) x y := by
  by_cases hqn : q = n <;>
  simpa only [Edge, split, setNext_next, setPrev_prev, setNext_prev, setPrev_next, hp.2, ht.2, hqn,
    hyq, hyh, hxn, hyn, hp.src_ne e hyq, ht.src_ne e hyh, ↓reduceIte] using e

/-- `uv__queue_add(h, n)` with `n` empty rewrites `h->prev` and `h->prev->next` with the values they
have, and spoils only `n->prev`. -/
theorem add_nil_keep (ht : Edge m t h) (hn : Edge m n n) (e : Edge m x y)
    (hyn : y ≠ n) : Edge (add m h n) x y := by
  simp only [Edge, add, setNext_next, setPrev_prev, setNext_prev, setPrev_next, ht.2, hn.1, ite_self, hyn,
    ↓reduceIte]
  constructor
  · split
    · next c => rw [← e.1, c, ht.1]
    · exact e.1
  · split
    · next c => rw [← e.2, c, ht.2]
    · exact e.2

theorem add_new (ht : Edge m t h) (ha : Edge m n a) (hz : Edge m z n)
    (hna : n ≠ a) (htz : t ≠ z) (hah : a ≠ h) : Edge (add m h n) t a ∧ Edge (add m h n) z h := by
  simp only [Edge, add, setNext_next, setPrev_prev, setNext_prev, setPrev_next, ht.2, ha.1, hz.2, ite_self,
    hna, htz, hah, ↓reduceIte, and_self]

theorem add_keep (ht : Edge m t h) (ha : Edge m n a) (hz : Edge m z n)
    (hna : n ≠ a) (e : Edge m x y) (hyh : y ≠ h) (hyn : y ≠ n) (hxn : x ≠ n) : Edge (add m h n) x y := by
  simpa only [Edge, add, setNext_next, setPrev_prev, setNext_prev, setPrev_next, ht.2, ha.1, hz.2, ite_self,
    hna, hyh, ht.src_ne e hyh, hz.src_ne e hyn, ha.tgt_ne e hxn, ↓reduceIte] using e

theorem mem_concat : x ∈ l ++ [h] ↔ x ∈ h :: l := by
  rw [List.mem_append, List.mem_singleton, List.mem_cons, or_comm]

theorem not_mem_of_nodup_mid (hnd : ((h :: l1) ++ q :: l2).Nodup) :
    q ∉ h :: l1 ∧ q ∉ l2 ++ [h] := by
  obtain ⟨-, nQ, d⟩ := List.nodup_append.1 hnd
  have hqP : q ∉ h :: l1 := fun c => d q c q List.mem_cons_self rfl
  exact ⟨hqP, fun c => (List.mem_cons.1 (mem_concat.1 c)).elim (fun e => hqP (List.mem_cons.2 (.inl e)))
    (List.nodup_cons.1 nQ).1⟩

theorem ring_append :
    Ring m h (l1 ++ l2) ↔ Linked m (h :: l1) ∧
      Edge m ((h :: l1).getLast (List.cons_ne_nil h l1)) ((l2 ++ [h]).head (List.concat_ne_nil h l2)) ∧
      Linked m (l2 ++ [h]) ∧ ((h :: l1) ++ l2).Nodup := by
  rw [Ring, ← List.cons_append, List.append_assoc, linked_append, and_assoc, and_assoc]

theorem Ring.mono (hr : Ring m h l)
    (k : ∀ x ∈ h :: l, ∀ y ∈ h :: l, Edge m x y → Edge m' x y) : Ring m' h l :=
  ⟨hr.1.mono fun x hx y hy => k x (by rwa [List.dropLast_concat] at hx) y (mem_concat.1 hy), hr.2⟩

theorem Ring.edges (hr : Ring m h l) (hx : x ∈ h :: l) :
    (m.next x ∈ h :: l ∧ Edge m x (m.next x)) ∧ (m.prev x ∈ h :: l ∧ Edge m (m.prev x) x) := by
  obtain ⟨y, hy, e⟩ := hr.1.succ x (by rwa [List.dropLast_concat])
  obtain ⟨w, hw, e'⟩ := hr.1.pred x (mem_concat.2 hx)
  rw [List.dropLast_concat] at hw
  rw [e.1, e'.2]
  exact ⟨⟨mem_concat.1 hy, e⟩, hw, e'⟩

end UvModel.Queue
