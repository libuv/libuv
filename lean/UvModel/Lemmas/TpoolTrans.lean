import UvModel.Tpool
/-! The enabled transitions of `Tpool.step`, one constructor of `Trans` per branch of the code, each with the
    successor state written out as field updates.  Everything proved about `step` goes through `Trans`. -/
namespace UvModel.Tpool

@[simp] theorem upd_same {α} (f : Nat → α) (i : Nat) (x : α) : upd f i x i = x := by simp [upd]
theorem upd_ne {α} (f : Nat → α) (i j : Nat) (x : α) (h : j ≠ i) : upd f i x j = f j := by simp [upd, h]

theorem apply_upd {α β} (π : α → β) {f : Nat → α} {i : Nat} {x : α} (h : π x = π (f i)) (j : Nat) :
    π (upd f i x j) = π (f j) := by
  unfold upd
  split
  · next e => rw [e, h]
  · rfl

/-- `if (g) uv_cond_signal(&cond)` -/
def sigIf (g : Prop) [Decidable g] (s : State) (c : Nat) : State := if g then signal s c else s

/-- what `if (g) uv_cond_signal(&cond)` does to the workers: at most one waiter is woken, and if `g` holds some
    worker is not waiting afterwards -/
structure Signalled (g : Prop) (n : Nat) (w w' : Nat → WPhase) : Prop where
  eq : w' = w ∨ ∃ t, t < n ∧ w t = .waiting ∧ w' = upd w t .woken
  awake : g → 0 < n → ∃ t, t < n ∧ w' t ≠ .waiting

theorem signal_spec (s : State) (c : Nat) :
    ∃ w', Signalled True s.n s.workers w' ∧ signal s c = { s with workers := w' } := by
  unfold signal
  simp only []
  split
  · next hn =>
    -- no waiter could be picked: worker 0 is not waiting
    refine ⟨_, ⟨.inl rfl, fun _ h1 => ⟨0, h1, fun h0 => ?_⟩⟩, rfl⟩
    have hm : 0 ∈ waiters s := by simp [waiters, h0, h1]
    have := List.length_pos_of_mem hm
    rw [List.getElem?_eq_none_iff] at hn
    exact absurd (Nat.mod_lt c this) (by omega)
  · next w hw =>
    have := List.mem_of_getElem? hw
    simp only [waiters, List.mem_filter, List.mem_range, decide_eq_true_eq] at this
    exact ⟨_, ⟨.inr ⟨w, this.1, this.2, rfl⟩, fun _ _ => ⟨w, this.1, by simp⟩⟩, rfl⟩

theorem sigIf_ind {M : State → Prop} {g : Prop} [Decidable g] {s : State} {c : Nat}
    (h : ∀ w', Signalled g s.n s.workers w' → M { s with workers := w' }) : M (sigIf g s c) := by
  unfold sigIf
  split
  · obtain ⟨w', hs, e⟩ := signal_spec s c
    rw [e]
    exact h w' ⟨hs.eq, fun _ => hs.awake trivial⟩
  · next hg => exact h s.workers ⟨.inl rfl, fun a => absurd a hg⟩

theorem ite_signal {g : Prop} [Decidable g] {s : State} {c : Nat} {a b : String} :
    (if g then (signal s c, [Ev.lk a]) else (s, [Ev.lk b])) = (sigIf g s c, [Ev.lk (if g then a else b)]) := by
  unfold sigIf
  split <;> rfl

def WPhase.gotItem : WPhase → Option Nat | .got i _ => some i | _ => none
def WPhase.inwItem : WPhase → Option Nat | .inwork i _ => some i | _ => none

/-- occupied by slow I/O: from the dequeue of a slow item until the decrement (:106 … :137) -/
def isSlow : WPhase → Bool
  | .got _ true | .inwork _ true | .posted true => true
  | _ => false

/-- counted in idle_threads: from :76 until :78 -/
def isIdle : WPhase → Bool
  | .waiting | .woken => true
  | _ => false

/-- the request submitted by `doSub` -/
def Item.fresh (l : Nat) (k : Kind) (loc : Loc) : Item :=
  { loop := l, kind := k, linked := true, work := .fn, starts := 0, returned := false, dones := 0, status := 0,
    cancelOk := false, loc := loc }

/-- worker `t` takes `mutex` at the top of `for(;;)` holding no request; on the way it has taken itself out of
    `idle_threads` (:78) or `slow_io_work_running` (:137) if it was counted there -/
structure Enter (s : State) (t : Nat) (idle r : Int) : Prop where
  noGot : (s.workers t).gotItem = none
  noInw : (s.workers t).inwItem = none
  idleEq : idle = s.idle - (if isIdle (s.workers t) then 1 else 0)
  slowEq : r = s.slowRun - (if isSlow (s.workers t) then 1 else 0)

/-- `Trans s a (s', evs)`: action `a` is enabled in `s` and leads to `s'` with events `evs`.  The text of the lock
    traces and the guards that nothing depends on are left out. -/
inductive Trans (s : State) : Act → State × List Ev → Prop
  | subFast {l k c tr w'} : k ≠ .slow → Signalled (s.idle > 0) s.n s.workers w' →
      Trans s (.sub l k c)
        ({ s with
          nItems := s.nItems + 1, wq := s.wq ++ [.item s.nItems], workers := w',
          items := upd s.items s.nItems (Item.fresh l k .globalQ),
          loops := upd s.loops l { s.loops l with reqs := (s.loops l).reqs + 1 } }, [.lk tr])
  | subSlowM {l c tr} : Ent.marker ∈ s.wq →
      Trans s (.sub l .slow c)
        ({ s with
          nItems := s.nItems + 1, sq := s.sq ++ [s.nItems],
          items := upd s.items s.nItems (Item.fresh l .slow .slowQ),
          loops := upd s.loops l { s.loops l with reqs := (s.loops l).reqs + 1 } }, [.lk tr])
  | subSlow {l c tr w'} : Ent.marker ∉ s.wq → Signalled (s.idle > 0) s.n s.workers w' →
      Trans s (.sub l .slow c)
        ({ s with
          nItems := s.nItems + 1, wq := s.wq ++ [.marker], sq := s.sq ++ [s.nItems], workers := w',
          items := upd s.items s.nItems (Item.fresh l .slow .slowQ),
          loops := upd s.loops l { s.loops l with reqs := (s.loops l).reqs + 1 } }, [.lk tr])
  | can1Ok {l i tr} : (s.loops l).cmid = none → i < s.nItems → (s.items i).loop = l → (s.items i).dones = 0 →
      (s.items i).linked = true → (s.items i).work ≠ .null →
      Trans s (.can l i)
        ({ s with
          wq := s.wq.erase (.item i), sq := s.sq.erase i,
          items := upd s.items i { s.items i with loc := .cmid },
          loops := upd s.loops l { s.loops l with q := (s.loops l).q.erase i, lq := (s.loops l).lq.erase i,
                                                  cmid := some (i, true) } }, [.lk tr])
  | can1No {l i tr} : (s.loops l).cmid = none → i < s.nItems → (s.items i).loop = l → (s.items i).dones = 0 →
      ¬((s.items i).linked = true ∧ (s.items i).work ≠ .null) →
      Trans s (.can l i) ({ s with loops := upd s.loops l { s.loops l with cmid := some (i, false) } }, [.lk tr])
  | can2Ok {l i tr} : (s.loops l).cmid = some (i, true) →
      Trans s (.go l)
        ({ s with
          items := upd s.items i { s.items i with work := .cancelled, cancelOk := true, loc := .loopQ },
          loops := upd s.loops l { s.loops l with q := (s.loops l).q ++ [i], async := true, cmid := none } },
        [.ret 0, .lk tr])
  | can2No {l i} : (s.loops l).cmid = some (i, false) →
      Trans s (.go l) ({ s with loops := upd s.loops l { s.loops l with cmid := none } }, [.ret EBUSY])
  | repNil {l} : (s.loops l).lq = [] →
      Trans s (.go l) ({ s with loops := upd s.loops l { s.loops l with phase := .top } }, [])
  | repCons {l i rest} : (s.loops l).lq = i :: rest →
      Trans s (.go l)
        ({ s with
          items := upd s.items i { s.items i with
            dones := (s.items i).dones + 1, status := if (s.items i).work = .cancelled then ECANCELED else 0,
            loc := .reported },
          loops := upd s.loops l { s.loops l with lq := rest, phase := .incb, reqs := (s.loops l).reqs - 1 } },
        [.dn i (if (s.items i).work = .cancelled then ECANCELED else 0)])
  | drain {l tr} : (s.loops l).phase = .top →
      Trans s (.drn l)
        ({ s with loops := upd s.loops l { s.loops l with lq := (s.loops l).q, q := [], phase := .drained,
                                                          async := false } }, [.lk tr])
  | wait {t c idle r wq' sq' tr} : t < s.n → Enter s t idle r →
      dqLoop (threshold s.n) r (dqFuel s.wq) s.wq s.sq = .wait wq' sq' →
      Trans s (.wk t c)
        ({ s with wq := wq', sq := sq', slowRun := r, idle := idle + 1, workers := upd s.workers t .waiting },
        [.lk tr])
  | take {t c idle r i slow wq' sq' sig tr w'} : t < s.n → Enter s t idle r →
      dqLoop (threshold s.n) r (dqFuel s.wq) s.wq s.sq = .take i slow wq' sq' sig →
      Signalled ((sig && decide (idle > 0)) = true) s.n (upd s.workers t (.got i slow)) w' →
      Trans s (.wk t c)
        ({ s with
          wq := wq', sq := sq', slowRun := if slow then r + 1 else r, idle := idle, workers := w',
          items := upd s.items i { s.items i with linked := false, loc := .got t } }, [.lk tr])
  | start {t c i slow} : t < s.n → s.workers t = .got i slow →
      Trans s (.wk t c)
        ({ s with
          items := upd s.items i { s.items i with starts := (s.items i).starts + 1, loc := .inwork t },
          workers := upd s.workers t (.inwork i slow) }, [.ws i])
  | finish {t c i slow tr} : t < s.n → s.workers t = .inwork i slow →
      Trans s (.wk t c)
        ({ s with
          items := upd s.items i { s.items i with returned := true, work := .null, linked := true, loc := .loopQ },
          loops := upd s.loops (s.items i).loop { s.loops (s.items i).loop with
            q := (s.loops (s.items i).loop).q ++ [i], async := true },
          workers := upd s.workers t (.posted slow) }, [.we i, .lk tr])
  | wake {t} : t < s.n → s.workers t = .waiting →
      Trans s (.wake t) ({ s with workers := upd s.workers t .woken }, [])

/-- the locked loop of worker() terminates within its fuel: a marker met at the cap is rotated behind the other
    entries, and the next entry is a request or nothing -/
theorem dq_fuel (T r : Int) (f : Nat) (wq : List Ent) (sq : List Nat) (h : wq.Nodup) (hf : 2 ≤ f) :
    dqLoop T r f wq sq ≠ .fuel := by
  obtain ⟨f, rfl⟩ : ∃ g, f = g + 2 := ⟨f - 2, by omega⟩
  unfold dqLoop
  split
  · simp
  · simp
  · rename_i rest
    split
    · simp
    · split
      · cases rest with
        | nil => grind
        | cons e rest' =>
          cases e with
          | item j => simp [dqLoop]
          | marker => grind
      · split
        · cases rest with
          | nil => simp [dqLoop]
          | cons e rest' =>
            cases e with
            | item j => simp [dqLoop]
            | marker => grind
        · split <;> simp

theorem trans_region {s : State} {t : Nat} (c : Nat) {idle r : Int} (ht : t < s.n) (he : Enter s t idle r)
    (hn : s.wq.Nodup) :
    Trans s (.wk t c) (doRegion { s with idle := idle, slowRun := r } t c) := by
  unfold doRegion
  simp only [ite_signal]
  split
  · next h => exact absurd h (dq_fuel _ _ _ _ _ hn (by simp [dqFuel]))
  · next h => exact .wait ht he h
  · next h => exact sigIf_ind (M := fun x => Trans s _ (x, _)) fun _ hs => .take ht he h hs

theorem of_ite_eq_some {α : Type} {c : Prop} [Decidable c] {o : Option α} {y : α}
    (e : (if c then o else none) = some y) : c ∧ o = some y := by
  split at e
  · exact ⟨‹c›, e⟩
  · cases e

theorem trans_of_step {s s' : State} {a : Act} {evs : List Ev} (hn : s.wq.Nodup)
    (e : step s a = some (s', evs)) : Trans s a (s', evs) := by
  unfold step at e
  cases a with
  | sub l k c =>
    rw [← Option.some.inj (of_ite_eq_some e).2]
    unfold doSub
    simp only [ite_signal]
    by_cases hk : k = .slow
    · subst hk
      simp only [↓reduceIte]
      split
      · next hm => exact .subSlowM hm
      · next hm => exact sigIf_ind (M := fun x => Trans s _ (x, _)) fun _ hs => .subSlow hm hs
    · simp only [hk, ↓reduceIte]
      exact sigIf_ind (M := fun x => Trans s _ (x, _)) fun _ hs => .subFast hk hs
  | can l i =>
    have ⟨h, e⟩ := of_ite_eq_some e
    have hc : (s.loops l).cmid = none := by
      have := h.2.1
      simp only [loopReady, Bool.and_eq_true, Option.isNone_iff_eq_none] at this
      exact this.1
    rw [← Option.some.inj e]
    unfold doCan1
    simp only [Bool.and_eq_true, decide_eq_true_eq]
    split
    · next hok => exact .can1Ok hc h.2.2.1 h.2.2.2.1 h.2.2.2.2 hok.1 hok.2
    · next hok => exact .can1No hc h.2.2.1 h.2.2.2.1 h.2.2.2.2 hok
  | go l =>
    have ⟨_, e⟩ := of_ite_eq_some e
    split at e
    · next i ok hc =>
      rw [← Option.some.inj e]
      unfold doCan2
      cases ok
      · exact .can2No hc
      · exact .can2Ok hc
    · split at e
      · cases e
      rw [← Option.some.inj e]
      unfold doReport
      simp only []
      split
      · next hl => exact .repNil hl
      · next hl => exact .repCons hl
  | drn l =>
    have ⟨h, e⟩ := of_ite_eq_some e
    exact Option.some.inj e ▸ .drain h.2.1
  | wk t c =>
    have ⟨ht, e⟩ := of_ite_eq_some e
    unfold doWorker at e
    split at e
    · cases e
    · next hp =>
      exact Option.some.inj e ▸ trans_region (idle := s.idle) (r := s.slowRun) c ht
        (by constructor <;> simp [hp, isIdle, isSlow, WPhase.gotItem, WPhase.inwItem]) hn
    · next hp =>
      exact Option.some.inj e ▸ trans_region (r := s.slowRun) c ht
        (by constructor <;> simp [hp, isIdle, isSlow, WPhase.gotItem, WPhase.inwItem]) hn
    · next slow hp =>
      exact Option.some.inj e ▸ trans_region (idle := s.idle) c ht
        (by cases slow <;> constructor <;> simp [hp, isIdle, isSlow, WPhase.gotItem, WPhase.inwItem]) hn
    · next hp => exact Option.some.inj e ▸ .start ht hp
    · next hp => exact Option.some.inj e ▸ .finish ht hp
  | wake t =>
    have ⟨h, e⟩ := of_ite_eq_some e
    exact Option.some.inj e ▸ .wake h.1 h.2

end UvModel.Tpool
