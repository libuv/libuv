import UvModel.Async
/-! The transitions of `UvModel.Async` in relational form: `Step s a s'` lists, action by action, the guard of
`step? s a = some s'` and the state `s'`; `SndOp` and `LoopOp` do the same for the program counters of a sender and of
the loop thread.  The frame lemmas say what each kind of step leaves alone.  The invariant proofs go through these and
never unfold `step?`. -/
namespace UvModel.Async

@[simp] theorem upd_same (f : Nat → HS) (i : Nat) (v : HS) : upd f i v i = v := by simp [upd]
theorem upd_other (f : Nat → HS) (i : Nat) (v : HS) (j : Nat) (h : j ≠ i) : upd f i v j = f j := by simp [upd, h]

theorem upd_proj {α : Type} (g : HS → α) {f : Nat → HS} {k : Nat} {v : HS} (h : g v = g (f k)) (j : Nat) :
    g (upd f k v j) = g (f j) := by
  unfold upd; split
  · next e => rw [h, e]
  · rfl

theorem upd_at {P : HS → Prop} {f : Nat → HS} {k j : Nat} {v : HS} (hj : P (f j)) (hv : j = k → P (f k) → P v) :
    P (upd f k v j) := by
  unfold upd; split
  · next e => exact hv e (e ▸ hj)
  · exact hj

theorem getElem?_set_some {α : Type} {l : List α} {t t' : Nat} {x y : α} (h : (l.set t x)[t']? = some y) :
    (t' = t ∧ y = x) ∨ (t' ≠ t ∧ l[t']? = some y) := by
  rw [List.getElem?_set] at h
  split at h
  · next e => split at h <;> cases h; exact .inl ⟨e.symm, rfl⟩
  · next e => exact .inr ⟨fun e' => e e'.symm, h⟩

theorem setH_self (s : State) (h : Nat) : setH s h (s.hs h) = s := by
  have : upd s.hs h (s.hs h) = s.hs := by funext j; unfold upd; split <;> simp [*]
  simp only [setH, this]

/-- One atomic operation of uv_async_send (async.c:101-112, 243-252) as a relation between the sender's record, its
handle's record and the eventfd counter before and after; a write still adds to the counter up to `c`. -/
inductive SndOp (c : Nat) : Sender → HS → Nat → Sender → HS → Nat → Prop
  | fast {x v e} : x.pc = .load → v.pending ≠ 0 → SndOp c x v e { x with pc := .idle, sent := true } v e
  | slow {x v e} : x.pc = .load → v.pending = 0 → SndOp c x v e { x with pc := .inc } v e
  | inc {x v e} : x.pc = .inc → SndOp c x v e { x with pc := .xchg } { v with busy := v.busy + 1 } e
  | won {x v e} : x.pc = .xchg → v.pending = 0 →
      SndOp c x v e { x with pc := .write } { v with pending := 1, x01 := v.x01 + 1 } e
  | lost {x v e} : x.pc = .xchg → v.pending ≠ 0 → SndOp c x v e { x with pc := .dec } { v with pending := 1 } e
  | write {x v e} : x.pc = .write → SndOp c x v e { x with pc := .dec } v (if e ≤ c then e + 1 else e)
  | dec {x v e} : x.pc = .dec → SndOp c x v e { x with pc := .idle, sent := true } { v with busy := v.busy - 1 } e

theorem step?_snd {s s' : State} {t : Nat} (hs : step? s (.snd t) = some s') :
    ∃ x x' v e, s.snd[t]? = some x ∧ SndOp s.capm1 x (s.hs x.h) s.efd x' v e ∧
      s' = setSnd { setH s x.h v with efd := e } t x' := by
  simp only [step?, sndStep] at hs
  split at hs
  · cases hs
  next x hx =>
    refine ⟨x, ?_⟩
    split at hs
    · cases hs
    next hpc =>
      split at hs <;> cases hs
      · exact ⟨_, _, _, hx, .fast hpc ‹_›, by rw [setH_self]⟩
      · exact ⟨_, _, _, hx, .slow hpc (Decidable.not_not.mp ‹_›), by rw [setH_self]⟩
    next hpc => cases hs; exact ⟨_, _, _, hx, .inc hpc, rfl⟩
    next hpc =>
      split at hs <;> cases hs
      · exact ⟨_, _, _, hx, .won hpc ‹_›, rfl⟩
      · exact ⟨_, _, _, hx, .lost hpc ‹_›, rfl⟩
    next hpc => cases hs; exact ⟨_, _, _, hx, .write hpc, by rw [setH_self]⟩
    next hpc => cases hs; exact ⟨_, _, _, hx, .dec hpc, rfl⟩

namespace SndOp
variable {c e e' : Nat} {x x' : Sender} {v v' : HS}

theorem active (h : SndOp c x v e x' v' e') : x.pc ≠ .idle := by cases h <;> simp [*]
theorem h_eq (h : SndOp c x v e x' v' e') : x'.h = x.h := by cases h <;> rfl
theorem seq_eq (h : SndOp c x v e x' v' e') : x'.seq = x.seq := by cases h <;> rfl
/-- a sender writes `pending`, `busy` and the ghost `x01` of its handle and nothing else -/
theorem frame (h : SndOp c x v e x' v' e') : v' = { v with pending := v'.pending, busy := v'.busy, x01 := v'.x01 } := by
  cases h <;> rfl
theorem pending_ne (h : SndOp c x v e x' v' e') (hp : v.pending ≠ 0) : v'.pending ≠ 0 := by
  cases h <;> simp_all
theorem efd_pos (h : SndOp c x v e x' v' e') (hw : x.pc = .write) : e' > 0 := by
  cases h <;> simp_all <;> split <;> omega
theorem efd_le (h : SndOp c x v e x' v' e') : e ≤ e' := by
  cases h <;> first | exact Nat.le_refl _ | (split <;> omega)
end SndOp

/-- One step of the loop thread, by program counter (`loopStep` as a relation). -/
inductive LoopOp : State → State → Prop
  | wake {s} : s.lpc = .idle → s.efd > 0 → LoopOp s { s with lpc := .drain }
  | drain {s} : s.lpc = .drain → LoopOp s (nextScan { s with efd := 0, queue := s.handles, handles := [] })
  | skip {s h} : s.lpc = .scan h → (s.hs h).pending = 0 → LoopOp s (nextScan s)
  | call {s h} : s.lpc = .scan h → (s.hs h).pending ≠ 0 →
      LoopOp s { setH s h { s.hs h with pending := 0, cbs := (s.hs h).cbs + 1, seen := (s.hs h).pub } with lpc := .inCb h }
  | cbRet {s h} : s.lpc = .inCb h → LoopOp s (nextScan s)
  | store {s h r} : s.lpc = .closeStore h r →
      LoopOp s { setH s h { s.hs h with pending := 1, stored := true } with lpc := .closeSpin h r }
  | unlink {s h r} : s.lpc = .closeSpin h r → (s.hs h).busy = 0 →
      LoopOp s { setH s h { s.hs h with unlinked := true } with
                 lpc := r.toPc, queue := s.queue.filter (· != h), handles := s.handles.filter (· != h) }

variable {s s' : State} {a : Act}

theorem step?_loop (hs : step? s .loop = some s') : LoopOp s s' := by
  simp only [step?, loopStep] at hs
  split at hs
  next hl => split at hs <;> cases hs; exact .wake hl ‹_›
  next hl => cases hs; exact .drain hl
  next hl =>
    split at hs <;> cases hs
    · exact .skip hl ‹_›
    · exact .call hl ‹_›
  next hl => cases hs; exact .cbRet hl
  next hl => cases hs; exact .store hl
  next hl => split at hs <;> cases hs; exact .unlink hl ‹_›

theorem loop_blocked :
    step? s .loop = none ↔
      (s.lpc = .idle ∧ s.efd = 0) ∨ ∃ h r, s.lpc = .closeSpin h r ∧ (s.hs h).busy ≠ 0 := by
  simp only [step?, loopStep]
  split <;> (try split) <;> simp_all <;> omega

theorem snd_enabled {t : Nat} {x : Sender} (hx : s.snd[t]? = some x) (hp : x.pc ≠ .idle) :
    (step? s (.snd t)).isSome = true := by
  simp only [step?, sndStep, hx]
  cases hpc : x.pc <;> simp [hpc] at hp ⊢ <;> split <;> simp

theorem ret?_eq_some {p : LPc} {r : LRet} (h : p.ret? = some r) : p = r.toPc := by
  cases p <;> cases h <;> rfl

@[simp] theorem nextScan_snd (s : State) : (nextScan s).snd = s.snd := by unfold nextScan; split <;> rfl
@[simp] theorem nextScan_hs (s : State) : (nextScan s).hs = s.hs := by unfold nextScan; split <;> rfl
@[simp] theorem nextScan_efd (s : State) : (nextScan s).efd = s.efd := by unfold nextScan; split <;> rfl
@[simp] theorem nextScan_nh (s : State) : (nextScan s).nh = s.nh := by unfold nextScan; split <;> rfl

theorem nextScan_cases (s : State) :
    (s.queue = [] ∧ nextScan s = { s with lpc := .idle }) ∨
    ∃ h q, s.queue = h :: q ∧ nextScan s = { s with queue := q, handles := s.handles ++ [h], lpc := .scan h } := by
  unfold nextScan
  split
  · exact .inl ⟨‹_›, rfl⟩
  · exact .inr ⟨_, _, ‹_›, rfl⟩

theorem nextScan_lpc (s : State) : (nextScan s).lpc = .idle ∨ ∃ h, (nextScan s).lpc = .scan h := by
  unfold nextScan; split
  · exact .inl rfl
  · exact .inr ⟨_, rfl⟩

@[simp] theorem toPc_ne_closeStore (r : LRet) (h : Nat) (r' : LRet) : r.toPc ≠ .closeStore h r' := by cases r <;> simp [LRet.toPc]
@[simp] theorem toPc_ne_closeSpin (r : LRet) (h : Nat) (r' : LRet) : r.toPc ≠ .closeSpin h r' := by cases r <;> simp [LRet.toPc]
@[simp] theorem toPc_ne_scan (r : LRet) (h : Nat) : r.toPc ≠ .scan h := by cases r <;> simp [LRet.toPc]
@[simp] theorem toPc_ne_drain (r : LRet) : r.toPc ≠ .drain := by cases r <;> simp [LRet.toPc]

namespace LoopOp

theorem snd_eq (h : LoopOp s s') : s'.snd = s.snd := by cases h <;> first | rfl | exact nextScan_snd _
theorem nh_eq (h : LoopOp s s') : s'.nh = s.nh := by cases h <;> first | rfl | exact nextScan_nh _

theorem lpc_ne_closeStore (h : LoopOp s s') (k : Nat) (r : LRet) : s'.lpc ≠ .closeStore k r := by
  cases h with
  | unlink => exact toPc_ne_closeStore _ k r
  | wake | call | store => intro e; cases e
  | drain | skip | cbRet => intro e; rcases nextScan_lpc _ with h | ⟨_, h⟩ <;> rw [e] at h <;> cases h

/-- what a loop step does to the record of one handle: nothing, or the exchange that starts its callback, or the store
or the unlink of uv__async_close -/
theorem hs_cases (hop : LoopOp s s') (j : Nat) :
    s'.hs j = s.hs j ∨
    (s.lpc = .scan j ∧ (s.hs j).pending ≠ 0 ∧ s'.lpc = .inCb j ∧ s'.efd = s.efd ∧
      s'.hs j = { s.hs j with pending := 0, cbs := (s.hs j).cbs + 1, seen := (s.hs j).pub }) ∨
    (∃ r, s.lpc = .closeStore j r ∧ s'.hs j = { s.hs j with pending := 1, stored := true }) ∨
    (∃ r, s.lpc = .closeSpin j r ∧ (s.hs j).busy = 0 ∧ s'.hs j = { s.hs j with unlinked := true }) := by
  cases hop with
  | wake => exact .inl rfl
  | drain | skip | cbRet => exact .inl (congrFun (nextScan_hs _) j)
  | @call h hl hp =>
    by_cases hj : j = h
    · subst hj; exact .inr (.inl ⟨hl, hp, rfl, rfl, upd_same ..⟩)
    · exact .inl (upd_other _ _ _ _ hj)
  | @store h r hl =>
    by_cases hj : j = h
    · subst hj; exact .inr (.inr (.inl ⟨r, hl, upd_same ..⟩))
    · exact .inl (upd_other _ _ _ _ hj)
  | @unlink h r hl hb =>
    by_cases hj : j = h
    · subst hj; exact .inr (.inr (.inr ⟨r, hl, hb, upd_same ..⟩))
    · exact .inl (upd_other _ _ _ _ hj)
end LoopOp

/-- The transition relation: what `step? s a = some s'` implies, by cases on the action, with the guard of each case
(that of `eintr` is dropped: the state does not change) and the state it produces.  Only this direction is used. -/
inductive Step (s : State) : Act → State → Prop
  | begin (t h : Nat) (x : Sender) : s.snd[t]? = some x → x.pc = .idle → h < s.nh → (s.hs h).closing = false →
      Step s (.begin t h) (setSnd (setH s h { s.hs h with pub := (s.hs h).pub + 1 }) t
        { pc := .load, h := h, seq := (s.hs h).pub + 1, sent := false })
  | snd (t : Nat) (x x' : Sender) (v : HS) (e : Nat) : s.snd[t]? = some x → SndOp s.capm1 x (s.hs x.h) s.efd x' v e →
      Step s (.snd t) (setSnd { setH s x.h v with efd := e } t x')
  | loop (s' : State) : LoopOp s s' → Step s .loop s'
  | close (h : Nat) (r : LRet) : s.lpc = r.toPc → h < s.nh → (s.hs h).closing = false →
      Step s (.close h) { setH s h { s.hs h with closing := true } with lpc := .closeStore h r }
  | fork : s.lpc = .idle → Step s .fork { s with
      efd := 0
      hs := fun h => if h ∈ s.handles then { s.hs h with pending := 0, busy := 0 } else s.hs h
      snd := s.snd.map fun x => { x with pc := .idle, sent := false } }
  | eintr (w : Option Nat) : Step s (.eintr w) s
  | closeCbs : s.lpc = .idle → Step s .closeCbs
      { s with hs := fun h => if (s.hs h).unlinked then { s.hs h with freed := true } else s.hs h }

theorem step?_step (hs : step? s a = some s') : Step s a s' := by
  cases a with
  | begin t h =>
    simp only [step?] at hs
    split at hs
    · cases hs
    next x hx =>
      split at hs <;> cases hs
      next hc => exact .begin t h x hx hc.1 hc.2.1 hc.2.2
  | snd t => obtain ⟨x, x', v, e, h1, h2, rfl⟩ := step?_snd hs; exact .snd t x x' v e h1 h2
  | loop => exact .loop s' (step?_loop hs)
  | close h =>
    simp only [step?] at hs
    split at hs
    · cases hs
    next r hr =>
      split at hs <;> cases hs
      next hc => exact .close h r (ret?_eq_some hr) hc.1 hc.2
  | fork => simp only [step?] at hs; split at hs <;> cases hs; exact .fork ‹_›
  | eintr w =>
    cases w <;> simp only [step?] at hs <;> repeat' split at hs
    all_goals cases hs
    all_goals exact .eintr _
  | closeCbs => simp only [step?] at hs; split at hs <;> cases hs; exact .closeCbs ‹_›

/-- `w` agrees with `v` in the fields that only `.loop` steps write: `stored`, `unlinked`, `seen`, `cbs` -/
def HS.loopFieldsEq (v w : HS) : Prop :=
  w = { v with pending := w.pending, busy := w.busy, x01 := w.x01, pub := w.pub, closing := w.closing, freed := w.freed }

theorem nonloop_loopFieldsEq (hs : step? s a = some s') (ha : a ≠ .loop) (j : Nat) :
    (s.hs j).loopFieldsEq (s'.hs j) := by
  cases step?_step hs with
  | loop => exact absurd rfl ha
  | begin | close => exact upd_at (P := (s.hs j).loopFieldsEq) rfl (fun e _ => e ▸ rfl)
  | snd t x x' v e _ hop =>
    exact upd_at (P := (s.hs j).loopFieldsEq) rfl (fun e _ => by subst e; rw [hop.frame]; rfl)
  | fork | closeCbs => dsimp only; split <;> rfl
  | eintr w => rfl

theorem step_elim {P : State → Prop} (h0 : P s) (h1 : ∀ s', step? s a = some s' → P s') :
    P (step s a) := by
  unfold step
  cases hs : step? s a with
  | none => exact h0
  | some s' => exact h1 s' hs

theorem run_elim {P : State → Prop} (hstep : ∀ s a s', P s → step? s a = some s' → P s') (h : P s)
    (acts : List Act) : P (run s acts) := by
  induction acts generalizing s with
  | nil => exact h
  | cons a as ih => exact ih (step_elim h fun s' => hstep s a s' h)

/-- continuation actions of the liveness theorem: no uv_close, no fork (a fork drops undelivered sends in the child by design) -/
def notClose : Act → Prop
  | .close _ => False
  | .fork => False
  | _ => True

theorem notClose_of (hc : ∀ h, a ≠ .close h) (hf : a ≠ .fork) : notClose a := by
  cases a <;> first | trivial | exact hf rfl | exact hc _ rfl

/-- what the sender threads, EINTR and the close callbacks leave alone: the loop thread's position and lists, an
eventfd counter that is set, the `closing` flags, a `pending` flag that is set, and every other sender inside
uv_async_send -/
structure Frame (s s' : State) (b : Act) : Prop where
  lpc : s'.lpc = s.lpc
  queue : s'.queue = s.queue
  handles : s'.handles = s.handles
  efd : s.efd ≤ s'.efd
  hs : ∀ j, (s'.hs j).closing = (s.hs j).closing ∧ ((s.hs j).pending ≠ 0 → (s'.hs j).pending ≠ 0)
  snd : ∀ t, b ≠ .snd t → ∀ x : Sender, s.snd[t]? = some x → x.pc ≠ .idle → s'.snd[t]? = some x

theorem Frame.of_step? {b : Act} (hs : step? s b = some s') (hb : notClose b) (hnl : b ≠ .loop) :
    Frame s s' b := by
  cases step?_step hs with
  | loop => exact absurd rfl hnl
  | close | fork => exact hb.elim
  | begin t h x hx hpc =>
    refine ⟨rfl, rfl, rfl, Nat.le_refl _, fun j => ⟨upd_proj HS.closing (by rfl) j, ?_⟩, fun t' _ y hy hp => ?_⟩
    · exact upd_at (P := fun w => (s.hs j).pending ≠ 0 → w.pending ≠ 0) id fun e _ => e ▸ id
    · show (s.snd.set t _)[t']? = _
      rw [List.getElem?_set_ne (fun e => hp (by rw [← e, hx] at hy; cases hy; exact hpc))]; exact hy
  | snd t x x' v e hx hop =>
    refine ⟨rfl, rfl, rfl, hop.efd_le, fun j => ⟨upd_proj HS.closing (by rw [hop.frame]) j, ?_⟩, fun t' ht y hy _ => ?_⟩
    · exact upd_at (P := fun w => (s.hs j).pending ≠ 0 → w.pending ≠ 0) id fun e _ => e ▸ hop.pending_ne
    · show (s.snd.set t _)[t']? = _
      rw [List.getElem?_set_ne (fun e => ht (congrArg Act.snd e))]; exact hy
  | eintr w => exact ⟨rfl, rfl, rfl, Nat.le_refl _, fun _ => ⟨rfl, id⟩, fun _ _ _ h _ => h⟩
  | closeCbs =>
    refine ⟨rfl, rfl, rfl, Nat.le_refl _, fun j => ?_, fun _ _ _ h _ => h⟩
    dsimp only; split <;> exact ⟨rfl, id⟩

theorem Frame.of_step (s : State) (b : Act) (hb : notClose b) (hnl : b ≠ .loop) : Frame s (step s b) b :=
  step_elim ⟨rfl, rfl, rfl, Nat.le_refl _, fun _ => ⟨rfl, id⟩, fun _ _ _ h _ => h⟩ fun _ hs => Frame.of_step? hs hb hnl

end UvModel.Async
