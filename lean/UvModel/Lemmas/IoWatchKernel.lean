import UvModel.IoWatch
/-! C14, kernel side: the epoll interest list as a map `maskAt`, what `epoll_ctl` and the descriptor-table
operations do to it -/
namespace UvModel.IoWatch

/-- mask of the first entry with key (o, fd) -/
def entMask (l : List Ent) (o fd : Nat) : Option Mask :=
  match l with
  | [] => none
  | e :: r => if e.ofd = o ∧ e.fd = fd then some e.mask else entMask r o fd

/-- the kernel's interest *map*: mask registered for (description, descriptor number) -/
def Kernel.maskAt (k : Kernel) (o fd : Nat) : Option Mask := entMask k.ents o fd

theorem entMask_none_iff (l : List Ent) (o fd : Nat) :
    entMask l o fd = none ↔ (l.any fun e => e.ofd == o && e.fd == fd) = false := by
  induction l with
  | nil => simp [entMask]
  | cons e r ih =>
    simp only [entMask, List.any_cons]
    by_cases h : e.ofd = o ∧ e.fd = fd
    · simp [h]
    · rw [if_neg h, ih]
      have : (e.ofd == o && e.fd == fd) = false := by
        simp; intro h1; exact fun h2 => h ⟨h1, h2⟩
      simp [this]

theorem entMask_append (l : List Ent) (x : Ent) (o fd : Nat) :
    entMask (l ++ [x]) o fd =
      (entMask l o fd).or (if x.ofd = o ∧ x.fd = fd then some x.mask else none) := by
  induction l with
  | nil => simp [entMask]
  | cons e r ih =>
    simp only [List.cons_append, entMask]
    by_cases h : e.ofd = o ∧ e.fd = fd
    · simp [h]
    · rw [if_neg h, if_neg h, ih]

theorem entMask_map (l : List Ent) (o0 fd0 : Nat) (m : Mask) (ow : Option Nat) (o fd : Nat) :
    entMask (l.map fun e => if (e.ofd == o0 && e.fd == fd0) = true then { e with mask := m, owner := ow } else e) o fd =
      if o = o0 ∧ fd = fd0 then (entMask l o fd).map (fun _ => m) else entMask l o fd := by
  induction l with
  | nil => simp [entMask]
  | cons e r ih =>
    simp only [List.map_cons, entMask]
    by_cases h0 : e.ofd = o0 ∧ e.fd = fd0
    · have : (e.ofd == o0 && e.fd == fd0) = true := by simp [h0]
      simp only [this, ↓reduceIte]
      by_cases h : e.ofd = o ∧ e.fd = fd
      · have hk : o = o0 ∧ fd = fd0 := ⟨by rw [← h.1, h0.1], by rw [← h.2, h0.2]⟩
        simp [h, hk]
      · rw [if_neg h, if_neg h, ih]
    · have : ¬ (e.ofd == o0 && e.fd == fd0) = true := by
        simp; intro h1; exact fun h2 => h0 ⟨h1, h2⟩
      simp only [this, Bool.false_eq_true, ↓reduceIte]
      by_cases h : e.ofd = o ∧ e.fd = fd
      · have hk : ¬ (o = o0 ∧ fd = fd0) := fun hc => h0 ⟨by rw [h.1, hc.1], by rw [h.2, hc.2]⟩
        simp [h, hk]
      · rw [if_neg h, if_neg h, ih]

theorem entMask_filter (l : List Ent) (q : Nat → Nat → Bool) (o fd : Nat) :
    entMask (l.filter fun e => q e.ofd e.fd) o fd = if q o fd then entMask l o fd else none := by
  induction l with
  | nil => simp [entMask]
  | cons e r ih =>
    simp only [List.filter_cons]
    by_cases h : e.ofd = o ∧ e.fd = fd
    · obtain ⟨rfl, rfl⟩ := h
      cases hq : q e.ofd e.fd
      · simpa [hq] using ih
      · simp [entMask]
    · cases hq : q e.ofd e.fd
      · simpa [entMask, h] using ih
      · simpa [entMask, h] using ih

theorem entMask_del (l : List Ent) (o0 fd0 o fd : Nat) :
    entMask (l.filter fun e => !(e.ofd == o0 && e.fd == fd0)) o fd =
      if o = o0 ∧ fd = fd0 then none else entMask l o fd := by
  rw [entMask_filter l (fun a b => !(a == o0 && b == fd0))]
  by_cases h : o = o0 ∧ fd = fd0 <;> simp [h]

theorem entMask_gc (l : List Ent) (o0 o fd : Nat) :
    entMask (l.filter fun e => e.ofd != o0) o fd = if o = o0 then none else entMask l o fd := by
  rw [entMask_filter l (fun a _ => a != o0)]
  by_cases h : o = o0 <;> simp [h]

theorem hasEnt_false_iff (k : Kernel) (o fd : Nat) : k.hasEnt o fd = false ↔ k.maskAt o fd = none := by
  unfold Kernel.hasEnt Kernel.maskAt; exact (entMask_none_iff _ _ _).symm

theorem hasEnt_true_iff (k : Kernel) (o fd : Nat) : k.hasEnt o fd = true ↔ k.maskAt o fd ≠ none := by
  have := hasEnt_false_iff k o fd
  cases hh : k.hasEnt o fd
  · simp [this.mp hh]
  · simp; intro hc; rw [this.mpr hc] at hh; cases hh

theorem ctl_ofdAt (k : Kernel) (op : CtlOp) (fd : Nat) (m : Mask) (ow : Option Nat) (fd' : Nat) :
    (k.ctl op fd m ow).1.ofdAt fd' = k.ofdAt fd' := by
  unfold Kernel.ctl; split
  · rfl
  · cases op <;> simp only [] <;> split <;> rfl

theorem ctl_closed (k : Kernel) (op : CtlOp) (fd : Nat) (m : Mask) (ow : Option Nat) (h : k.ofdAt fd = none) :
    k.ctl op fd m ow = (k, -9) := by
  unfold Kernel.ctl; simp [h]

theorem ctl_add_new (k : Kernel) (fd o : Nat) (m : Mask) (ow : Option Nat) (h : k.ofdAt fd = some o)
    (hn : k.maskAt o fd = none) :
    (k.ctl .add fd m ow).2 = 0 ∧ ∀ o' fd', (k.ctl .add fd m ow).1.maskAt o' fd' =
      if o' = o ∧ fd' = fd then some m else k.maskAt o' fd' := by
  have hh := (hasEnt_false_iff k o fd).mpr hn
  unfold Kernel.ctl; simp only [h, hh]
  refine ⟨by simp, fun o' fd' => ?_⟩
  show entMask (k.ents ++ [⟨o, fd, m, ow⟩]) o' fd' = _
  rw [entMask_append]
  by_cases hk : o' = o ∧ fd' = fd
  · obtain ⟨rfl, rfl⟩ := hk
    have : entMask k.ents o' fd' = none := hn
    rw [this]; simp
  · rw [if_neg hk, if_neg (fun hc => hk ⟨hc.1.symm, hc.2.symm⟩)]
    show (entMask k.ents o' fd').or none = entMask k.ents o' fd'
    cases entMask k.ents o' fd' <;> rfl

theorem ctl_add_exists (k : Kernel) (fd o : Nat) (m : Mask) (ow : Option Nat) (h : k.ofdAt fd = some o)
    (hn : k.maskAt o fd ≠ none) : k.ctl .add fd m ow = (k, -17) := by
  have hh := (hasEnt_true_iff k o fd).mpr hn
  unfold Kernel.ctl; simp [h, hh]

theorem ctl_mod_ok (k : Kernel) (fd o : Nat) (m : Mask) (ow : Option Nat) (h : k.ofdAt fd = some o)
    (hn : k.maskAt o fd ≠ none) :
    (k.ctl .mod fd m ow).2 = 0 ∧ ∀ o' fd', (k.ctl .mod fd m ow).1.maskAt o' fd' =
      if o' = o ∧ fd' = fd then some m else k.maskAt o' fd' := by
  have hh := (hasEnt_true_iff k o fd).mpr hn
  unfold Kernel.ctl; simp only [h, hh, if_true]
  refine ⟨by first | trivial | rfl, fun o' fd' => ?_⟩
  simp only [Kernel.maskAt, entMask_map]
  by_cases hk : o' = o ∧ fd' = fd
  · rw [if_pos hk, if_pos hk]
    obtain ⟨rfl, rfl⟩ := hk
    cases hm : entMask k.ents o' fd' with
    | none => exact absurd hm hn
    | some x => rfl
  · rw [if_neg hk, if_neg hk]

theorem ctl_add_mod (k : Kernel) (op : CtlOp) (fd o : Nat) (m : Mask) (ow : Option Nat) (ho : k.ofdAt fd = some o)
    (hd : op ≠ .del) (hmod : op = .mod → k.maskAt o fd ≠ none) :
    ((k.ctl op fd m ow).2 = 0 ∧ ∀ o' fd', (k.ctl op fd m ow).1.maskAt o' fd' =
        if o' = o ∧ fd' = fd then some m else k.maskAt o' fd') ∨
    (op = .add ∧ k.maskAt o fd ≠ none ∧ k.ctl op fd m ow = (k, -17)) := by
  cases op with
  | del => exact absurd rfl hd
  | mod => exact .inl (ctl_mod_ok k fd o m ow ho (hmod rfl))
  | add =>
    by_cases hm : k.maskAt o fd = none
    · exact .inl (ctl_add_new k fd o m ow ho hm)
    · exact .inr ⟨rfl, hm, ctl_add_exists k fd o m ow ho hm⟩

theorem ctl_mod_missing (k : Kernel) (fd o : Nat) (m : Mask) (ow : Option Nat) (h : k.ofdAt fd = some o)
    (hn : k.maskAt o fd = none) : k.ctl .mod fd m ow = (k, -2) := by
  have hh := (hasEnt_false_iff k o fd).mpr hn
  unfold Kernel.ctl; simp [h, hh]

theorem ctl_del_maskAt (k : Kernel) (fd o : Nat) (m : Mask) (ow : Option Nat) (h : k.ofdAt fd = some o) :
    ∀ o' fd', (k.ctl .del fd m ow).1.maskAt o' fd' =
      if o' = o ∧ fd' = fd then none else k.maskAt o' fd' := by
  intro o' fd'
  unfold Kernel.ctl; simp only [h]
  by_cases hh : k.hasEnt o fd = true
  · simp only [hh, if_true, Kernel.maskAt, entMask_del]
  · simp only [hh]
    have hn := (hasEnt_false_iff k o fd).mp (by simpa using hh)
    show k.maskAt o' fd' = _
    by_cases hk : o' = o ∧ fd' = fd
    · rw [if_pos hk]; obtain ⟨rfl, rfl⟩ := hk; exact hn
    · rw [if_neg hk]

/-- the kernel changed only at descriptors in `F` -/
def KFrame (k0 k : Kernel) (F : List Nat) : Prop :=
  (∀ g, k.ofdAt g = k0.ofdAt g) ∧ ∀ o g, g ∉ F → k.maskAt o g = k0.maskAt o g

theorem KFrame.refl (k : Kernel) (F : List Nat) : KFrame k k F := ⟨fun _ => rfl, fun _ _ _ => rfl⟩
theorem KFrame.trans {a b c : Kernel} {F G : List Nat} (h1 : KFrame a b F) (h2 : KFrame b c G) :
    KFrame a c (F ++ G) :=
  ⟨fun g => (h2.1 g).trans (h1.1 g), fun o g hg => by
    rw [h2.2 o g (fun h => hg (List.mem_append_right _ h)), h1.2 o g (fun h => hg (List.mem_append_left _ h))]⟩
theorem KFrame.mono {a b : Kernel} {F G : List Nat} (h : KFrame a b F) (hs : ∀ x ∈ F, x ∈ G) : KFrame a b G :=
  ⟨h.1, fun o g hg => h.2 o g (fun hx => hg (hs g hx))⟩

theorem ctl_add_ret (k : Kernel) (fd : Nat) (m : Mask) (ow : Option Nat) :
    k.ctl .add fd m ow = (k, -9) ∨ ((k.ctl .add fd m ow).2 = 0 ∨ (k.ctl .add fd m ow).2 = -17) := by
  cases ho : k.ofdAt fd with
  | none => exact .inl (ctl_closed k .add fd m ow ho)
  | some o =>
    rcases ctl_add_mod k .add fd o m ow ho (by simp) (by simp) with h | h
    · exact .inr (.inl h.1)
    · exact .inr (.inr (congrArg Prod.snd h.2.2))

theorem ctl_del_ret (k : Kernel) (fd o : Nat) (m : Mask) (ow : Option Nat) (h : k.ofdAt fd = some o)
    (hn : k.maskAt o fd ≠ none) : (k.ctl .del fd m ow).2 = 0 := by
  have hh := (hasEnt_true_iff k o fd).mpr hn
  unfold Kernel.ctl; simp [h, hh]

/-- `uv__io_check_fd`'s probe (linux.c:735-753) -/
theorem ctl_add_del (k : Kernel) (fd : Nat) (m m' : Mask) (ow ow' : Option Nat) :
    KFrame (k.ctl .del fd m' ow').1 ((k.ctl .add fd m ow).1.ctl .del fd m' ow').1 [] ∧
    (((k.ctl .add fd m ow).2 = 0 ∨ (k.ctl .add fd m ow).2 = -17) →
      ((k.ctl .add fd m ow).1.ctl .del fd m' ow').2 = 0) := by
  cases ho : k.ofdAt fd with
  | none =>
    rw [ctl_closed k .add fd m ow ho]
    exact ⟨KFrame.refl _ _, fun h => by rcases h with h | h <;> cases h⟩
  | some o =>
    rcases ctl_add_mod k .add fd o m ow ho (by simp) (by simp) with ⟨_, hm⟩ | ⟨_, hne, e⟩
    · have ho' : (k.ctl .add fd m ow).1.ofdAt fd = some o := (ctl_ofdAt ..).trans ho
      refine ⟨⟨fun g => by rw [ctl_ofdAt, ctl_ofdAt, ctl_ofdAt], fun o' g _ => ?_⟩,
        fun _ => ctl_del_ret _ fd o m' ow' ho' (by rw [hm, if_pos ⟨rfl, rfl⟩]; simp)⟩
      rw [ctl_del_maskAt _ fd o m' ow' ho', ctl_del_maskAt k fd o m' ow' ho, hm]
      split <;> rfl
    · rw [e]; exact ⟨KFrame.refl _ _, fun _ => ctl_del_ret k fd o m' ow' ho hne⟩

theorem gc_spec (k : Kernel) (o : Nat) :
    (∀ fd, (k.gc o).ofdAt fd = k.ofdAt fd) ∧
    ∀ o' fd', (k.gc o).maskAt o' fd' = if k.refd o = false ∧ o' = o then none else k.maskAt o' fd' := by
  unfold Kernel.gc
  by_cases hr : k.refd o = true
  · simp [hr]
  · simp only [hr]
    refine ⟨fun _ => rfl, fun o' fd' => ?_⟩
    show entMask (k.ents.filter fun e => e.ofd != o) o' fd' = _
    rw [entMask_gc]
    by_cases ho : o' = o
    · simp [ho]
    · simp [ho, Kernel.maskAt]

theorem lookup_append_new (l : List (Nat × Nat)) (fd o f : Nat) (h : l.lookup fd = none) :
    (l ++ [(fd, o)]).lookup f = if f = fd then some o else l.lookup f := by
  rw [List.lookup_append, List.lookup_singleton]
  by_cases e : f = fd
  · subst e; simp [h]
  · cases l.lookup f <;> simp [e]

theorem lookup_filter_ne (l : List (Nat × Nat)) (fd f : Nat) :
    (l.filter fun p => p.1 != fd).lookup f = if f = fd then none else l.lookup f := by
  induction l with
  | nil => simp
  | cons a r ih =>
    obtain ⟨a1, a2⟩ := a
    simp only [List.filter_cons]
    by_cases e : a1 = fd
    · have : ((a1, a2).1 != fd) = false := by simp [e]
      simp only [this, Bool.false_eq_true, ↓reduceIte, ih, List.lookup_cons]
      by_cases e2 : f = fd
      · simp [e2]
      · rw [if_neg e2]
        have : (f == a1) = false := by simp [e, e2]
        simp only [if_neg e2, this]
    · have : ((a1, a2).1 != fd) = true := by simp [e]
      simp only [this, ↓reduceIte, List.lookup_cons, ih]
      cases hfa : (f == a1)
      · rfl
      · have e1 : f = a1 := by simpa using hfa
        have : ¬ f = fd := by rw [e1]; exact e
        simp [this]

theorem refd_of_ofdAt (k : Kernel) (fd o : Nat) (h : k.ofdAt fd = some o) : k.refd o = true := by
  have hm : (fd, o) ∈ k.fdtab := by
    unfold Kernel.ofdAt at h
    generalize k.fdtab = l at h
    induction l with
    | nil => simp at h
    | cons a r ih =>
      obtain ⟨a1, a2⟩ := a
      simp only [List.lookup_cons] at h
      cases hfa : (fd == a1)
      · rw [hfa] at h; exact List.mem_cons_of_mem _ (ih h)
      · rw [hfa] at h
        have e1 : fd = a1 := by simpa using hfa
        simp at h; subst h; subst e1; simp
  unfold Kernel.refd
  simp only [Bool.or_eq_true, List.any_eq_true]
  left; exact ⟨(fd, o), hm, by simp⟩

theorem gc_keeps (k : Kernel) (o : Nat) :
    (∀ o' g, (k.gc o).maskAt o' g ≠ none → (k.gc o).maskAt o' g = k.maskAt o' g) ∧
    (∀ o' g, (k.gc o).ofdAt g = some o' → (k.gc o).maskAt o' g = k.maskAt o' g) := by
  obtain ⟨g1, g2⟩ := gc_spec k o
  refine ⟨fun o' g hne => ?_, fun o' g ho => ?_⟩
  · rw [g2] at hne ⊢
    split
    · rename_i hc; rw [if_pos hc] at hne; exact absurd rfl hne
    · rfl
  · rw [g1] at ho
    rw [g2, if_neg]
    intro hc; have := refd_of_ofdAt k g o' ho; rw [hc.2, hc.1] at this; cases this

theorem closeFd_spec (k : Kernel) (fd o : Nat) (h : k.ofdAt fd = some o) :
    (∀ g, (k.closeFd fd).ofdAt g = if g = fd then none else k.ofdAt g) ∧
    (∀ o' g, (k.closeFd fd).maskAt o' g ≠ none → (k.closeFd fd).maskAt o' g = k.maskAt o' g) ∧
    (∀ o' g, (k.closeFd fd).ofdAt g = some o' → (k.closeFd fd).maskAt o' g = k.maskAt o' g) := by
  unfold Kernel.closeFd; simp only [h]
  exact ⟨fun g => ((gc_spec _ o).1 g).trans (lookup_filter_ne k.fdtab fd g), gc_keeps _ o⟩

theorem closeDup_spec (k : Kernel) (d : Nat) :
    (∀ g, (k.closeDup d).ofdAt g = k.ofdAt g) ∧
    (∀ o' g, (k.closeDup d).maskAt o' g ≠ none → (k.closeDup d).maskAt o' g = k.maskAt o' g) ∧
    (∀ o' g, (k.closeDup d).ofdAt g = some o' → (k.closeDup d).maskAt o' g = k.maskAt o' g) := by
  unfold Kernel.closeDup
  cases k.dups.lookup d with
  | none => exact ⟨fun _ => rfl, fun _ _ _ => rfl, fun _ _ _ => rfl⟩
  | some o => exact ⟨(gc_spec _ o).1, gc_keeps _ o⟩

end UvModel.IoWatch
