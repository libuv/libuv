import UvModel.CSem
import UvModel.Lemmas.KernelSimp
/-!
  What the C integer operations of `UvModel.CSem` compute on operands in the range of the C type, and
  the simp set `kernel_simp` in which the Tie A obligations (`UvModel/GenEq*.lean`) compare a generated
  kernel with its model.
-/
namespace UvModel.CSem

theorem u32_of_range {n : Int} (h0 : 0 ≤ n) (h1 : n < 4294967296) : u32 n = n :=
  Int.emod_eq_of_lt h0 h1

theorem u64_of_range {n : Int} (h0 : 0 ≤ n) (h1 : n < 18446744073709551616) : u64 n = n :=
  Int.emod_eq_of_lt h0 h1

theorem i32_of_range {n : Int} (h0 : -2147483648 ≤ n) (h1 : n < 2147483648) : i32 n = n := by
  unfold i32
  omega

theorem i8_of_range {n : Int} (h0 : -128 ≤ n) (h1 : n < 128) : i8 n = n := by
  unfold i8
  omega

/-! Stated through `u32_of_range` / `u64_of_range` and not by `rfl`: as `rfl` lemmas `simp` would apply
    them definitionally and leave the `Decidable` instances of the tests they occur in behind. -/

@[kernel_simp] theorem u32_zero : u32 0 = 0 := u32_of_range (by decide) (by decide)

@[kernel_simp] theorem u32_one : u32 1 = 1 := u32_of_range (by decide) (by decide)

@[kernel_simp] theorem u64_zero : u64 0 = 0 := u64_of_range (by decide) (by decide)

@[kernel_simp] theorem u64_one : u64 1 = 1 := u64_of_range (by decide) (by decide)

theorem u32_natCast {n : Nat} (h : n < 2 ^ 32) : u32 n = n :=
  u32_of_range (Int.natCast_nonneg n) (by omega)

theorem u64_natCast {n : Nat} (h : n < 2 ^ 64) : u64 n = n :=
  u64_of_range (Int.natCast_nonneg n) (by omega)

theorem u64_natCast_sub {a b : Nat} (h : b ≤ a) (ha : a < 2 ^ 64) : u64 ((a : Int) - b) = ((a - b : Nat) : Int) := by
  rw [← Int.natCast_sub h]
  exact u64_natCast (Nat.lt_of_le_of_lt (Nat.sub_le ..) ha)

theorem u64_natCast_mod (n : Nat) : u64 n = ((n % 2 ^ 64 : Nat) : Int) := by
  rw [Int.natCast_emod]
  rfl

/-! Wrapping commutes with `+` and `-`: an operand that was wrapped already may be taken unwrapped. -/

@[kernel_simp] theorem u64_add_u64 (a b : Int) : u64 (a + u64 b) = u64 (a + b) := Int.add_emod_emod ..

@[kernel_simp] theorem u64_u64_sub (a b : Int) : u64 (u64 a - b) = u64 (a - b) := Int.emod_sub_emod ..

@[kernel_simp] theorem u64_sub_u64 (a b : Int) : u64 (a - u64 b) = u64 (a - b) := Int.sub_emod_emod ..

@[kernel_simp] theorem i32_b2i (b : Bool) : i32 (b2i b) = (b.toNat : Int) := by
  cases b <;> rfl

@[kernel_simp] theorem b2i_ne_zero (b : Bool) : (b2i b != 0) = b := by
  cases b <;> rfl

theorem land_natCast {a b : Nat} (ha : a < 2 ^ 64) (hb : b < 2 ^ 64) : land a b = ((a &&& b : Nat) : Int) := by
  unfold land
  rw [u64_natCast ha, u64_natCast hb]
  rfl

theorem lor_natCast {a b : Nat} (ha : a < 2 ^ 64) (hb : b < 2 ^ 64) : lor a b = ((a ||| b : Nat) : Int) := by
  unfold lor
  rw [u64_natCast ha, u64_natCast hb]
  rfl

@[kernel_simp] theorem shr_natCast (a n : Nat) : shr a n = ((a >>> n : Nat) : Int) := by
  unfold shr
  rw [Nat.shiftRight_eq_div_pow]
  norm_cast

end UvModel.CSem

namespace UvModel.GenEq

@[kernel_simp] theorem map_ite {α β : Type} (f : α → β) (c : Prop) [Decidable c] (x y : Option α) :
    (if c then x else y).map f = if c then x.map f else y.map f :=
  apply_ite (Option.map f) ..

@[kernel_simp] theorem bind_ite {α β : Type} (f : α → Option β) (c : Prop) [Decidable c] (x y : Option α) :
    (if c then x else y).bind f = if c then x.bind f else y.bind f :=
  apply_ite (Option.bind · f) ..

@[kernel_simp] theorem some_ite {α : Type} (c : Prop) [Decidable c] (x y : α) :
    some (if c then x else y) = if c then some x else some y :=
  apply_ite some ..

@[kernel_simp] theorem natCast_ite (c : Prop) [Decidable c] (x y : Nat) :
    ((if c then x else y : Nat) : Int) = if c then (x : Int) else y :=
  apply_ite Nat.cast ..

attribute [kernel_simp] Option.map_some Option.bind_some ite_self if_true if_false
  decide_eq_true_eq decide_true decide_false decide_not Bool.false_eq_true Bool.not_not Bool.not_true
  Bool.not_false Bool.not_eq_true' Bool.not_eq_false' Bool.or_eq_true Bool.and_eq_true Bool.and_eq_false_iff
  Bool.or_eq_false_iff Bool.false_or Bool.true_or true_and false_and and_true and_false
  beq_iff_eq bne_iff_ne beq_eq_false_iff_ne bne_eq_false_iff_eq beq_self_eq_true bne_self_eq_false ne_eq not_true_eq_false not_false_eq_true
  decide_eq_false_iff_not gt_iff_lt ge_iff_le Int.ofNat_lt Int.ofNat_le Int.natCast_inj
  Int.natCast_eq_zero Int.natCast_zero

end UvModel.GenEq
