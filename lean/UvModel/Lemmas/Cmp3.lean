/-!
  The comparators libuv hands to the RB-tree macros of src/unix/tree.h answer `-1`, `1` or `0` after
  two `<` tests.  Over a strict total order that is a three-way comparison with the laws the macros
  rely on (`RB_INSERT` / `RB_FIND` / `RB_NFIND` descend by the sign and treat `0` as "this node").
-/
namespace UvModel.GenEq

variable {α : Type} {lt : α → α → Prop} [DecidableRel lt]

/-- `if (a < b) return -1; if (b < a) return 1; return 0;` -/
def cmp3 (lt : α → α → Prop) [DecidableRel lt] (a b : α) : Int :=
  if lt a b then -1 else if lt b a then 1 else 0

theorem cmp3_neg_iff_lt (a b : α) : cmp3 lt a b < 0 ↔ lt a b := by
  unfold cmp3
  by_cases h1 : lt a b
  · simp [h1]
  · by_cases h2 : lt b a <;> simp [h1, h2]

theorem cmp3_range (a b : α) : cmp3 lt a b = -1 ∨ cmp3 lt a b = 0 ∨ cmp3 lt a b = 1 := by
  unfold cmp3
  by_cases h1 : lt a b
  · simp [h1]
  · by_cases h2 : lt b a <;> simp [h1, h2]

variable (asymm : ∀ a b, lt a b → ¬ lt b a)
include asymm

theorem cmp3_antisymm (a b : α) : cmp3 lt a b = -cmp3 lt b a := by
  unfold cmp3
  by_cases h1 : lt a b
  · simp [h1, asymm a b h1]
  · by_cases h2 : lt b a <;> simp [h1, h2]

theorem cmp3_zero_iff_eq (total : ∀ a b, lt a b ∨ a = b ∨ lt b a) (a b : α) : cmp3 lt a b = 0 ↔ a = b := by
  have irr : ∀ c, ¬ lt c c := fun c h => asymm c c h h
  unfold cmp3
  rcases total a b with h | rfl | h
  · have : a ≠ b := fun e => irr b (e ▸ h)
    simp [h, this]
  · simp [irr a]
  · have : a ≠ b := fun e => irr b (e ▸ h)
    simp [h, asymm b a h, this]

end UvModel.GenEq
