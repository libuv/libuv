import UvModel.Lemmas.IoWatchRing
/-! C14: `FInv` through `uv__io_poll` (both ctl modes), `uv_run` and whole programs; `abort()` is never
reached by user operations and callbacks -/
namespace UvModel.IoWatch

theorem ioStart_ab (s : St) (id : Nat) (m : Mask) : (ioStart s id m).aborted = s.aborted :=
  (blankReg_fields (blankReg_ioStart s id m)).2.2.2.1

theorem ioStop_ab (s : St) (id : Nat) (m : Mask) : (ioStop s id m).aborted = s.aborted :=
  (blankReg_fields (blankReg_ioStop s id m)).2.2.2.1

theorem invalidate_ab (s : St) (fd : Nat) : (invalidate s fd).aborted = s.aborted := by
  unfold invalidate
  exact ite_proj (fun x => (ctl x .del fd Mask.none none).1.aborted) rfl rfl

theorem pollStop_ab (s : St) (id : Nat) : (pollStop s id).aborted = s.aborted :=
  (invalidate_ab ..).trans (ioStop_ab s id Mask.all4)

theorem ioClose_ab (s : St) (id : Nat) : (ioClose s id).aborted = s.aborted :=
  (invalidate_ab ..).trans (ioStop_ab s id Mask.all4)

theorem pollStart_ab (s : St) (id : Nat) (u : UvEv) : (pollStart s id u).1.aborted = s.aborted := by
  unfold pollStart; simp only []
  split
  · rfl
  · split
    · exact pollStop_ab _ _
    · show (ioStart (pollStop s id) id (uvToPoll u)).aborted = _
      rw [ioStart_ab, pollStop_ab]

theorem pollInit_ab (s : St) (fd : Nat) : (pollInit s fd).1.aborted = s.aborted := by
  rw [pollInit_eq]
  refine ite_proj (fun x : St × Int × Option Nat => x.1.aborted) rfl ?_
  refine iteInduction (motive := fun x : St × Int × Option Nat => x.1.aborted = s.aborted) (fun _ => rfl) fun hr => ?_
  -- the DEL after a successful or EEXIST ADD cannot fail
  have hd : (ctl (ctl s .add fd Mask.pollin none).1 .del fd Mask.none none).2 = 0 :=
    (ctl_add_del s.k fd Mask.pollin Mask.none none none).2 (by
      by_cases h0 : (ctl s .add fd Mask.pollin none).2 = 0
      · exact .inl h0
      · exact .inr (Classical.not_not.mp fun h => hr ⟨h0, h⟩))
  rw [if_neg (fun h => h hd)]; rfl

theorem ioFeed_ab (s : St) (id : Nat) : (ioFeed s id).aborted = s.aborted :=
  ite_proj St.aborted rfl rfl

theorem doOp_ab (s : St) (o : Op) : (doOp s o).aborted = s.aborted := by
  cases o <;> simp only [doOp]
  case pinit fd =>
    refine ite_proj St.aborted rfl ?_
    have := pollInit_ab s fd
    generalize pollInit s fd = p at this ⊢
    obtain ⟨s', r, _ | id⟩ := p
    · exact ite_proj St.aborted this this
    · exact this
  case pstart id u => exact ite_proj St.aborted (pollStart_ab ..) rfl
  case pstop id => exact ite_proj St.aborted (pollStop_ab ..) rfl
  case pclose id => exact ite_proj St.aborted (pollStop_ab ..) rfl
  case iostart id m => exact ite_proj St.aborted (ioStart_ab ..) rfl
  case iostop id m => exact ite_proj St.aborted (ioStop_ab ..) rfl
  case ioclose id => exact ite_proj St.aborted (ioClose_ab ..) rfl
  case iofeed id => exact ite_proj St.aborted (ioFeed_ab ..) rfl
  all_goals exact ite_proj St.aborted rfl rfl

theorem execOp_ab (s : St) (o : Op) : (execOp s o).aborted = s.aborted :=
  ite_proj St.aborted rfl (doOp_ab ..)

theorem execOps_ab (s : St) (ops : List Op) : (execOps s ops).aborted = s.aborted := by
  unfold execOps
  induction ops generalizing s with
  | nil => rfl
  | cons o r ih => exact (ih _).trans (execOp_ab s o)

theorem deliver_ab (sc : Script) (s : St) (id : Nat) (ev : Mask) : (deliver sc s id ev).aborted = s.aborted :=
  ite_proj St.aborted (ite_proj St.aborted ((execOps_ab ..).trans (ioStop_ab ..)) (execOps_ab ..)) (execOps_ab ..)

theorem runPend_ab (sc : Script) (s : St) (n : Nat) : (runPend sc s n).aborted = s.aborted := by
  induction n generalizing s with
  | zero => rfl
  | succ n ih =>
    unfold runPend; split
    · rfl
    · rw [ih, deliver_ab]

theorem runPending_ab (sc : Script) (s : St) : (runPending sc s).aborted = s.aborted := by
  unfold runPending; rw [runPend_ab]

theorem applyQueue_any {s : St} (f : FInv s) :
    FInv (flushAll (applyQueue s)) ∧ (flushAll (applyQueue s)).aborted = s.aborted ∧
    KFrame s.k (flushAll (applyQueue s)).k (s.wq.map fun a => (getW s a).fd) ∧
    (applyQueue s).aborted = s.aborted := by
  obtain ⟨a, b⟩ := applyQueue_spec f.kc fun _ => f.si.nodup
  exact ⟨⟨f.si.reach ((reach_applyQueue s).trans (same_flushAll _).reach), a⟩, b⟩

theorem ioPoll_finv (sc : Script) {s : St} (f : FInv s) (hab : s.aborted = false) (t0 : Bool) (bs : List Batch) :
    FInv (ioPoll sc s t0 bs) := by
  obtain ⟨fa, _, _, hb⟩ := applyQueue_any f
  unfold ioPoll
  rw [if_neg (by rw [hb, hab]; exact Bool.false_ne_true)]
  exact pollLoop_ind sc FInv (fun t g => by rw [flushAll_of_sq_nil g.kc.sq]; exact g) (fun _ e g => g.emit e)
    (fun _ _ _ g => g.same rfl rfl rfl rfl rfl rfl rfl) (fun _ i n g => dispatchFrom_finv sc g i n) bs _ t0 48 fa

theorem runPend_finv (sc : Script) {s : St} (f : FInv s) (n : Nat) : FInv (runPend sc s n) := by
  induction n generalizing s with
  | zero => exact f
  | succ n ih =>
    unfold runPend; split
    · exact f
    · rename_i id rest _
      have f1 : FInv { s with pendingRun := rest } := f.same rfl rfl rfl rfl rfl rfl rfl
      exact ih (deliver_finv sc f1 id Mask.pollout)

theorem runPending_finv (sc : Script) {s : St} (f : FInv s) : FInv (runPending sc s) := by
  unfold runPending
  exact runPend_finv sc (f.same (t := { s with pendingRun := s.pending, pending := [] }) rfl rfl rfl rfl rfl rfl rfl) _

theorem pend8_finv (sc : Script) (n : Nat) {s : St} (f : FInv s) : FInv (pend8 sc n s) := by
  induction n generalizing s with
  | zero => exact f
  | succ n ih =>
    unfold pend8; split
    · exact f
    · exact ih (runPending_finv sc f)

theorem foldEmit_finv (l : List Nat) {s : St} (f : FInv s) :
    FInv (l.foldl (fun s id => emit s (.cbClose id)) s) := by
  induction l generalizing s with
  | nil => exact f
  | cons a r ih => exact ih (f.same rfl rfl rfl rfl rfl rfl rfl)

theorem runClosing_finv {s : St} (f : FInv s) : FInv (runClosing s) := by
  unfold runClosing
  exact foldEmit_finv _ (f.same (t := { s with closingQ := [] }) rfl rfl rfl rfl rfl rfl rfl)

theorem run_finv (sc : Script) {s : St} (f : FInv s) (bs : List Batch) : FInv (run sc s bs) := by
  unfold run
  refine iteInduction (motive := FInv) (fun _ => f) fun hab => ?_
  have a1 : (runPending sc s).aborted = false := (runPending_ab sc s).trans (Bool.eq_false_iff.mpr hab)
  exact (runClosing_finv (pend8_finv sc 8 (ioPoll_finv sc (runPending_finv sc f) a1 _ bs))).emit _

theorem finv_init (ring : Bool) (internal nw : Nat) : FInv (init ring internal nw) :=
  ⟨sinv_init ring internal nw, kcore_init ring internal nw⟩

theorem exec_finv (sc : Script) {s : St} (f : FInv s) (p : List Cmd) : FInv (exec sc s p) := by
  unfold exec
  induction p generalizing s with
  | nil => exact f
  | cons c r ih =>
    simp only [List.foldl_cons]
    apply ih
    cases c with
    | op o => exact execOp_finv f o
    | run bs => exact run_finv sc f bs

end UvModel.IoWatch
