import UvModel.FsEvent
/-! `Inv` holds in every state of the fs_event model, also in the middle of a dispatch; `Iter wd` while the
    list of `wd` is iterated and `Idle` outside uv__inotify_read.  An API call, whoever makes it, is a `Step`:
    it keeps `Inv`, is `Calm` (so keeps `Iter`/`Idle`) and takes from the detached queue what it stops. -/
namespace UvModel.FsEvent

@[simp] theorem upd_same {α} (f : Nat → α) (i : Nat) (v : α) : upd f i v i = v := if_pos rfl
@[simp] theorem upd_upd {α} (f : Nat → α) (i : Nat) (a b : α) : upd (upd f i a) i b = upd f i b := by
  funext j; simp only [upd]; split <;> rfl

theorem upd_ne {α} (f : Nat → α) {i j : Nat} (v : α) (h : j ≠ i) : upd f i v j = f j := if_neg h

theorem upd_cases {α} {f : Nat → α} {i j : Nat} {v x : α} (h : upd f i v j = x) :
    (j = i ∧ v = x) ∨ (j ≠ i ∧ f j = x) := by
  by_cases e : j = i
  · exact .inl ⟨e, by rwa [e, upd_same] at h⟩
  · exact .inr ⟨e, by rwa [upd_ne f v e] at h⟩

theorem upd_some {α} {f : Nat → Option α} {i j : Nat} {v x : α} (h : upd f i (some v) j = some x) :
    (j = i ∧ x = v) ∨ (j ≠ i ∧ f j = some x) :=
  (upd_cases h).imp (fun e => ⟨e.1, (Option.some.inj e.2).symm⟩) id

/-- structural invariant (holds in every reachable state, also in the middle of a dispatch) -/
structure Inv (s : S) : Prop where
  noErr : s.err = false
  key : ∀ wd w, s.lists wd = some w → w.wd = wd
  memW : ∀ wd w h, s.lists wd = some w → h ∈ w.watchers → (s.hs h).active = true ∧ (s.hs h).wd = wd
  memQ : ∀ h, h ∈ s.queue → (s.hs h).active = true
  memQ2 : ∀ h w, h ∈ s.queue → s.lists (s.hs h).wd = some w → w.iterating = true ∧ h ∉ w.watchers
  actSome : ∀ h, (s.hs h).active = true → s.lists (s.hs h).wd ≠ none
  act : ∀ h w, (s.hs h).active = true → s.lists (s.hs h).wd = some w → (h ∈ w.watchers ∨ h ∈ s.queue)
  ndW : ∀ wd w, s.lists wd = some w → w.watchers.Nodup
  ndQ : s.queue.Nodup
  nonempty : ∀ wd w, s.lists wd = some w → w.iterating = false → w.watchers ≠ []
  closing : ∀ h, (s.hs h).closing = true → (s.hs h).active = false

theorem Inv.congr {s s' : S} (hi : Inv s) (h1 : s'.lists = s.lists) (h2 : s'.hs = s.hs) (h3 : s'.queue = s.queue)
    (h4 : s'.err = s.err) : Inv s' := by
  cases s; cases s'; cases h1; cases h2; cases h3; cases h4; exact ⟨hi.1, hi.2, hi.3, hi.4, hi.5, hi.6, hi.7, hi.8, hi.9, hi.10, hi.11⟩

theorem inv_emit {s : S} (hi : Inv s) (o : Obs) : Inv (s.emit o) := hi.congr rfl rfl rfl rfl

/-- what maybe_free_watcher_list leaves of a list -/
def keep (w : WL) : Option WL := if (!w.iterating && w.watchers.isEmpty) = true then none else some w

theorem keep_eq_some (w w' : WL) :
    keep w = some w' ↔ w' = w ∧ (w.iterating = true ∨ w.watchers ≠ []) := by
  unfold keep
  cases w.iterating <;> cases w.watchers <;> simp [eq_comm]

theorem keep_eq_none (w : WL) : keep w = none ↔ w.iterating = false ∧ w.watchers = [] := by
  unfold keep
  cases w.iterating <;> cases w.watchers <;> simp

theorem upd_keep {f : Nat → Option WL} {i j : Nat} {w x : WL} (h : upd f i (keep w) j = some x) :
    (j = i ∧ x = w ∧ (w.iterating = true ∨ w.watchers ≠ [])) ∨ (j ≠ i ∧ f j = some x) :=
  (upd_cases h).imp (fun e => ⟨e.1, (keep_eq_some _ _).1 e.2⟩) id

theorem stopCore_idle {s : S} {h : Nat} (ha : (s.hs h).active = false) : stopCore s h = s := by
  simp only [stopCore, ha, Bool.not_false, if_true]

theorem stopCore_active {s : S} {h : Nat} {w : WL} (ha : (s.hs h).active = true)
    (hw : s.lists (s.hs h).wd = some w) (hk : w.wd = (s.hs h).wd) :
    stopCore s h =
      { s with hs := upd s.hs h { s.hs h with active := false, wd := 0 },
               lists := upd s.lists (s.hs h).wd (keep { w with watchers := w.watchers.erase h }),
               queue := s.queue.erase h,
               trace := (if (!w.iterating && (w.watchers.erase h).isEmpty) = true then [.rmwatch (s.hs h).wd] else [])
                 ++ s.trace } := by
  simp only [stopCore, ha, find, hw, hk, maybeFree, setList, upd_same, keep, S.emit, Bool.not_true,
    Bool.false_eq_true, if_false]
  split <;> simp only [upd_upd, List.cons_append, List.nil_append]

/-- while the list of `wd` is being iterated (between `w->iterating = 1` and `= 0`) -/
structure Iter (s : S) (wd : Nat) : Prop where
  ex : s.lists wd ≠ none
  it : ∀ w, s.lists wd = some w → w.iterating = true
  others : ∀ wd' w', wd' ≠ wd → s.lists wd' = some w' → w'.iterating = false
  qwd : ∀ h, h ∈ s.queue → (s.hs h).wd = wd

/-- outside uv__inotify_read -/
structure Idle (s : S) : Prop where
  q : s.queue = []
  noIt : ∀ wd w, s.lists wd = some w → w.iterating = false

def busy (s : S) (wd : Nat) : Bool := (s.lists wd).any (·.iterating)

theorem busy_eq_true {s : S} {wd : Nat} : busy s wd = true ↔ ∃ w, s.lists wd = some w ∧ w.iterating = true := by
  unfold busy; cases s.lists wd <;> simp

theorem busy_eq_false {s : S} {wd : Nat} : busy s wd = false ↔ ∀ w, s.lists wd = some w → w.iterating = false := by
  unfold busy; cases s.lists wd <;> simp

theorem keep_any (w : WL) : (keep w).any (·.iterating) = w.iterating := by
  unfold keep; split <;> simp_all

/-- What API calls leave alone, whoever makes them: which lists are being iterated, and the detached
    queue, which nothing joins and on which no handle changes its watch descriptor. -/
structure Calm (s s' : S) : Prop where
  busy : ∀ wd, busy s' wd = busy s wd
  queue : ∀ h, h ∈ s'.queue → h ∈ s.queue ∧ (s'.hs h).wd = (s.hs h).wd

theorem Calm.of_eq {s s' : S} (h1 : s'.lists = s.lists) (h2 : s'.hs = s.hs) (h3 : s'.queue = s.queue) : Calm s s' :=
  ⟨fun wd => by simp only [FsEvent.busy, h1], fun _ a => ⟨h3 ▸ a, by rw [h2]⟩⟩

theorem Calm.trans {a b c : S} (h1 : Calm a b) (h2 : Calm b c) : Calm a c :=
  ⟨fun wd => (h2.busy wd).trans (h1.busy wd),
   fun h hm => ⟨(h1.queue h (h2.queue h hm).1).1, (h2.queue h hm).2.trans (h1.queue h (h2.queue h hm).1).2⟩⟩

theorem Iter.calm {s s' : S} {wd : Nat} (hl : Iter s wd) (hc : Calm s s') : Iter s' wd := by
  obtain ⟨w, hw⟩ := Option.ne_none_iff_exists'.1 hl.ex
  obtain ⟨w', hw', hit'⟩ := busy_eq_true.1 ((hc.busy wd).trans (busy_eq_true.2 ⟨w, hw, hl.it w hw⟩))
  refine ⟨by rw [hw']; exact Option.some_ne_none _, fun w0 h0 => ?_, fun wd0 w0 hne h0 => ?_,
    fun h hm => (hc.queue h hm).2.trans (hl.qwd h (hc.queue h hm).1)⟩
  · rw [hw'] at h0; cases h0; exact hit'
  · exact busy_eq_false.1 ((hc.busy wd0).trans (busy_eq_false.2 fun w1 h1 => hl.others wd0 w1 hne h1)) w0 h0

theorem Idle.calm {s s' : S} (hd : Idle s) (hc : Calm s s') : Idle s' :=
  ⟨List.eq_nil_iff_forall_not_mem.2 fun h hm => List.not_mem_nil (hd.q ▸ (hc.queue h hm).1),
   fun wd => busy_eq_false.1 ((hc.busy wd).trans (busy_eq_false.2 (hd.noIt wd)))⟩

theorem calm_members {s s' : S} {wd : Nat} {w1 : WL} {ws : List Nat}
    (hl : s.lists wd = some w1 ∨ s.lists wd = none ∧ w1.iterating = false)
    (e : s'.lists = upd s.lists wd (some { w1 with watchers := ws }))
    (hq : ∀ h, h ∈ s'.queue → h ∈ s.queue ∧ (s'.hs h).wd = (s.hs h).wd) : Calm s s' := by
  refine ⟨fun wd0 => ?_, hq⟩
  unfold busy
  rw [e]
  by_cases n : wd0 = wd
  · rw [n, upd_same]
    rcases hl with hl | ⟨hn, hf⟩
    · rw [hl]; rfl
    · rw [hn]; exact hf
  · rw [upd_ne _ _ n]

/-- An API call, or a run of them, from `s` to `s'`: the invariant holds again, the iteration is left
    alone, the detached queue is `q`, and no callback is made or counted. -/
structure Step (s s' : S) (q : List Nat) : Prop where
  inv : Inv s'
  calm : Calm s s'
  queue : s'.queue = q
  ncb : s'.ncb = s.ncb
  cbs : cbsOf s'.trace = cbsOf s.trace

theorem Step.skip {s s' : S} (hi : Inv s) (h1 : s'.lists = s.lists) (h2 : s'.hs = s.hs) (h3 : s'.queue = s.queue)
    (h4 : s'.err = s.err) (h5 : s'.ncb = s.ncb) (h6 : cbsOf s'.trace = cbsOf s.trace) : Step s s' s.queue :=
  ⟨hi.congr h1 h2 h3 h4, .of_eq h1 h2 h3, h3, h5, h6⟩

theorem Step.emit {s s' : S} {q : List Nat} (h : Step s s' q) (o : Obs)
    (ho : cbsOf (o :: s'.trace) = cbsOf s'.trace) : Step s (s'.emit o) q :=
  ⟨inv_emit h.inv o, ⟨h.calm.busy, h.calm.queue⟩, h.queue, h.ncb, ho.trans h.cbs⟩

theorem Step.trans {a b c : S} {q1 q2 : List Nat} (h1 : Step a b q1) (h2 : Step b c q2) : Step a c q2 :=
  ⟨h2.inv, h1.calm.trans h2.calm, h2.queue, h2.ncb.trans h1.ncb, h2.cbs.trans h1.cbs⟩

theorem stopCore_step {s : S} (hi : Inv s) (h : Nat) : Step s (stopCore s h) (s.queue.erase h) := by
  cases ha : (s.hs h).active
  · rw [stopCore_idle ha, List.erase_of_not_mem fun m => nomatch ha.symm.trans (hi.memQ h m)]
    exact .skip hi rfl rfl rfl rfl rfl rfl
  cases hl : s.lists (s.hs h).wd with
  | none => exact absurd hl (hi.actSome h ha)
  | some w =>
    have hk := hi.key _ w hl
    have hnd := hi.ndW _ w hl
    rw [stopCore_active ha hl hk]
    generalize hwd : (s.hs h).wd = wd at *
    have hne : ∀ {h0}, h0 ≠ h → upd s.hs h { s.hs h with active := false, wd := 0 } h0 = s.hs h0 :=
      fun e => upd_ne _ _ e
    have he : ∀ {h0}, h0 ∈ w.watchers.erase h ↔ h0 ≠ h ∧ h0 ∈ w.watchers := hnd.mem_erase_iff
    have hq : ∀ {h0}, h0 ∈ s.queue.erase h ↔ h0 ≠ h ∧ h0 ∈ s.queue := hi.ndQ.mem_erase_iff
    have act' : ∀ {h0}, (upd s.hs h { s.hs h with active := false, wd := 0 } h0).active = true → h0 ≠ h :=
      fun ha0 e => by rw [e, upd_same] at ha0; cases ha0
    refine ⟨⟨hi.noErr, ?_, ?_, ?_, ?_, ?_, ?_, ?_, hi.ndQ.erase h, ?_, ?_⟩, ⟨fun wd0 => ?_, fun h0 hm => ?_⟩, rfl, rfl, ?_⟩ <;>
      simp only []
    · intro wd0 w0 hw
      rcases upd_keep hw with ⟨rfl, rfl, _⟩ | ⟨_, hw⟩
      · exact hk
      · exact hi.key _ _ hw
    · intro wd0 w0 h0 hw hm
      rcases upd_keep hw with ⟨rfl, rfl, _⟩ | ⟨e, hw⟩
      · obtain ⟨n, m⟩ := he.1 hm
        rw [hne n]; exact hi.memW _ w h0 hl m
      · have := hi.memW wd0 w0 h0 hw hm
        have n : h0 ≠ h := fun e' => e (by rw [← this.2, e', hwd])
        rw [hne n]; exact this
    · intro h0 hm
      obtain ⟨n, m⟩ := hq.1 hm
      rw [hne n]; exact hi.memQ h0 m
    · intro h0 w0 hm hw
      obtain ⟨n, m⟩ := hq.1 hm
      rw [hne n] at hw
      rcases upd_keep hw with ⟨e, rfl, _⟩ | ⟨_, hw⟩
      · have := hi.memQ2 h0 w m (e ▸ hl)
        exact ⟨this.1, fun x => this.2 (he.1 x).2⟩
      · exact hi.memQ2 h0 w0 m hw
    · intro h0 ha0
      have n := act' ha0
      rw [hne n] at ha0 ⊢
      by_cases e : (s.hs h0).wd = wd
      · rw [e, upd_same, Ne, keep_eq_none]
        intro ⟨hit, hem⟩
        rcases hi.act h0 w ha0 (e ▸ hl) with m | m
        · exact List.ne_nil_of_mem (he.2 ⟨n, m⟩) hem
        · exact absurd (hi.memQ2 h0 w m (e ▸ hl)).1 (Bool.eq_false_iff.1 hit)
      · rw [upd_ne _ _ e]; exact hi.actSome h0 ha0
    · intro h0 w0 ha0 hw
      have n := act' ha0
      rw [hne n] at ha0 hw
      rcases upd_keep hw with ⟨e, rfl, _⟩ | ⟨_, hw⟩
      · exact (hi.act h0 w ha0 (e ▸ hl)).imp (fun m => he.2 ⟨n, m⟩) (fun m => hq.2 ⟨n, m⟩)
      · exact (hi.act h0 w0 ha0 hw).imp id (fun m => hq.2 ⟨n, m⟩)
    · intro wd0 w0 hw
      rcases upd_keep hw with ⟨_, rfl, _⟩ | ⟨_, hw⟩
      · exact hnd.erase h
      · exact hi.ndW _ _ hw
    · intro wd0 w0 hw hit
      rcases upd_keep hw with ⟨_, rfl, hor⟩ | ⟨_, hw⟩
      · exact hor.resolve_left (Bool.eq_false_iff.1 hit)
      · exact hi.nonempty _ _ hw hit
    · intro h0 hc
      by_cases e : h0 = h
      · rw [e, upd_same]
      · rw [hne e] at hc ⊢; exact hi.closing h0 hc

    · unfold busy
      by_cases n : wd0 = wd
      · simp only [n, upd_same, hl, keep_any]; rfl
      · simp only [upd_ne _ _ n]
    · exact ⟨(hq.1 hm).2, by rw [hne (hq.1 hm).1]⟩
    · split <;> rfl

/-- `h` joins the list of `wd`: it was inactive (uv_fs_event_start) or waiting on the queue of this very
    list (the dispatch loop); the list may be a fresh empty one -/
theorem Inv.attach {s : S} (hi : Inv s) {wd h : Nat} {w1 : WL} {H' : Handle}
    (hl : s.lists wd = some w1 ∨ s.lists wd = none ∧ w1.watchers = []) (hk : w1.wd = wd)
    (hH : H'.active = true ∧ H'.wd = wd ∧ H'.closing = false)
    (hpos : (s.hs h).active = true → h ∈ s.queue ∧ (s.hs h).wd = wd) :
    Inv { s with lists := upd s.lists wd (some { w1 with watchers := w1.watchers ++ [h] }),
                 hs := upd s.hs h H', queue := s.queue.erase h } := by
  have hne : ∀ {h0}, h0 ≠ h → upd s.hs h H' h0 = s.hs h0 := fun e => upd_ne _ _ e
  have hq : ∀ {h0}, h0 ∈ s.queue.erase h ↔ h0 ≠ h ∧ h0 ∈ s.queue := hi.ndQ.mem_erase_iff
  have lw : ∀ {h0}, (s.hs h0).active = true → (s.hs h0).wd = wd → s.lists (s.hs h0).wd = some w1 := fun a e =>
    hl.elim (fun x => e ▸ x) fun x => absurd (e ▸ x.1) (hi.actSome _ a)
  have mem1 : ∀ {h0}, h0 ∈ w1.watchers → s.lists wd = some w1 := fun hm => by
    rcases hl with e | ⟨_, e⟩
    · exact e
    · rw [e] at hm; cases hm
  have hnot : ∀ {wd0 w0}, s.lists wd0 = some w0 → h ∉ w0.watchers := fun hw hm => by
    obtain ⟨a, e⟩ := hi.memW _ _ h hw hm
    obtain ⟨m, e'⟩ := hpos a
    exact (hi.memQ2 h _ m (e ▸ hw)).2 hm
  refine ⟨hi.noErr, ?_, ?_, ?_, ?_, ?_, ?_, ?_, hi.ndQ.erase h, ?_, ?_⟩ <;> simp only []
  · intro wd0 w0 hw
    rcases upd_some hw with ⟨rfl, rfl⟩ | ⟨_, hw⟩
    · exact hk
    · exact hi.key _ _ hw
  · intro wd0 w0 h0 hw hm
    by_cases n : h0 = h
    · rw [n, upd_same]
      rcases upd_some hw with ⟨rfl, _⟩ | ⟨_, hw⟩
      · exact ⟨hH.1, hH.2.1⟩
      · exact absurd (n ▸ hm) (hnot hw)
    · rw [hne n]
      rcases upd_some hw with ⟨rfl, rfl⟩ | ⟨_, hw⟩
      · have m := (List.mem_append.1 hm).resolve_right (fun x => n (List.mem_singleton.1 x))
        exact hi.memW _ w1 h0 (mem1 m) m
      · exact hi.memW _ w0 h0 hw hm
  · intro h0 hm
    by_cases n : h0 = h
    · rw [n, upd_same]; exact hH.1
    · rw [hne n]; exact hi.memQ h0 (hq.1 hm).2
  · intro h0 w0 hm hw
    obtain ⟨n, m⟩ := hq.1 hm
    rw [hne n] at hw
    rcases upd_some hw with ⟨e, rfl⟩ | ⟨_, hw⟩
    · have := hi.memQ2 h0 w1 m (lw (hi.memQ h0 m) e)
      exact ⟨this.1, fun x => (List.mem_append.1 x).elim this.2 (fun x => n (List.mem_singleton.1 x))⟩
    · exact hi.memQ2 h0 w0 m hw
  · intro h0 ha0
    by_cases n : h0 = h
    · rw [n, upd_same, hH.2.1, upd_same]; exact Option.some_ne_none _
    · rw [hne n] at ha0 ⊢
      by_cases e : (s.hs h0).wd = wd
      · rw [e, upd_same]; exact Option.some_ne_none _
      · rw [upd_ne _ _ e]; exact hi.actSome h0 ha0
  · intro h0 w0 ha0 hw
    by_cases n : h0 = h
    · subst n
      rw [upd_same, hH.2.1, upd_same] at hw
      cases hw; exact .inl (List.mem_append_right _ List.mem_cons_self)
    · rw [hne n] at ha0 hw
      rcases upd_some hw with ⟨e, rfl⟩ | ⟨_, hw⟩
      · exact (hi.act h0 w1 ha0 (lw ha0 e)).imp (List.mem_append_left _) (fun m => hq.2 ⟨n, m⟩)
      · exact (hi.act h0 w0 ha0 hw).imp id (fun m => hq.2 ⟨n, m⟩)
  · intro wd0 w0 hw
    rcases upd_some hw with ⟨_, rfl⟩ | ⟨_, hw⟩
    · refine List.nodup_append.2 ⟨?_, by simp, fun a ha b hb => ?_⟩
      · rcases hl with e | ⟨_, e⟩
        · exact hi.ndW _ _ e
        · rw [e]; exact List.nodup_nil
      · rw [List.mem_singleton.1 hb]; exact fun x => hnot (mem1 ha) (x ▸ ha)
    · exact hi.ndW _ _ hw
  · intro wd0 w0 hw _
    rcases upd_some hw with ⟨_, rfl⟩ | ⟨_, hw⟩
    · exact List.append_ne_nil_of_right_ne_nil _ (List.cons_ne_nil _ _)
    · exact hi.nonempty _ _ hw ‹_›
  · intro h0 hc
    by_cases n : h0 = h
    · rw [n, upd_same] at hc; exact nomatch hH.2.2.symm.trans hc
    · rw [hne n] at hc ⊢; exact hi.closing h0 hc

theorem upd_eta {α} (f : Nat → α) (i : Nat) : upd f i (f i) = f := by
  funext j; simp only [upd]; split
  · next e => rw [e]
  · rfl

theorem apiStart_new {s : S} (hi : Inv s) {h cb wd a : Nat} (hc : (s.hs h).closing = false) (ha : (s.hs h).active = false)
    (hw : wd ≠ 0) :
    apiStart s h cb wd a =
      { s with inited := true,
               lists := upd s.lists wd (some { (s.lists wd).getD { wd := wd, path := s!"w{wd}_{a}" } with
                 watchers := ((s.lists wd).getD { wd := wd, path := s!"w{wd}_{a}" }).watchers ++ [h] }),
               hs := upd s.hs h { s.hs h with active := true, wd := wd, cb := cb },
               trace := .ret 0 true :: .addwatch wd :: s.trace } := by
  simp only [apiStart, hc, ha, hw, find, setList, S.emit, Bool.false_eq_true, if_false]
  cases hl : s.lists wd with
  | none => simp [upd_upd]
  | some w => simp [hl, hi.key _ _ hl]

theorem apiStart_step {s : S} (hi : Inv s) (h cb wd a : Nat) : Step s (apiStart s h cb wd a) s.queue := by
  cases hc : (s.hs h).closing
  case true => simp only [apiStart, hc, if_true]; exact .skip hi rfl rfl rfl rfl rfl rfl
  cases ha : (s.hs h).active
  case true => simp only [apiStart, hc, ha, Bool.false_eq_true, if_false, if_true]; exact .skip hi rfl rfl rfl rfl rfl rfl
  by_cases hw : wd = 0
  · simp only [apiStart, hc, ha, hw, Bool.false_eq_true, if_false, if_true]; exact .skip hi rfl rfl rfl rfl rfl rfl
  rw [apiStart_new hi hc ha hw]
  have hnq : ∀ {h0}, h0 ∈ s.queue → h0 ≠ h := fun m e => nomatch ha.symm.trans (e ▸ hi.memQ _ m : (s.hs h).active = true)
  refine ⟨(hi.attach (wd := wd) (h := h) (H' := { s.hs h with active := true, wd := wd, cb := cb }) ?_ ?_
      ⟨rfl, rfl, hc⟩ (fun e => nomatch ha.symm.trans e)).congr rfl rfl
      (List.erase_of_not_mem fun m => hnq m rfl).symm rfl,
    calm_members (wd := wd) ?_ rfl fun h0 hm => ⟨hm, by simp only [upd_ne _ _ (hnq hm)]⟩, rfl, rfl, rfl⟩
  · cases hl : s.lists wd
    · exact .inr ⟨rfl, rfl⟩
    · exact .inl rfl
  · cases hl : s.lists wd
    · rfl
    · exact hi.key _ _ hl
  · cases hl : s.lists wd
    · exact .inr ⟨rfl, rfl⟩
    · exact .inl rfl

/-- uv__fs_event_close marks the handle before stopping it; the mark commutes with the stop -/
def closeMark (s : S) (h : Nat) : S := { s with hs := upd s.hs h { s.hs h with closing := true } }

theorem stopCore_closeMark (s : S) (h : Nat) : stopCore (closeMark s h) h = closeMark (stopCore s h) h := by
  cases ha : (s.hs h).active
  · simp [stopCore, closeMark, ha]
  cases hl : s.lists (s.hs h).wd with
  | none => simp [stopCore, closeMark, find, ha, hl]
  | some w =>
    simp only [stopCore, closeMark, find, maybeFree, setList, S.emit, upd_same, ha, hl, Bool.not_true,
      Bool.false_eq_true, if_false]
    split <;> simp [upd_upd]

theorem stopCore_stops {s : S} (hi : Inv s) (h : Nat) : ((stopCore s h).hs h).active = false := by
  cases ha : (s.hs h).active
  · rw [stopCore_idle ha]; exact ha
  cases hl : s.lists (s.hs h).wd with
  | none => exact absurd hl (hi.actSome h ha)
  | some w => rw [stopCore_active ha hl (hi.key _ w hl)]; simp

theorem closeMark_step {s0 s : S} {q : List Nat} (h0 : Step s0 s q) {h : Nat} (ha : (s.hs h).active = false) :
    Step s0 (closeMark s h) q := by
  have hi := h0.inv
  have e : ∀ h0, ((closeMark s h).hs h0).active = (s.hs h0).active ∧ ((closeMark s h).hs h0).wd = (s.hs h0).wd :=
    fun h0 => by
      by_cases n : h0 = h
      · simp [closeMark, n]
      · simp [closeMark, upd_ne _ _ n]
  refine ⟨⟨hi.noErr, hi.key, ?_, ?_, ?_, ?_, ?_, hi.ndW, hi.ndQ, hi.nonempty, ?_⟩,
    h0.calm.trans ⟨fun _ => rfl, fun h1 hm => ⟨hm, (e h1).2⟩⟩, h0.queue, h0.ncb, h0.cbs⟩
  · intro wd w h0 hw hm; rw [(e h0).1, (e h0).2]; exact hi.memW wd w h0 hw hm
  · intro h0 hm; rw [(e h0).1]; exact hi.memQ h0 hm
  · intro h0 w hm hw; rw [(e h0).2] at hw; exact hi.memQ2 h0 w hm hw
  · intro h0 ha0; rw [(e h0).1] at ha0; rw [(e h0).2]; exact hi.actSome h0 ha0
  · intro h0 w ha0 hw; rw [(e h0).1] at ha0; rw [(e h0).2] at hw; exact hi.act h0 w ha0 hw
  · intro h0 hc
    rw [(e h0).1]
    by_cases n : h0 = h
    · rw [n]; exact ha
    · simp only [closeMark, upd_ne _ _ n] at hc; exact hi.closing h0 hc

theorem apiClose_open {s : S} {h : Nat} (hc : (s.hs h).closing = false) :
    apiClose s h = (closeMark (stopCore s h) h).emit (.ret 0 ((closeMark (stopCore s h) h).hs h).active) := by
  rw [← stopCore_closeMark]
  simp only [apiClose, hc, Bool.false_eq_true, if_false, closeMark]

theorem applyOp_step {s : S} (hi : Inv s) (o : Op) :
    Step s (applyOp s o) (match stopTarget o with | some h => s.queue.erase h | none => s.queue) := by
  have hi' := inv_emit hi (.api o)
  have api : Step s (s.emit (.api o)) s.queue := .skip hi rfl rfl rfl rfl rfl rfl
  have idle : ∀ {h}, (s.hs h).closing = true → s.queue = s.queue.erase h := fun hc =>
    (List.erase_of_not_mem fun m => nomatch (hi.closing _ hc).symm.trans (hi.memQ _ m)).symm
  cases o with
  | start h cb wd a => exact api.trans (apiStart_step hi' h cb wd a)
  | stop h =>
    simp only [applyOp, apiStop, stopTarget]
    split
    · next hc => exact idle hc ▸ api.trans (.skip hi' rfl rfl rfl rfl rfl rfl)
    · exact api.trans ((stopCore_step hi' h).emit _ rfl)
  | close h =>
    cases hc : (s.hs h).closing
    · rw [applyOp, apiClose_open (s := s.emit _) hc]
      exact api.trans ((closeMark_step (stopCore_step hi' h) (stopCore_stops hi' h)).emit _ rfl)
    · have hc' : ((s.emit (.api (.close h))).hs h).closing = true := hc
      simp only [applyOp, apiClose, hc', if_true, stopTarget]
      exact idle hc ▸ api.trans (.skip hi' rfl rfl rfl rfl rfl rfl)

theorem foldOps_step {s : S} (hi : Inv s) (ops : List Op) :
    Step s (ops.foldl applyOp s) (eraseAll s.queue ops) := by
  induction ops generalizing s with
  | nil => exact .skip hi rfl rfl rfl rfl rfl rfl
  | cons o t ih =>
    have h1 := applyOp_step hi o
    have h2 := ih h1.inv
    rw [h1.queue] at h2
    exact h1.trans h2

theorem runCb_spec {s : S} (sc : Script) (hi : Inv s) (o : Obs) :
    Inv (runCb sc (s.emit o)) ∧ Calm s (runCb sc (s.emit o)) ∧
    (runCb sc (s.emit o)).queue = eraseAll s.queue (sc s.ncb) ∧ (runCb sc (s.emit o)).ncb = s.ncb + 1 ∧
    cbsOf (runCb sc (s.emit o)).trace = cbsOf (o :: s.trace) :=
  have h := foldOps_step (s := { s.emit o with ncb := s.ncb + 1 }) (hi.congr rfl rfl rfl rfl) (sc s.ncb)
  ⟨h.inv, .trans (.of_eq (s' := { s.emit o with ncb := s.ncb + 1 }) rfl rfl rfl) h.calm, h.queue, h.ncb, h.cbs⟩

/-- one turn of the loop body up to (and including) re-appending the handle to `w->watchers` -/
theorem inv_pop {s : S} {wd h : Nat} {rest : List Nat} (hi : Inv s) (hl : Iter s wd) (hq : s.queue = h :: rest)
    {w : WL} (hw : s.lists wd = some w) :
    Inv (setList { s with queue := rest } { w with watchers := w.watchers ++ [h] }) ∧
    Iter (setList { s with queue := rest } { w with watchers := w.watchers ++ [h] }) wd := by
  cases hi.key wd w hw
  have hm : h ∈ s.queue := hq ▸ List.mem_cons_self
  have ha := hi.memQ h hm
  refine ⟨(hi.attach (H' := s.hs h) (.inl hw) rfl ⟨ha, hl.qwd h hm, ?_⟩ fun _ => ⟨hm, hl.qwd h hm⟩).congr
    rfl (upd_eta _ _).symm (by rw [hq, List.erase_cons_head]; rfl) rfl,
    hl.calm (calm_members (.inl hw) rfl fun h0 h1 => ⟨hq ▸ List.mem_cons_of_mem _ h1, rfl⟩)⟩
  cases hc : (s.hs h).closing
  · rfl
  · exact nomatch ha.symm.trans (hi.closing h hc)

theorem inv_enter {s : S} {wd : Nat} {w : WL} (hi : Inv s) (hd : Idle s) (hw : s.lists wd = some w) :
    Inv { (setList s { w with iterating := true, watchers := [] }) with queue := w.watchers } ∧
    Iter { (setList s { w with iterating := true, watchers := [] }) with queue := w.watchers } wd := by
  cases hi.key wd w hw
  simp only [setList]
  refine ⟨⟨hi.noErr, ?_, ?_, ?_, ?_, ?_, ?_, ?_, hi.ndW _ w hw, ?_, hi.closing⟩, ?_, ?_, ?_, ?_⟩ <;> simp only []
  · intro wd0 w0 h0
    rcases upd_some h0 with ⟨rfl, rfl⟩ | ⟨_, h0⟩
    · rfl
    · exact hi.key _ _ h0
  · intro wd0 w0 h h0 hm
    rcases upd_some h0 with ⟨rfl, rfl⟩ | ⟨_, h0⟩
    · cases hm
    · exact hi.memW _ _ h h0 hm
  · exact fun h hm => (hi.memW _ w h hw hm).1
  · intro h w0 hm h0
    rw [(hi.memW _ w h hw hm).2, upd_same] at h0
    cases h0; exact ⟨rfl, List.not_mem_nil⟩
  · intro h ha
    by_cases e : (s.hs h).wd = w.wd
    · rw [e, upd_same]; exact Option.some_ne_none _
    · rw [upd_ne _ _ e]; exact hi.actSome h ha
  · intro h w0 ha h0
    rcases upd_some h0 with ⟨e, rfl⟩ | ⟨_, h0⟩
    · exact .inr ((hi.act h w ha (e ▸ hw)).resolve_right (hd.q ▸ List.not_mem_nil))
    · exact .inl ((hi.act h w0 ha h0).resolve_right (hd.q ▸ List.not_mem_nil))
  · intro wd0 w0 h0
    rcases upd_some h0 with ⟨_, rfl⟩ | ⟨_, h0⟩
    · exact List.nodup_nil
    · exact hi.ndW _ _ h0
  · intro wd0 w0 h0 hit
    rcases upd_some h0 with ⟨_, rfl⟩ | ⟨_, h0⟩
    · cases hit
    · exact hi.nonempty _ _ h0 hit
  · rw [upd_same]; exact Option.some_ne_none _
  · intro w0 h0; rw [upd_same] at h0; cases h0; rfl
  · intro wd0 w0 hne h0; rw [upd_ne _ _ hne] at h0; exact hd.noIt _ _ h0
  · exact fun h hm => (hi.memW _ w h hw hm).2

theorem maybeFree_setList (s : S) (w : WL) {wd : Nat} (hk : w.wd = wd) :
    maybeFree (setList s w) wd =
      { s with lists := upd s.lists wd (keep w),
               trace := (if (!w.iterating && w.watchers.isEmpty) = true then [.rmwatch wd] else []) ++ s.trace } := by
  cases hk
  simp only [maybeFree, find, setList, upd_same, keep, S.emit]
  split <;> simp only [upd_upd, List.cons_append, List.nil_append]

theorem inv_exit {s : S} {wd : Nat} {w : WL} (hi : Inv s) (hl : Iter s wd) (hq : s.queue = [])
    (hw : s.lists wd = some w) :
    Inv (maybeFree (setList s { w with iterating := false }) wd) ∧
    Idle (maybeFree (setList s { w with iterating := false }) wd) := by
  have hk := hi.key wd w hw
  rw [maybeFree_setList s { w with iterating := false } hk]
  have nq : ∀ {h}, h ∉ s.queue := fun hm => List.not_mem_nil (hq ▸ hm)
  refine ⟨⟨hi.noErr, ?_, ?_, hi.memQ, fun h w0 hm => absurd hm nq, ?_, ?_, ?_, hi.ndQ, ?_, hi.closing⟩, hq, ?_⟩ <;>
    simp only []
  · intro wd0 w0 h0
    rcases upd_keep h0 with ⟨rfl, rfl, _⟩ | ⟨_, h0⟩
    · exact hk
    · exact hi.key _ _ h0
  · intro wd0 w0 h h0 hm
    rcases upd_keep h0 with ⟨rfl, rfl, _⟩ | ⟨_, h0⟩
    · exact hi.memW _ w h hw hm
    · exact hi.memW _ _ h h0 hm
  · intro h ha
    by_cases e : (s.hs h).wd = wd
    · rw [e, upd_same, Ne, keep_eq_none]
      exact fun ⟨_, hem⟩ => List.ne_nil_of_mem ((hi.act h w ha (e ▸ hw)).resolve_right nq) hem
    · rw [upd_ne _ _ e]; exact hi.actSome h ha
  · intro h w0 ha h0
    rcases upd_keep h0 with ⟨e, rfl, _⟩ | ⟨_, h0⟩
    · exact hi.act h w ha (e ▸ hw)
    · exact hi.act h w0 ha h0
  · intro wd0 w0 h0
    rcases upd_keep h0 with ⟨_, rfl, _⟩ | ⟨_, h0⟩
    · exact hi.ndW _ w hw
    · exact hi.ndW _ _ h0
  · intro wd0 w0 h0 hit
    rcases upd_keep h0 with ⟨_, rfl, hne⟩ | ⟨_, h0⟩
    · exact hne.resolve_left (fun x => nomatch x)
    · exact hi.nonempty _ _ h0 hit
  · intro wd0 w0 h0
    rcases upd_keep h0 with ⟨_, rfl, _⟩ | ⟨hne, h0⟩
    · rfl
    · exact hl.others wd0 w0 hne h0

theorem inv_init : Inv ({} : S) := by
  constructor <;> simp

theorem idle_init : Idle ({} : S) := ⟨rfl, fun _ _ h => nomatch h⟩

theorem eraseAll_sublist (q : List Nat) (ops : List Op) : (eraseAll q ops).Sublist q := by
  unfold eraseAll
  induction ops generalizing q with
  | nil => exact List.Sublist.refl _
  | cons o t ih =>
    simp only [List.foldl_cons]
    cases stopTarget o with
    | none => exact ih q
    | some h => exact (ih (q.erase h)).trans (List.erase_sublist)

/-- only handles of the list at dispatch start, each at most once, in list order -/
theorem specDeliver_sublist (sc : Script) (f k : Nat) (q : List Nat) : (specDeliver sc f k q).Sublist q := by
  induction f generalizing k q with
  | zero => simp [specDeliver]
  | succ n ih =>
    cases q with
    | nil => simp [specDeliver]
    | cons h rest =>
      simp only [specDeliver]
      exact List.Sublist.cons_cons h ((ih (k + 1) _).trans (eraseAll_sublist rest (sc k)))

/-- the loop keeps the invariants, drains the queue if the fuel suffices, and calls `specDeliver` -/
theorem loop_spec (sc : Script) (wd : Nat) (name : String) (ev : Nat) (fuel : Nat) {s : S}
    (hi : Inv s) (hl : Iter s wd) :
    Inv (dispatchLoop sc wd name ev fuel s) ∧ Iter (dispatchLoop sc wd name ev fuel s) wd ∧
    (s.queue.length ≤ fuel → (dispatchLoop sc wd name ev fuel s).queue = []) ∧
    cbsOf (dispatchLoop sc wd name ev fuel s).trace =
      ((specDeliver sc fuel s.ncb s.queue).map (fun h => (h, name, ev))).reverse ++ cbsOf s.trace := by
  induction fuel generalizing s with
  | zero => exact ⟨hi, hl, fun hf => List.eq_nil_of_length_eq_zero (Nat.le_zero.1 hf), by simp [dispatchLoop, specDeliver]⟩
  | succ n ih =>
    unfold dispatchLoop
    cases hq : s.queue with
    | nil => exact ⟨hi, hl, fun _ => hq, by simp [specDeliver]⟩
    | cons h rest =>
      simp only [find]
      cases hw : s.lists wd with
      | none => exact absurd hw hl.ex
      | some w =>
        obtain ⟨hi1, hl1⟩ := inv_pop hi hl hq hw
        obtain ⟨hi2, hc2, hq2, hn2, ht2⟩ := runCb_spec sc hi1 (.cb h ((setList { s with queue := rest }
          { w with watchers := w.watchers ++ [h] }).hs h).cb name ev)
        obtain ⟨hi3, hl3, hq3, hc3⟩ := ih hi2 (hl1.calm hc2)
        refine ⟨hi3, hl3, fun hf => hq3 ?_, ?_⟩
        · rw [hq2]
          exact Nat.le_trans (eraseAll_sublist rest _).length_le (Nat.le_of_succ_le_succ hf)
        · simp only []
          rw [hc3, hq2, hn2, ht2]
          simp [specDeliver, cbsOf, setList]

/-- one record: the invariants hold again outside the iteration, and the handles of the record's list
    are called as `specDeliver` prescribes -/
theorem dispatchRec_spec (sc : Script) {s : S} (hi : Inv s) (hd : Idle s) (r : Rec) :
    Inv (dispatchRec sc s r) ∧ Idle (dispatchRec sc s r) ∧ ∀ w, s.lists r.wd = some w →
      cbsOf (dispatchRec sc s r).trace =
        ((specDeliver sc w.watchers.length s.ncb w.watchers).map
          (fun h => (h, r.name.getD w.path, eventsOf r.mask))).reverse ++ cbsOf s.trace := by
  unfold dispatchRec
  simp only [find]
  cases hw : s.lists r.wd with
  | none => exact ⟨hi, hd, fun _ e => nomatch e⟩
  | some w =>
    obtain ⟨hi1, hl1⟩ := inv_enter hi hd hw
    obtain ⟨hi2, hl2, hq2, hc⟩ := loop_spec sc r.wd (r.name.getD w.path) (eventsOf r.mask) w.watchers.length hi1 hl1
    simp only []
    generalize dispatchLoop sc r.wd (r.name.getD w.path) (eventsOf r.mask) w.watchers.length _ = s2 at hi2 hl2 hq2 hc
    cases hw2 : s2.lists r.wd with
    | none => exact absurd hw2 hl2.ex
    | some w2 =>
      refine ⟨(inv_exit hi2 hl2 (hq2 (Nat.le_refl _)) hw2).1, (inv_exit hi2 hl2 (hq2 (Nat.le_refl _)) hw2).2, fun w' e => ?_⟩
      cases e
      simp only []
      rw [maybeFree_setList s2 { w2 with iterating := false } (hi2.key _ w2 hw2)]
      simp only []
      split <;> exact hc

theorem inv_dispatch (sc : Script) {s : S} (hi : Inv s) (hd : Idle s) (rs : List Rec) :
    Inv (dispatch sc s rs) ∧ Idle (dispatch sc s rs) := by
  unfold dispatch
  induction rs generalizing s with
  | nil => exact ⟨hi, hd⟩
  | cons r t ih =>
    have := dispatchRec_spec sc hi hd r
    exact ih this.1 this.2.1

theorem inv_step (sc : Script) {s : S} (hi : Inv s) (hd : Idle s) (i : In) :
    Inv (step sc s i) ∧ Idle (step sc s i) := by
  cases i with
  | op o => exact ⟨(applyOp_step hi o).inv, hd.calm (applyOp_step hi o).calm⟩
  | dispatch rs => exact inv_dispatch sc hi hd rs

theorem inv_run (sc : Script) {s : S} (hi : Inv s) (hd : Idle s) (ins : List In) :
    Inv (run sc s ins) ∧ Idle (run sc s ins) := by
  unfold run
  induction ins generalizing s with
  | nil => exact ⟨hi, hd⟩
  | cons i t ih =>
    have := inv_step sc hi hd i
    exact ih this.1 this.2

theorem eraseAll_lost {q : List Nat} {ops : List Op} {h : Nat} (hm : h ∈ q) (hn : h ∉ eraseAll q ops) :
    ∃ o ∈ ops, stopTarget o = some h := by
  unfold eraseAll at hn
  induction ops generalizing q with
  | nil => exact absurd hm hn
  | cons o t ih =>
    simp only [List.foldl_cons] at hn
    cases hs : stopTarget o with
    | none =>
      rw [hs] at hn
      obtain ⟨o', ho', h'⟩ := ih hm hn
      exact ⟨o', List.mem_cons_of_mem _ ho', h'⟩
    | some x =>
      rw [hs] at hn
      by_cases hx : x = h
      · exact ⟨o, List.mem_cons_self, by rw [hs, hx]⟩
      · have : h ∈ q.erase x := (List.mem_erase_of_ne (fun e => hx e.symm)).2 hm
        obtain ⟨o', ho', h'⟩ := ih this hn
        exact ⟨o', List.mem_cons_of_mem _ ho', h'⟩

/-- a watcher that is skipped was stopped or closed by one of the callbacks run for this record -/
theorem specDeliver_skipped (sc : Script) (f k : Nat) (q : List Nat) (h : Nat) (hf : q.length ≤ f)
    (hm : h ∈ q) (hn : h ∉ specDeliver sc f k q) :
    ∃ j, j < (specDeliver sc f k q).length ∧ ∃ o ∈ sc (k + j), stopTarget o = some h := by
  induction f generalizing k q with
  | zero => cases q with
    | nil => cases hm
    | cons _ _ => simp at hf
  | succ n ih =>
    cases q with
    | nil => cases hm
    | cons x rest =>
      simp only [specDeliver, List.mem_cons, not_or] at hn hm ⊢
      have hr : h ∈ rest := by
        rcases hm with e | e
        · exact absurd e hn.1
        · exact e
      by_cases hq' : h ∈ eraseAll rest (sc k)
      · have hlen : (eraseAll rest (sc k)).length ≤ n :=
          Nat.le_trans (eraseAll_sublist rest (sc k)).length_le (by simpa using hf)
        obtain ⟨j, hj, o, ho, hs⟩ := ih (k + 1) _ hlen hq' hn.2
        refine ⟨j + 1, by simpa using hj, o, ?_, hs⟩
        have : k + (j + 1) = k + 1 + j := by omega
        rw [this]; exact ho
      · obtain ⟨o, ho, hs⟩ := eraseAll_lost hr hq'
        exact ⟨0, by simp, o, by simpa using ho, hs⟩

theorem eraseAll_gone {q : List Nat} (hnd : q.Nodup) {ops : List Op} {o : Op} {h : Nat} (ho : o ∈ ops)
    (hs : stopTarget o = some h) : h ∉ eraseAll q ops := by
  unfold eraseAll
  induction ops generalizing q with
  | nil => cases ho
  | cons o' t ih =>
    simp only [List.foldl_cons]
    rcases List.mem_cons.1 ho with e | e
    · subst e
      rw [hs]
      intro hm
      have := (eraseAll_sublist (q.erase h) t).subset hm
      exact (List.Nodup.mem_erase_iff hnd).1 this |>.1 rfl
    · cases hs' : stopTarget o' with
      | none => exact ih hnd e
      | some x => exact ih (hnd.erase x) e

/-- once the j-th callback of this record has stopped or closed `h`, `h` is not called any more for
    this record (even if the same callback starts it again on the same path) -/
theorem specDeliver_no_later (sc : Script) (f k : Nat) (q : List Nat) (hnd : q.Nodup) (j : Nat) (o : Op) (h : Nat)
    (ho : o ∈ sc (k + j)) (hs : stopTarget o = some h) (hj : j < (specDeliver sc f k q).length) :
    h ∉ (specDeliver sc f k q).drop (j + 1) := by
  induction f generalizing k q j with
  | zero => simp [specDeliver] at hj
  | succ n ih =>
    cases q with
    | nil => simp [specDeliver] at hj
    | cons x rest =>
      simp only [specDeliver, List.drop_succ_cons] at hj ⊢
      have hndr : rest.Nodup := (List.nodup_cons.1 hnd).2
      have hnd' : (eraseAll rest (sc k)).Nodup := hndr.sublist (eraseAll_sublist rest (sc k))
      cases j with
      | zero =>
        simp only [List.drop_zero]
        intro hm
        have := (specDeliver_sublist sc n (k + 1) _).subset hm
        exact eraseAll_gone hndr (by simpa using ho) hs this
      | succ j' =>
        have hj' : j' < (specDeliver sc n (k + 1) (eraseAll rest (sc k))).length := by simpa using hj
        have : k + (j' + 1) = k + 1 + j' := by omega
        rw [this] at ho
        exact ih (k + 1) _ hnd' j' ho hj'

end UvModel.FsEvent

