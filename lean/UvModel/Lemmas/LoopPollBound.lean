import UvModel.Lemmas.LoopTraceExt
/-!
  The poll loop (`uv__io_poll`): trace extension with the bound on every timeout handed to `epoll_pwait`
  (`pollLoop_ext`, `ioPoll_ext`; the proposition `G` switches the bound and its hypotheses on or off), and the
  phase order of one loop iteration (`Mono`, `iteration_mono`).  `G = False` gives the plain extension lemma,
  `G = True` the bound.  `pollLoop` and `iteration` are followed by unfolding: the bound is a statement about the
  control variables of the timeout loop, the order one about the sequence of phases; the other phase functions
  come from `Reach0.ext`.
-/
namespace UvModel.Loop.Phases
open UvModel.Loop UvModel.HandleKernels

def fw (s : State) : List Event × List PollRes × Timer.S × Bool := (s.trace, s.oracle, s.tm, s.metrics)

theorem fw_flushWatchers (s : State) : fw (flushWatchers s) = fw s := by
  unfold flushWatchers
  have : ∀ (l : List W) (s : State), fw (l.foldl (fun s w => let io := getIo s w; setIo s w { io with events := io.pevents }) s) = fw s := by
    intro l; induction l with
    | nil => intro s; rfl
    | cons w t ih =>
      intro s
      simp only [List.foldl]
      rw [ih]
      cases w <;> rfl
  exact this s.watcherQ s

def Bound (t tmo : Int) : Prop := tmo = 0 ∨ tmo = t ∨ (0 < tmo ∧ tmo ≤ t)

/-- events of the poll phase; under `G` every timeout handed to the poller obeys `Bound t` -/
def PollEv (G : Prop) (t : Int) : Event → Prop
  | .cb ph _ _ _ _ => ph = .poll
  | .poll _ tmo _ => G → Bound t tmo
  | _ => True

theorem PollEv.of_EvOK (G : Prop) (t : Int) (e : Event) (h : EvOK .poll e) : PollEv G t e := by
  cases e <;> simp_all [EvOK, PollEv]

/-- what the timeout loop maintains about its control variables (`b` = `base`, fixed on entry): the current
    timeout obeys the bound, the remaining time never exceeds the user's timeout -/
structure CtlOK (t : Int) (b : Nat) (c : PollCtl) : Prop where
  base : c.base = b
  bound : Bound t c.timeout
  real : c.realTimeout ≤ t
  user : c.reset = true → c.userTimeout = t

theorem CtlOK.rearm {t : Int} {b : Nat} {c : PollCtl} (h : CtlOK t b c) (hr : c.reset = true) :
    CtlOK t b { c with timeout := c.userTimeout, reset := false } :=
  ⟨h.base, Or.inr (Or.inl (h.user hr)), h.real, fun h => nomatch h⟩

theorem CtlOK.zero {t : Int} {b : Nat} {c : PollCtl} (h : CtlOK t b c) (hr : c.reset = false) (n : Nat) :
    CtlOK t b { c with count := n, timeout := 0 } :=
  ⟨h.base, Or.inl rfl, h.real, fun h' => absurd (hr ▸ h') (by decide)⟩

/-- the two ways the `update_timeout:` label goes back to `epoll_pwait` -/
theorem updateTimeout_some {c c' : PollCtl} {time : Nat} (h : updateTimeout c time = some c') :
    (c.timeout = -1 ∧ c' = c) ∨
    (c.timeout ≠ -1 ∧ 0 < c.realTimeout - ((time : Int) - c.base) ∧
      c' = { c with realTimeout := c.realTimeout - ((time : Int) - c.base), timeout := c.realTimeout - ((time : Int) - c.base) }) := by
  unfold updateTimeout at h
  split at h
  · cases h
  · split at h
    · rename_i h1; cases h; exact Or.inl ⟨by simpa using h1, rfl⟩
    · rename_i h1
      simp only at h
      split at h
      · cases h
      · rename_i h2; cases h; exact Or.inr ⟨by simpa using h1, by omega, rfl⟩

theorem CtlOK.step {t : Int} {b time : Nat} {c c' : PollCtl} (h : CtlOK t b c) (hr : c.reset = false) (hb : b ≤ time)
    (hu : updateTimeout c time = some c') : CtlOK t b c' ∧ c'.reset = false := by
  have hreal := h.real
  have hbase := h.base
  rcases updateTimeout_some hu with ⟨_, rfl⟩ | ⟨_, hpos, rfl⟩
  · exact ⟨h, hr⟩
  · exact ⟨⟨hbase, Or.inr (Or.inr ⟨hpos, by show _ - _ ≤ t; omega⟩), by show _ - _ ≤ t; omega, fun h' => absurd (hr ▸ h') (by decide)⟩, hr⟩

/-- `d` can be the outcome of dispatching a batch from state `s` with count `n` and flag `sg` ("leave uv__io_poll
    after this batch": have_signals / have_iou_events): the count only grows; a flag that is clear at the end was
    clear at the start; and if moreover the count did not grow, no callback ran: `loop->time` is untouched -/
def CountOK (s : State) (n : Nat) (sg : Bool) (d : State × Nat × Bool) : Prop :=
  n ≤ d.2.1 ∧ (d.2.2 = false → sg = false ∧ (d.2.1 = n → d.1.tm = s.tm))

/-- the rest of the batch is dispatched from a count `n' ≥ n`, a flag `sg'` that is set if `sg` was, and — unless the
    flag got set or the count grew — the same `loop->time` -/
theorem CountOK.step {s s' : State} {n n' : Nat} {sg sg' : Bool} {d : State × Nat × Bool} (h : CountOK s' n' sg' d)
    (h1 : n ≤ n') (h2 : sg' = false → sg = false) (h3 : sg' = false → n' = n → s'.tm = s.tm) : CountOK s n sg d := by
  refine ⟨Nat.le_trans h1 h.1, fun hf => ⟨h2 (h.2 hf).1, fun he => ?_⟩⟩
  have hn : n' = n := Nat.le_antisymm (he ▸ h.1) h1
  exact ((h.2 hf).2 (he.trans hn.symm)).trans (h3 (h.2 hf).1 hn)

theorem dispatchLoop_count (sc : Script) (fuel : Nat) (s : State) (n : Nat) (sg : Bool) :
    CountOK s n sg (dispatchLoop sc fuel s n sg) := by
  fun_induction dispatchLoop sc fuel s n sg with
  | case1 | case2 => exact ⟨Nat.le_refl _, fun h => ⟨h, fun _ => rfl⟩⟩
  | case3 | case4 | case6 | case8 | case10 | case11 | case14 =>
    rename_i ih; exact ih.step (Nat.le_refl _) id fun _ _ => rfl
  | case5 | case9 | case12 =>
    rename_i ih; exact ih.step (Nat.le_succ _) id fun _ h => absurd h (Nat.succ_ne_self _)
  | case7 => rename_i ih; exact ih.step (Nat.le_succ _) (fun h => nomatch h) (fun h => nomatch h)
  | case13 => rename_i ih; exact ih.step (Nat.le_refl _) (fun h => nomatch h) (fun h => nomatch h)

theorem pollLoop_ext (G : Prop) (t : Int) (b : Nat) (sc : Script) (s0 : State) (fuel : Nat) (s : State) (c : PollCtl)
    (hi : TrExt (PollEv G t) s0 s)
    (hh : G → (∀ r ∈ s.oracle, b ≤ r.clock ∧ r.clock < Timer.U64) ∧ CtlOK t b c) :
    TrExt (PollEv G t) s0 (pollLoop sc fuel s c) := by
  induction fuel generalizing s c with
  | zero => exact hi
  | succ m ih =>
    rw [pollLoop]
    split
    · exact hi.upd rfl
    · rename_i r rest heq
      -- the `let`s become local definitions, each forgotten once its few facts are recorded: the state terms stay small
      extract_lets s1 s2 s3 s4 s5 d nevents sg src s6 c1
      have h4 : TrExt (PollEv G t) s0 s4 ∧ s4.oracle = rest ∧ s4.clock = r.clock := by
        have h2 := tr_completeWorks s1 r.done
        have o2 := ow_completeWorks s1 r.done
        simp only [tr, ow, Prod.mk.injEq] at h2 o2
        refine ⟨TrExt_emit (fun g => (hh g).2.bound) (hi.upd h2.1), ?_⟩
        show (emit s3 _).oracle = rest ∧ (emit s3 _).clock = r.clock
        unfold emit; split <;> exact ⟨o2.1, rfl⟩
      clear_value s4
      obtain ⟨h4, o4, k4⟩ := h4
      by_cases hd : r.deadlock = true
      · rw [if_pos hd]; exact h4.upd rfl
      rw [if_neg hd]
      -- `loop->time` is the clock reading of `r`, one of the readings the hypothesis speaks of
      have h5 : TrExt (PollEv G t) s0 s5 ∧ s5.oracle = rest ∧ (G → b ≤ s5.tm.time) := by
        refine ⟨h4.upd rfl, o4, fun g => ?_⟩
        have := (hh g).1 r (heq ▸ List.mem_cons_self)
        show b ≤ s4.clock % Timer.U64
        rw [k4, Nat.mod_eq_of_lt this.2]; exact this.1
      have next : ∀ (s' : State) (c' : PollCtl), TrExt (PollEv G t) s0 s' → s'.oracle = rest → (G → CtlOK t b c') →
          TrExt (PollEv G t) s0 (pollLoop sc m s' c') := fun s' c' h1 h2 h3 =>
        ih s' c' h1 fun g => ⟨fun x hx => (hh g).1 x (heq ▸ List.mem_cons_of_mem _ (h2 ▸ hx)), h3 g⟩
      by_cases hidle : (r.eintr || r.batch.isEmpty) = true
      · -- empty or interrupted poll
        clear_value s5
        obtain ⟨h5, o5, t5⟩ := h5
        rw [if_pos hidle]
        by_cases hreset : c.reset = true
        · rw [if_pos hreset]
          cases hu : updateTimeout _ s5.tm.time with
          | none => exact h5
          | some c' => exact next _ _ h5 o5 fun g => (((hh g).2.rearm hreset).step rfl (t5 g) hu).1
        · rw [if_neg hreset]
          by_cases he : (!r.eintr) = true
          · rw [if_pos he]; exact h5
          · rw [if_neg he]
            cases hu : updateTimeout c s5.tm.time with
            | none => exact h5
            | some c' => exact next _ _ h5 o5 fun g => (((hh g).2).step (Bool.eq_false_iff.2 hreset) (t5 g) hu).1
      · rw [if_neg hidle]
        have h6 : TrExt (PollEv G t) s0 s6 ∧ s6.oracle = rest ∧ (G → nevents = 0 → sg = false → b ≤ s6.tm.time) := by
          have hx : Ext .poll s5 d.1 := (Ext.of_eq (s' := { s5 with batch := r.batch }) rfl rfl).trans (dispatchLoop_reach sc _ _ _ _).ext
          refine ⟨(TrExt.of_ext (PollEv.of_EvOK G t) h5.1 hx).upd rfl, hx.elim fun _ h => h.2.2.trans h5.2.1, fun g h1 h2 => ?_⟩
          show b ≤ d.1.tm.time
          rw [((dispatchLoop_count sc _ _ 0 false).2 h2).2 h1]; exact h5.2.2 g
        have hc1 : (G → CtlOK t b c1) ∧ c1.reset = false := by
          show (G → CtlOK t b (if c.reset = true then _ else c)) ∧ (if c.reset = true then _ else c).reset = false
          by_cases hreset : c.reset = true
          · rw [if_pos hreset]; exact ⟨fun g => (hh g).2.rearm hreset, rfl⟩
          · rw [if_neg hreset]; exact ⟨fun g => (hh g).2, Bool.eq_false_iff.2 hreset⟩
        clear_value c1 s6 nevents sg
        obtain ⟨h6, o6, t6⟩ := h6
        by_cases hsg : sg = true
        · rw [if_pos hsg]; exact h6
        rw [if_neg hsg]
        by_cases hn : (nevents != 0) = true
        · rw [if_pos hn]
          split
          · exact next _ _ h6 o6 fun g => (hc1.1 g).zero hc1.2 _
          · exact h6
        · rw [if_neg hn]
          cases hu : updateTimeout c1 s6.tm.time with
          | none => exact h6
          | some c' => exact next _ _ h6 o6 fun g =>
              ((hc1.1 g).step hc1.2 (t6 g (by simpa using hn) (Bool.eq_false_iff.2 hsg)) hu).1

theorem ioPoll_ext (G : Prop) (t : Int) (sc : Script) (s0 s : State) (hi : TrExt (PollEv G t) s0 s)
    (hh : G → ∀ r ∈ s.oracle, s.tm.time ≤ r.clock ∧ r.clock < Timer.U64) :
    TrExt (PollEv G t) s0 (ioPoll sc s t) := by
  unfold ioPoll
  have f := fw_flushWatchers s
  simp only [fw, Prod.mk.injEq] at f
  obtain ⟨f1, f2, f3, _⟩ := f
  refine pollLoop_ext G t s.tm.time sc s0 _ _ _ (hi.upd f1) fun g => ⟨f2 ▸ hh g, ?_⟩
  split
  · exact ⟨congrArg (·.time) f3, Or.inl rfl, Int.le_refl _, fun _ => rfl⟩
  · exact ⟨congrArg (·.time) f3, Or.inr (Or.inl rfl), Int.le_refl _, fun h => nomatch h⟩

def phasesOf (l : List Event) : List Phase :=
  l.filterMap (fun e => match e with | .cb ph _ _ _ _ => some ph | _ => none)

/-- every callback event is of phase `p` -/
def CbIn (p : Phase) : Event → Prop
  | .cb ph _ _ _ _ => ph = p
  | _ => True

theorem CbIn.of_EvOK (p : Phase) (e : Event) (h : EvOK p e) : CbIn p e := by
  cases e <;> simp_all [EvOK, CbIn]
theorem CbIn.of_PollEv (G : Prop) (t : Int) (e : Event) (h : PollEv G t e) : CbIn .poll e := by
  cases e <;> simp_all [PollEv, CbIn]

/-- the new events' callback phases are in order, all between `lo` and `hi` -/
def Mono (lo hi : Nat) (s0 s : State) : Prop :=
  ∃ new, s.trace = new ++ s0.trace ∧ (phasesOf new.reverse).Pairwise (fun a b => a.ctorIdx ≤ b.ctorIdx) ∧
    ∀ p ∈ phasesOf new, lo ≤ p.ctorIdx ∧ p.ctorIdx ≤ hi

theorem mem_phasesOf {p : Phase} {l : List Event} : p ∈ phasesOf l ↔ ∃ k i a b, Event.cb p k i a b ∈ l := by
  unfold phasesOf
  rw [List.mem_filterMap]
  constructor
  · rintro ⟨e, he, h⟩
    cases e <;> simp at h
    subst h
    exact ⟨_, _, _, _, he⟩
  · rintro ⟨k, i, a, b, h⟩
    exact ⟨_, h, rfl⟩

theorem phasesOf_append (l l' : List Event) : phasesOf (l ++ l') = phasesOf l ++ phasesOf l' := List.filterMap_append
theorem phasesOf_reverse (l : List Event) : phasesOf l.reverse = (phasesOf l).reverse := List.filterMap_reverse

theorem Mono.of_trext {p : Phase} {s0 s : State} (h : TrExt (CbIn p) s0 s) : Mono p.ctorIdx p.ctorIdx s0 s := by
  obtain ⟨new, ht, hp⟩ := h
  have hall : ∀ q ∈ phasesOf new, q = p := fun q hq => by
    obtain ⟨k, i, a, b, hm⟩ := mem_phasesOf.1 hq
    exact hp _ hm
  refine ⟨new, ht, List.pairwise_of_forall_mem_list fun a ha b hb => ?_, fun q hq => ?_⟩
  · rw [phasesOf_reverse, List.mem_reverse] at ha hb
    rw [hall a ha, hall b hb]
    exact Nat.le_refl _
  · rw [hall q hq]
    exact ⟨Nat.le_refl _, Nat.le_refl _⟩

theorem Mono.of_ext {p : Phase} {s0 s : State} (h : Ext p s0 s) : Mono p.ctorIdx p.ctorIdx s0 s :=
  Mono.of_trext (TrExt.of_ext (CbIn.of_EvOK p) (TrExt.refl _ s0) h)

theorem Mono.upd {lo hi : Nat} {s0 s s' : State} (h : Mono lo hi s0 s) (h1 : s'.trace = s.trace) : Mono lo hi s0 s' := by
  obtain ⟨n, t, p⟩ := h
  exact ⟨n, h1.trans t, p⟩

theorem Mono.trans {a b c d : Nat} {s0 s1 s2 : State} (h1 : Mono a b s0 s1) (h2 : Mono c d s1 s2)
    (hab : a ≤ b) (hbc : b ≤ c) (hcd : c ≤ d) : Mono a d s0 s2 := by
  obtain ⟨n1, t1, p1, r1⟩ := h1
  obtain ⟨n2, t2, p2, r2⟩ := h2
  refine ⟨n2 ++ n1, by rw [t2, t1, List.append_assoc], ?_, fun q hq => ?_⟩
  · rw [List.reverse_append, phasesOf_append, List.pairwise_append]
    refine ⟨p1, p2, fun x hx y hy => ?_⟩
    rw [phasesOf_reverse, List.mem_reverse] at hx hy
    exact Nat.le_trans (r1 x hx).2 (Nat.le_trans hbc (r2 y hy).1)
  · rw [phasesOf_append, List.mem_append] at hq
    rcases hq with h | h
    · exact ⟨Nat.le_trans hab (Nat.le_trans hbc (r2 q h).1), (r2 q h).2⟩
    · exact ⟨(r1 q h).1, Nat.le_trans (r1 q h).2 (Nat.le_trans hbc hcd)⟩

theorem iteration_mono (sc : Script) (mode : Mode) (s : State) : Mono 1 8 s (iteration sc mode s) := by
  unfold iteration
  simp only
  have m0 : Mono 1 1 s (emit s .iterBegin) :=
    Mono.of_trext (p := .pending) (TrExt_emit trivial (TrExt.refl _ s))
  generalize emit s .iterBegin = s1 at m0 ⊢
  have m1 := Mono.trans m0 (Mono.of_ext (runPending_reach sc .pending s1).ext) (by decide) (by decide) (by decide)
  generalize runPending sc .pending s1 = s2 at m1 ⊢
  have m2 := Mono.trans m1 (Mono.of_ext (runWatchers_reach sc .idle s2).ext) (by decide) (by decide) (by decide)
  generalize runWatchers sc .idle s2 = s3 at m2 ⊢
  have m3 := Mono.trans m2 (Mono.of_ext (runWatchers_reach sc .prepare s3).ext) (by decide) (by decide) (by decide)
  generalize runWatchers sc .prepare s3 = s4 at m3 ⊢
  generalize pollTimeout mode _ s4 = t
  have m4 := Mono.trans m3 (Mono.of_trext (p := .poll) (TrExt.mono (CbIn.of_PollEv False t)
    (ioPoll_ext False t sc _ { s4 with loopCount := s4.loopCount + 1 } (TrExt.refl _ _) (fun g => g.elim))))
    (by decide) (by decide) (by decide)
  generalize ioPoll sc { s4 with loopCount := s4.loopCount + 1 } t = s5 at m4 ⊢
  have m5 := Mono.trans m4 (Mono.of_ext (pendingRounds_reach sc 8 s5).ext) (by decide) (by decide) (by decide)
  generalize pendingRounds sc 8 s5 = s6 at m5 ⊢
  have m6 := Mono.trans m5 (Mono.of_ext (runWatchers_reach sc .check s6).ext) (by decide) (by decide) (by decide)
  generalize runWatchers sc .check s6 = s7 at m6 ⊢
  have m7 := Mono.trans m6 (Mono.of_ext (runClosing_reachC sc s7).ext) (by decide) (by decide) (by decide)
  generalize runClosing sc s7 = s8 at m7 ⊢
  have m8 := Mono.trans m7 (Mono.of_ext (runTimers_reach sc .timers (updateTime s8)).ext) (by decide) (by decide) (by decide)
  exact m8

end UvModel.Loop.Phases
