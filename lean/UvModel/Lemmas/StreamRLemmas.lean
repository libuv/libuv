import UvModel.Lemmas.StreamRFlow
/-! The specification of C06 and its proof.  The property text is the automaton `Mon`: run over the event
    trace (`mon`), it keeps what the peer sent and read_cb received and gives four verdicts (`Verdicts`);
    the theorems of Props/C06 read these off.  The proof is one invariant (`Coupled`) that every step of the
    model preserves: the automaton's state is coupled to the model state, and a reading stream is armed. -/
namespace UvModel.StreamR

/-- specification automaton over the trace (the property text as a left fold) -/
structure Mon where
  sentB : List Byte := []
  deliv : List Byte := []
  pending : Option (Nat × Nat) := none    -- alloc (id, size) whose buffer has not been handed back
  nAl : Nat := 0                          -- alloc_cb calls so far
  quiet : Bool := true                    -- no callback allowed until `ret start 0`
  shut : Bool := false                    -- the peer has shut down
  okPair : Bool := true                   -- alloc `id` is call number `id`; the next event is the read_cb with that buffer; no other buffer
  okQuiet : Bool := true                  -- no alloc_cb / read_cb while `quiet`
  okEof : Bool := true                    -- UV_EOF with a buffer only after the peer's shutdown, everything delivered
  okSyn : Bool := true                    -- synthetic EOF (no buffer) only when everything was delivered

/-- does read_cb(n) end the reading session?  any negative nread except the UV_ENOBUFS that answers
    an alloc_cb refusal (buffer of size 0) -/
def quieting (n : Int) (pending : Option (Nat × Nat)) : Bool :=
  decide (n < 0) && !(n == UV_ENOBUFS && pending.map (·.2) == some 0)

def Mon.step (m : Mon) : Ev → Mon
  | .peerW b => { m with sentB := m.sentB ++ b, okPair := m.okPair && m.pending.isNone }
  | .peerShut => { m with shut := true, okPair := m.okPair && m.pending.isNone }
  | .alloc id sz =>
    { m with pending := some (id, sz), nAl := m.nAl + 1
             okPair := m.okPair && m.pending.isNone && id == m.nAl
             okQuiet := m.okQuiet && !m.quiet }
  | .readCb n buf bytes =>
    { m with pending := none
             deliv := m.deliv ++ (if n > 0 then bytes else [])
             okPair := m.okPair && (buf == m.pending.map (·.1))
             okQuiet := m.okQuiet && !m.quiet
             okEof := m.okEof && (!(n == UV_EOF) || buf.isNone || (m.deliv == m.sentB && m.shut))
             okSyn := m.okSyn && (!(n == UV_EOF) || buf.isSome || m.deliv == m.sentB)
             quiet := m.quiet || quieting n m.pending }
  | .ret op c =>
    { m with okPair := m.okPair && m.pending.isNone
             quiet := if c = 0 then (match op with | .start => false | _ => true) else m.quiet }
  | .closeCb => { m with okPair := m.okPair && m.pending.isNone }

/-- number of alloc_cb calls in a trace -/
def allocCount : List Ev → Nat
  | [] => 0
  | .alloc _ _ :: t => allocCount t + 1
  | _ :: t => allocCount t

def mon (tr : List Ev) : Mon := tr.foldl Mon.step {}

theorem mon_append (tr l : List Ev) : mon (tr ++ l) = l.foldl Mon.step (mon tr) := by
  simp [mon, List.foldl_append]

theorem mon_snoc (tr : List Ev) (e : Ev) : mon (tr ++ [e]) = (mon tr).step e := by
  simp [mon_append]

/-- the automaton's verdicts; the one on the synthetic EOF is asked for only under `syn` -/
structure Verdicts (syn : Bool) (m : Mon) : Prop where
  okPair : m.okPair = true
  okQuiet : m.okQuiet = true
  okEof : m.okEof = true
  okSyn : syn = true → m.okSyn = true

namespace Verdicts
variable {syn : Bool} {m : Mon}

/-- verdicts only ever fall -/
theorem of_step {e : Ev} (h : Verdicts syn (m.step e)) : Verdicts syn m := by
  obtain ⟨h1, h2, h3, h4⟩ := h
  cases e <;> simp only [Mon.step, Bool.and_eq_true] at h1 h2 h3 h4 <;>
    exact ⟨by simp [h1], by simp [h2], by simp [h3], fun hs => by simp [h4 hs]⟩

theorem of_fold : ∀ (l : List Ev) {m : Mon}, Verdicts syn (l.foldl Mon.step m) → Verdicts syn m
  | [], _, h => h
  | _ :: t, _, h => (of_fold t h).of_step

theorem at_event {pre post : List Ev} {e : Ev} (h : Verdicts syn (mon (pre ++ e :: post))) :
    Verdicts syn ((mon pre).step e) :=
  of_fold post (by rwa [mon_append] at h)

end Verdicts

/-- what the automaton must have recorded between two rounds of uv__read, in terms of the stream's
    kernel buffer, the peer's shutdown and the number of alloc_cb calls -/
structure Sync (syn : Bool) (m : Mon) (kbuf : List Byte) (peerShut : Bool) (nAlloc : Nat) : Prop
    extends Verdicts syn m where
  pend : m.pending = none
  cons : m.sentB = m.deliv ++ kbuf
  shut : m.shut = peerShut
  nal : m.nAl = nAlloc

namespace Sync
variable {syn : Bool} {m : Mon} {k : List Byte} {p : Bool} {n : Nat}

theorem ret (h : Sync syn m k p n) (op : CbOp) (c : Int) : Sync syn (m.step (.ret op c)) k p n :=
  { h with okPair := by simp [Mon.step, h.okPair, h.pend] }

theorem closeCb (h : Sync syn m k p n) : Sync syn (m.step .closeCb) k p n :=
  { h with okPair := by simp [Mon.step, h.okPair, h.pend] }

theorem peerW (h : Sync syn m k p n) (b : List Byte) : Sync syn (m.step (.peerW b)) (k ++ b) p n :=
  { h with okPair := by simp [Mon.step, h.okPair, h.pend], cons := by simp [Mon.step, h.cons] }

theorem peerShut (h : Sync syn m k p n) : Sync syn (m.step .peerShut) k true n :=
  { h with okPair := by simp [Mon.step, h.okPair, h.pend], shut := rfl }

theorem round (h : Sync syn m k p n) (hq : m.quiet = false) (sz : Nat) (nr : Int) (bytes k' : List Byte)
    (hk : (if nr > 0 then bytes else []) ++ k' = k) (he : nr ≠ UV_EOF ∨ (k = [] ∧ p = true)) :
    Sync syn ((m.step (.alloc n sz)).step (.readCb nr (some n) bytes)) k' p (n + 1) where
  okPair := by simp [Mon.step, h.okPair, h.pend, h.nal]
  okQuiet := by simp [Mon.step, h.okQuiet, hq]
  okEof := by
    rcases he with hn | ⟨hk0, hp⟩
    · simp [Mon.step, h.okEof, hn]
    · simp [Mon.step, h.okEof, h.cons, h.shut, hk0, hp]
  pend := rfl
  cons := by simp [Mon.step, h.cons, ← hk]
  shut := h.shut
  nal := by simp [Mon.step, h.nal]
  okSyn hs := by simp [Mon.step, h.okSyn hs]

theorem synEof (h : Sync syn m k p n) (hq : m.quiet = false) (hk : syn = true → k = []) :
    Sync syn (m.step (.readCb UV_EOF none [])) k p n :=
  { h with
    okPair := by simp [Mon.step, h.okPair, h.pend]
    okQuiet := by simp [Mon.step, h.okQuiet, hq]
    okEof := by simp [Mon.step, h.okEof]
    pend := rfl
    cons := by simp [Mon.step, h.cons, UV_EOF]
    okSyn := fun hs => by simp [Mon.step, h.okSyn hs, h.cons, hk hs] }

end Sync

/-- What the automaton's `quiet` must be: the opposite of UV_HANDLE_READING, except (`err`) inside the
    read_cb that reports a read error, where READING is still set but no uv_read_start can succeed. -/
def Quiet (err quiet : Bool) (s : St) : Prop :=
  quiet = (err || !s.reading) ∧ (err = true → s.readable = false)

/-- UV_HANDLE_READING ⇒ POLLIN armed ∧ read_cb set -/
def Armed (s : St) : Prop := s.reading = true → s.pollin = true ∧ s.hasCb = true

/-- The invariant of the read side: the automaton run over the trace is coupled to the model state, and
    a reading stream is armed. -/
structure Coupled (err : Bool) (i0 syn : Bool) (s : St) : Prop where
  sync : Sync syn (mon s.trace) s.kbuf s.peerShut s.nAlloc
  q : Quiet err (mon s.trace).quiet s
  ipc : s.ipc = i0
  armed : Armed s

variable {i0 syn : Bool}

theorem coupled_start (ipc : Bool) : Coupled false ipc syn (start ipc) :=
  ⟨⟨⟨rfl, rfl, rfl, fun _ => rfl⟩, rfl, rfl, rfl, rfl⟩, ⟨rfl, nofun⟩, rfl, nofun⟩

theorem coupled_snoc {b : Bool} {s : St} {tr : List Ev} (e : Ev) (ht : s.trace = tr ++ [e])
    (hs : Sync syn ((mon tr).step e) s.kbuf s.peerShut s.nAlloc)
    (hq : Quiet b ((mon tr).step e).quiet s)
    (hi : s.ipc = i0) (ha : Armed s) : Coupled b i0 syn s :=
  ⟨by rw [ht, mon_snoc]; exact hs, by rw [ht, mon_snoc]; exact hq, hi, ha⟩

theorem coupled_doOp (b : Bool) (s : St) (op : CbOp) (h : Coupled b i0 syn s) : Coupled b i0 syn (doOp s op) := by
  have hq := h.q
  have ha := h.armed
  cases op <;> simp only [doOp, readStop, readStart, closeH, emit] <;> (repeat' split) <;>
    refine coupled_snoc _ rfl (h.sync.ret _ _) ?_ h.ipc ?_ <;>
    simp_all [Quiet, Armed, Mon.step, UV_EINVAL, UV_EALREADY, UV_ENOTCONN]

theorem coupled_callReadCb (u : User) {b : Bool} {s : St} {n : Int} {buf : Option Nat} {bytes : List Byte}
    (h : Coupled b i0 syn (emit { s with nCb := s.nCb + 1 } (.readCb n buf bytes))) :
    Coupled b i0 syn (callReadCb u s n buf bytes) :=
  List.foldlRecOn _ doOp h fun s h op _ => coupled_doOp b s op h

/-- `s` is the state right after alloc_cb number `id` of a round of uv__read answered `sz`, and after
    the read if there was one; `tr` is the trace and `k` the kernel buffer before them. -/
def AfterAlloc (i0 syn : Bool) (s : St) (tr : List Ev) (id sz : Nat) (k : List Byte) : Prop :=
  s.trace = tr ++ [.alloc id sz] ∧ Sync syn (mon tr) k s.peerShut id ∧ s.nAlloc = id + 1 ∧
  (mon tr).quiet = false ∧ s.ipc = i0

theorem coupled_roundCb (u : User) (b : Bool) {s : St} {tr : List Ev} {id sz : Nat} {k : List Byte} (n : Int)
    (bytes : List Byte) (ha : AfterAlloc i0 syn s tr id sz k)
    (hk : (if n > 0 then bytes else []) ++ s.kbuf = k) (he : n ≠ UV_EOF ∨ (k = [] ∧ s.peerShut = true))
    (hQ : Quiet b (quieting n (some (id, sz))) s) (hA : Armed s) :
    Coupled b i0 syn (callReadCb u s n (some id) bytes) := by
  obtain ⟨ht, h, hn, hq, hi⟩ := ha
  refine coupled_callReadCb u (coupled_snoc (tr := tr ++ [.alloc id sz]) _ (congrArg (· ++ [_]) ht) ?_ ?_ hi hA)
  · rw [mon_snoc]
    exact hn ▸ h.round hq sz n bytes _ hk he
  · rw [mon_snoc]
    simpa only [Quiet, Mon.step, hq, Bool.false_or, emit] using hQ

theorem coupled_afterRead (u : User) {s : St} {tr : List Ev} {id sz : Nat} {k : List Byte} (r : RRes)
    (ha : AfterAlloc i0 syn s tr id sz k) (hA : Armed s) (hr : s.reading = true) (hsz : sz ≠ 0) {full : Prop}
    (hk : KOk k s.peerShut sz full (r, s.kbuf)) : Coupled false i0 syn (afterRead u s id sz r).1 := by
  cases r with
  | eagain =>
    simp only [afterRead, hr, if_true]
    exact coupled_roundCb u false 0 [] ha hk (.inl (by decide)) (by simp [Quiet, quieting]) fun _ => ⟨rfl, (hA hr).2⟩
  | err e =>
    obtain ⟨⟨he0, he1⟩, hk⟩ := hk
    have hc : Coupled true i0 syn (callReadCb u { s with readable := false, writable := false } (-(e : Int)) (some id) []) :=
      coupled_roundCb u true _ [] ha (by simpa using hk) (.inl (by simp only [UV_EOF]; omega))
        ⟨by simp [quieting, UV_ENOBUFS, hsz]; omega, fun _ => rfl⟩ hA
    simp only [afterRead]
    split
    · exact ⟨hc.sync, ⟨hc.q.1, nofun⟩, hc.ipc, nofun⟩
    · next hnr => exact ⟨hc.sync, ⟨by simpa [hnr] using hc.q.1, nofun⟩, hc.ipc, hc.armed⟩
  | eof =>
    exact coupled_roundCb u false UV_EOF [] ha hk.2.2 (.inr ⟨hk.1, hk.2.1⟩) (by simp [Quiet, quieting, UV_ENOBUFS, UV_EOF]) nofun
  | data bs =>
    have hpos : (bs.length : Int) > 0 := by
      have := List.length_pos_iff.mpr hk.1
      omega
    have hc : Coupled false i0 syn (callReadCb u s bs.length (some id) bs) :=
      coupled_roundCb u false _ bs ha (by simp only [hpos, if_true]; exact hk.2.1)
        (.inl (by simp only [UV_EOF]; omega)) (by simp [Quiet, quieting, hr]; omega) hA
    simp only [afterRead]
    split
    · split
      -- `Coupled` does not read READ_PARTIAL: the same facts, about the updated state
      · exact ⟨hc.sync, hc.q, hc.ipc, hc.armed⟩
      · exact hc
    · exact hc

theorem coupled_readRound (u : User) (s : St) (h : Coupled false i0 syn s) (hr : s.reading = true) :
    Coupled false i0 syn (readRound u s).1 := by
  have ha : AfterAlloc i0 syn (emit { s with nAlloc := s.nAlloc + 1 } (.alloc s.nAlloc (u.allocS s.nAlloc)))
      s.trace s.nAlloc (u.allocS s.nAlloc) s.kbuf :=
    ⟨rfl, h.sync, rfl, by simpa [Quiet, hr] using h.q, h.ipc⟩
  unfold readRound
  dsimp only
  split
  · next hz =>
    exact coupled_roundCb u false UV_ENOBUFS [] ha rfl (.inl (by decide)) (by simp [Quiet, quieting, hz, hr, UV_ENOBUFS, emit]) h.armed
  · next hz => exact coupled_afterRead u _ ha h.armed hr hz (kread_ok (full := False) nofun)

theorem coupled_uvRead (u : User) (s : St) (h : Coupled false i0 syn s) : Coupled false i0 syn (uvRead u s) :=
  readLoop_rec u (fun _ h => h) (fun s h hr => by split <;> exact coupled_readRound u s h hr) 32 _
    ⟨h.sync, h.q, h.ipc, h.armed⟩

/-- environment condition on the read outcomes of one loop iteration: uv__read leaves READ_PARTIAL set
    only with an empty kernel buffer (what `read_partial_implies_drained` concludes from `EnvOK`) -/
def PollOK (u : User) (ipc : Bool) (reads : List Outcome) : Prop :=
  ∀ s : St, s.ipc = ipc → s.oracle = reads → (uvRead u s).readPartial = true → (uvRead u s).kbuf = []

theorem coupled_ioPoll (u : User) (s : St) (ev : PollEv) (h : Coupled false i0 syn s)
    (hD : syn = true → (uvRead u s).readPartial = true → (uvRead u s).kbuf = []) :
    Coupled false i0 syn (ioPoll u s ev) := by
  rcases ioPoll_cases u s ev with he | he | ⟨he, hr, hp⟩ <;> rw [he]
  · exact h
  · exact coupled_uvRead u s h
  · have h1 := coupled_uvRead u s h
    have hq : (mon (uvRead u s).trace).quiet = false := by simpa [Quiet, hr] using h1.q
    exact coupled_callReadCb u (coupled_snoc _ rfl (h1.sync.synEof hq fun hs => hD hs hp)
      (by simp [Quiet, Mon.step, quieting, hq, emit, UV_EOF, UV_ENOBUFS]) h1.ipc nofun)

theorem coupled_runClosing (s : St) (h : Coupled false i0 syn s) : Coupled false i0 syn (runClosing s) := by
  unfold runClosing
  split
  · exact coupled_snoc _ rfl h.sync.closeCb h.q h.ipc h.armed
  · exact h

theorem coupled_stepOp (u : User) (s : St) (op : Op) (h : Coupled false i0 syn s)
    (hok : syn = true → ∀ ev reads, op = .poll ev reads → PollOK u i0 reads) :
    Coupled false i0 syn (stepOp u s op) := by
  cases op with
  | start | stop | close =>
    dsimp only [stepOp]
    exact coupled_doOp false s _ h
  | poll ev reads =>
    exact coupled_runClosing _ (coupled_ioPoll u _ ev ⟨h.sync, h.q, h.ipc, h.armed⟩ fun hs => hok hs ev reads rfl _ h.ipc rfl)
  | peerW bytes =>
    simp only [stepOp]
    split
    · exact h
    · exact coupled_snoc _ rfl (h.sync.peerW bytes) h.q h.ipc h.armed
  | peerShut => exact coupled_snoc _ rfl h.sync.peerShut h.q h.ipc h.armed

theorem coupled_exec (u : User) (ops : List Op) (s : St) (h : Coupled false i0 syn s)
    (hok : syn = true → ∀ ev reads, Op.poll ev reads ∈ ops → PollOK u i0 reads) :
    Coupled false i0 syn (exec u s ops) :=
  List.foldlRecOn ops (stepOp u) h fun s h op hop => coupled_stepOp u s op h fun hs ev reads he => hok hs ev reads (he ▸ hop)

theorem coupled_run (u : User) (ipc : Bool) (ops : List Op) : Coupled false ipc false (exec u (start ipc) ops) :=
  coupled_exec u ops _ (coupled_start ipc) nofun

theorem fold_obs (l : List Ev) : ∀ m : Mon, (l.foldl Mon.step m).deliv = m.deliv ++ delivered l ∧
    (l.foldl Mon.step m).sentB = m.sentB ++ sent l ∧ (l.foldl Mon.step m).nAl = m.nAl + allocCount l := by
  induction l with
  | nil => intro m; simp [delivered, sent, allocCount]
  | cons e t ih => intro m; cases e <;> simp [ih, Mon.step, delivered, sent, allocCount] <;> omega

theorem mon_obs (tr : List Ev) :
    (mon tr).deliv = delivered tr ∧ (mon tr).sentB = sent tr ∧ (mon tr).nAl = allocCount tr := by
  simpa [mon] using fold_obs tr {}

theorem fold_shut (l : List Ev) : ∀ m : Mon, (l.foldl Mon.step m).shut = true → m.shut = true ∨ Ev.peerShut ∈ l := by
  induction l with
  | nil => exact fun m h => .inl h
  | cons e t ih =>
    intro m h
    rcases ih _ h with h1 | h1
    · cases e
      case peerShut => exact .inr List.mem_cons_self
      all_goals exact .inl h1
    · exact .inr (List.mem_cons_of_mem _ h1)

/-- once quiet, only a successful uv_read_start makes callbacks legal again -/
theorem fold_quiet (l : List Ev) : ∀ m : Mon, m.quiet = true → (l.foldl Mon.step m).quiet = false →
    Ev.ret .start 0 ∈ l := by
  induction l with
  | nil => intro m h1 h2; rw [List.foldl_nil, h1] at h2; cases h2
  | cons e t ih =>
    intro m h1 h2
    cases hq : (m.step e).quiet with
    | true => exact List.mem_cons_of_mem _ (ih _ hq h2)
    | false =>
      have he : e = .ret .start 0 := by
        cases e with
        | ret op c => cases op <;> simp [Mon.step, h1] at hq <;> rw [hq]
        | _ => simp [Mon.step, h1] at hq
      exact he ▸ List.mem_cons_self

/-- a buffer is outstanding, with the pairing verdict intact, only right after its alloc_cb -/
theorem pending_some (tr : List Ev) (id sz : Nat) (hok : (mon tr).okPair = true)
    (h : (mon tr).pending = some (id, sz)) : ∃ pre, tr = pre ++ [.alloc id sz] := by
  rcases List.eq_nil_or_concat tr with rfl | ⟨pre, e, rfl⟩
  · cases h
  · rw [List.concat_eq_append, mon_snoc] at h hok
    cases e <;> simp_all [Mon.step]

end UvModel.StreamR
