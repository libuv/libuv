import UvModel.Signal
/-! The signal tree as a list sorted by `uv__signal_compare`: what the lookups of signal.c find in it, and the kernel's
dispositions as a function of it (`expectedDisp`), kept right by the two registration decisions of signal.c
(`afterStop`, `afterStart`).  No state record here: keys, lists and functions are variables. -/
namespace UvModel.Signal

/-- one level of a lexicographic order: `Key.lt` is three of these, nested, around `a.id < b.id` -/
theorem lex_trans {x y z : Nat} {P Q R : Prop} (h : P → Q → R) :
    (x < y ∨ x = y ∧ P) → (y < z ∨ y = z ∧ Q) → (x < z ∨ x = z ∧ R) := by
  rintro (h1 | ⟨rfl, p⟩) (h2 | ⟨rfl, q⟩)
  · exact Or.inl (Nat.lt_trans h1 h2)
  · exact Or.inl h1
  · exact Or.inl h2
  · exact Or.inr ⟨rfl, h p q⟩

theorem lex_total {x y : Nat} {P Q : Prop} (h : x = y → P ∨ Q) :
    (x < y ∨ x = y ∧ P) ∨ (y < x ∨ y = x ∧ Q) := by
  rcases Nat.lt_trichotomy x y with h1 | h1 | h1
  · exact Or.inl (Or.inl h1)
  · exact (h h1).imp (fun p => Or.inr ⟨h1, p⟩) (fun q => Or.inr ⟨h1.symm, q⟩)
  · exact Or.inr (Or.inl h1)

theorem Key.lt_trans {a b c : Key} : Key.lt a b → Key.lt b c → Key.lt a c :=
  lex_trans (lex_trans (lex_trans Nat.lt_trans))

theorem Key.lt_total {a b : Key} (h : a ≠ b) : Key.lt a b ∨ Key.lt b a :=
  lex_total fun e1 => lex_total fun e2 => lex_total fun e3 => Nat.lt_or_gt_of_ne fun e4 => h (by
    rcases a with ⟨_, oa, _, _⟩; rcases b with ⟨_, ob, _, _⟩
    cases e1; cases e3; cases e4
    cases oa <;> cases ob <;> first | rfl | cases e2)

theorem Key.lt_irrefl (a : Key) : ¬ Key.lt a a := by unfold Key.lt; omega

theorem Key.lt_sig {a b : Key} : Key.lt a b → a.sig ≤ b.sig := by unfold Key.lt; omega

theorem Key.lt_os {a b : Key} (h : Key.lt a b) (e : a.sig = b.sig) (ho : a.os = true) : b.os = true := by
  unfold Key.lt at h; rw [ho] at h
  cases hb : b.os
  · rw [hb] at h; simp only [Bool.toNat_true, Bool.toNat_false] at h; omega
  · rfl

abbrev Sorted (t : List Key) : Prop := t.Pairwise Key.lt

theorem mem_treeInsert {k x : Key} {t : List Key} : x ∈ treeInsert k t ↔ x = k ∨ x ∈ t := by
  induction t with
  | nil => simp [treeInsert]
  | cons y ys ih =>
    simp only [treeInsert]; split
    · simp
    · simp only [List.mem_cons, ih]; constructor <;> (intro h; rcases h with h | h | h <;> simp [h])

theorem sorted_treeInsert {k : Key} {t : List Key} (hs : Sorted t) (hk : k ∉ t) : Sorted (treeInsert k t) := by
  induction t with
  | nil => simp [treeInsert]
  | cons y ys ih =>
    have hy := List.pairwise_cons.1 hs
    simp only [treeInsert]; split
    · rename_i hlt
      refine List.pairwise_cons.2 ⟨fun z hz => ?_, hs⟩
      rcases List.mem_cons.1 hz with rfl | hz
      · exact hlt
      · exact Key.lt_trans hlt (hy.1 z hz)
    · rename_i hnlt
      have hyk : Key.lt y k := (Key.lt_total fun e => hk (by simp [e])).resolve_left hnlt
      refine List.pairwise_cons.2 ⟨fun z hz => ?_, ih hy.2 fun h => hk (by simp [h])⟩
      rcases mem_treeInsert.1 hz with rfl | hz
      · exact hyk
      · exact hy.1 z hz

theorem sorted_nodup {t : List Key} (hs : Sorted t) : t.Nodup := by
  refine List.Pairwise.imp ?_ hs
  intro a b h e; subst e; exact Key.lt_irrefl _ h

theorem sorted_erase {t : List Key} (k : Key) (hs : Sorted t) : Sorted (t.erase k) :=
  hs.sublist List.erase_sublist

theorem mem_erase_sorted {t : List Key} {k x : Key} (hs : Sorted t) : x ∈ t.erase k ↔ x ≠ k ∧ x ∈ t :=
  (sorted_nodup hs).mem_erase_iff

/-- RB_NFIND with `{signum, 0, NULL}` stops at `g` -/
theorem find_first {t : List Key} {sig : Nat} {g : Key} (hs : Sorted t)
    (hg : t.find? (fun k => sig ≤ k.sig) = some g) :
    g ∈ t ∧ sig ≤ g.sig ∧ ∀ k ∈ t, k.sig < sig ∨ k = g ∨ Key.lt g k := by
  obtain ⟨hp, as, bs, rfl, has⟩ := List.find?_eq_some_iff_append.1 hg
  refine ⟨by simp, by simpa using hp, fun k hk => ?_⟩
  rcases List.mem_append.1 hk with hk | hk
  · exact Or.inl (by simpa using has k hk)
  · rcases List.mem_cons.1 hk with rfl | hk
    · exact Or.inr (Or.inl rfl)
    · exact Or.inr (Or.inr ((List.pairwise_cons.1 (List.pairwise_append.1 hs).2.1).1 k hk))

theorem firstHandle_none {t : List Key} {sig : Nat} (hs : Sorted t) (h : firstHandle t sig = none) :
    ∀ k ∈ t, k.sig ≠ sig := by
  intro k hk e
  unfold firstHandle at h
  split at h
  · rename_i g hg
    obtain ⟨_, hle, hall⟩ := find_first hs hg
    split at h
    · cases h
    · rename_i hne
      rcases hall k hk with h1 | rfl | h1
      · exact Nat.lt_irrefl _ (e ▸ h1)
      · exact hne e
      · exact hne (Nat.le_antisymm (e ▸ Key.lt_sig h1) hle)
  · rename_i hf
    exact of_decide_eq_false (Bool.eq_false_iff.2 (List.find?_eq_none.1 hf k hk)) (Nat.le_of_eq e.symm)

theorem firstHandle_some {t : List Key} {sig : Nat} {f : Key} (hs : Sorted t) (h : firstHandle t sig = some f) :
    f ∈ t ∧ f.sig = sig ∧ (f.os = true → ∀ k ∈ t, k.sig = sig → k.os = true) := by
  unfold firstHandle at h
  split at h
  · rename_i g hg
    obtain ⟨hmem, _, hall⟩ := find_first hs hg
    split at h
    · rename_i he
      cases h
      refine ⟨hmem, he, fun hos k hk hks => ?_⟩
      rcases hall k hk with h1 | rfl | h1
      · exact absurd (hks ▸ h1) (Nat.lt_irrefl _)
      · exact hos
      · exact Key.lt_os h1 (he.trans hks.symm) hos
    · cases h
  · cases h

theorem handlerTargets_eq_filter {t : List Key} (sig : Nat) (hs : Sorted t) :
    handlerTargets t sig = t.filter (fun k => k.sig = sig) := by
  unfold handlerTargets
  induction t with
  | nil => rfl
  | cons x xs ih =>
    have hx := List.pairwise_cons.1 hs
    have hle : ∀ y ∈ xs, x.sig ≤ y.sig := fun y hy => Key.lt_sig (hx.1 y hy)
    rw [List.dropWhile_cons, List.filter_cons]
    by_cases h1 : x.sig < sig
    · rw [if_pos (decide_eq_true h1), if_neg fun h => Nat.ne_of_lt h1 (of_decide_eq_true h)]; exact ih hx.2
    · rw [if_neg fun h => h1 (of_decide_eq_true h), List.takeWhile_cons]
      by_cases h2 : x.sig = sig
      · rw [if_pos (decide_eq_true h2), if_pos (decide_eq_true h2), ← ih hx.2]
        -- nothing in xs is smaller than sig
        cases xs with
        | nil => rfl
        | cons y ys =>
          rw [List.dropWhile_cons,
            if_neg fun h => h1 (Nat.lt_of_le_of_lt (hle y List.mem_cons_self) (of_decide_eq_true h))]
      · rw [if_neg fun h => h2 (of_decide_eq_true h), if_neg fun h => h2 (of_decide_eq_true h)]
        refine (List.filter_eq_nil_iff.2 fun k hk h => ?_).symm
        exact h1 (Nat.lt_of_le_of_ne (of_decide_eq_true h ▸ hle k hk) h2)

/-- what the kernel disposition of `sig` must be, from the set of watchers (DESIGN §3 C13) -/
def expectedDisp (t : List Key) (delivered : Nat → Bool) (sig : Nat) : Disp :=
  if t.any (fun k => k.sig = sig && !k.os) then .uv false
  else if t.any (fun k => k.sig = sig) then (if delivered sig then .dflt else .uv true)
  else .dflt

theorem expectedDisp_regular {t : List Key} {d : Nat → Bool} {sig : Nat} {k : Key} (hk : k ∈ t) (hs : k.sig = sig)
    (ho : k.os = false) : expectedDisp t d sig = .uv false :=
  if_pos (List.any_eq_true.2 ⟨k, hk, by simp [hs, ho]⟩)

theorem expectedDisp_oneshot {t : List Key} {d : Nat → Bool} {sig : Nat} {k : Key} (hk : k ∈ t) (hs : k.sig = sig)
    (hall : ∀ k ∈ t, k.sig = sig → k.os = true) :
    expectedDisp t d sig = if d sig then .dflt else .uv true := by
  have a1 : t.any (fun k => k.sig = sig && !k.os) = false :=
    List.any_eq_false.2 fun k hk => by
      by_cases e : k.sig = sig
      · simp [hall k hk e]
      · simp [e]
  unfold expectedDisp
  rw [a1, if_neg Bool.false_ne_true, if_pos (List.any_eq_true.2 ⟨k, hk, by simp [hs]⟩)]

theorem any_congr_mem {t t' : List Key} {p : Key → Bool} (h : ∀ k, p k = true → (k ∈ t' ↔ k ∈ t)) :
    t'.any p = t.any p := by
  rw [Bool.eq_iff_iff]; simp only [List.any_eq_true]
  exact ⟨fun ⟨k, hk, hp⟩ => ⟨k, (h k hp).1 hk, hp⟩, fun ⟨k, hk, hp⟩ => ⟨k, (h k hp).2 hk, hp⟩⟩

theorem expectedDisp_congr {t t' : List Key} {d d' : Nat → Bool} {sig : Nat}
    (hm : ∀ k, k.sig = sig → (k ∈ t' ↔ k ∈ t)) (hd : d' sig = d sig) :
    expectedDisp t' d' sig = expectedDisp t d sig := by
  unfold expectedDisp
  rw [any_congr_mem (t := t) (t' := t') fun k hk => hm k (by simp at hk; exact hk.1),
    any_congr_mem (t := t) (t' := t') fun k hk => hm k (by simpa using hk), hd]

theorem expectedDisp_none {t : List Key} {d : Nat → Bool} {sig : Nat} (h : ∀ k ∈ t, k.sig ≠ sig) :
    expectedDisp t d sig = .dflt :=
  expectedDisp_congr (t := []) (d := d) (fun k hk => ⟨fun hm => absurd hk (h k hm), nofun⟩) rfl

/-- the kernel's part of a delivery: libuv's handler ran, and `SA_RESETHAND` has reset the disposition -/
theorem expectedDisp_delivered {t : List Key} {d : Nat → Bool} {sig : Nat} {r : Bool}
    (h : expectedDisp t d sig = .uv r) :
    expectedDisp t (upd d sig true) sig = if r then .dflt else .uv false := by
  unfold expectedDisp at h ⊢
  rw [upd_same]
  by_cases a1 : t.any (fun k => k.sig = sig && !k.os) = true
  · rw [if_pos a1] at h ⊢; cases h; rfl
  · rw [if_neg a1] at h ⊢
    by_cases a2 : t.any (fun k => decide (k.sig = sig)) = true
    · rw [if_pos a2] at h ⊢
      cases hd : d sig <;> rw [hd] at h <;> cases h
      rfl
    · rw [if_neg a2] at h; cases h

/-- the step every change of the tree goes through: the watchers of `sig0` alone change, `d'`, `dl'` differ from `d`,
`dl` at `sig0` alone, and `d' sig0` is right for the changed tree; then `d'` is right everywhere -/
theorem disp_step {t t' : List Key} {d d' : Nat → Disp} {dl dl' : Nat → Bool} {sig0 : Nat}
    (hd : ∀ sig, d sig = expectedDisp t dl sig) (ht : ∀ k : Key, k.sig ≠ sig0 → (k ∈ t' ↔ k ∈ t))
    (hoth : ∀ sig, sig ≠ sig0 → d' sig = d sig ∧ dl' sig = dl sig)
    (hself : d' sig0 = expectedDisp t' dl' sig0) (sig : Nat) : d' sig = expectedDisp t' dl' sig := by
  by_cases e : sig = sig0
  · rw [e]; exact hself
  · rw [(hoth sig e).1, hd]
    exact (expectedDisp_congr (fun k hk => ht k (hk ▸ e)) (hoth sig e).2).symm

/-- the case in which signal.c leaves the disposition alone: `t'` is `t` with or without `K`, and a watcher `f` of that
signum stays that is regular, or one-shot like `K` and all the others -/
theorem expectedDisp_absorb {t t' : List Key} {K f : Key} {d : Nat → Bool} (hsub : ∀ k ∈ t, k ∈ t')
    (hsup : ∀ k ∈ t', k = K ∨ k ∈ t) (hf : f ∈ t) (hfs : f.sig = K.sig)
    (hfos : f.os = true → K.os = true ∧ ∀ k ∈ t, k.sig = K.sig → k.os = true) :
    expectedDisp t d K.sig = expectedDisp t' d K.sig := by
  cases hfo : f.os
  · rw [expectedDisp_regular hf hfs hfo, expectedDisp_regular (hsub f hf) hfs hfo]
  · obtain ⟨hK, hall⟩ := hfos hfo
    rw [expectedDisp_oneshot hf hfs hall, expectedDisp_oneshot (hsub f hf) hfs]
    intro k hk hks
    rcases hsup k hk with rfl | hk
    · exact hK
    · exact hall k hk hks

/-- signal.c:556-573: the dispositions when a watcher of `sig` (one-shot iff `os`) has left and `t` remain: by the
first of them that watches `sig` -/
def afterStop (t : List Key) (sig : Nat) (os : Bool) (d : Nat → Disp) (dl : Nat → Bool) :
    (Nat → Disp) × (Nat → Bool) :=
  match firstHandle t sig with
  | none => (upd d sig .dflt, upd dl sig false)
  | some f => if f.os && !os then (upd d sig (.uv true), upd dl sig false) else (d, dl)

theorem afterStop_spec {t : List Key} (hs : Sorted t) {K : Key} {d : Nat → Disp} {dl : Nat → Bool}
    (hd : ∀ sig, d sig = expectedDisp t dl sig) (sig : Nat) :
    (afterStop (t.erase K) K.sig K.os d dl).1 sig =
      expectedDisp (t.erase K) (afterStop (t.erase K) K.sig K.os d dl).2 sig := by
  have hs' := sorted_erase K hs
  have ht : ∀ k : Key, k.sig ≠ K.sig → (k ∈ t.erase K ↔ k ∈ t) :=
    fun k hk => (mem_erase_sorted hs).trans (and_iff_right fun e => hk (e ▸ rfl))
  unfold afterStop
  cases hf : firstHandle (t.erase K) K.sig with
  | none =>
    refine disp_step hd ht (fun _ e => ⟨upd_other _ _ _ _ e, upd_other _ _ _ _ e⟩) ?_ sig
    exact (upd_same ..).trans (expectedDisp_none (firstHandle_none hs' hf)).symm
  | some f =>
    obtain ⟨hft, hfs, hfos⟩ := firstHandle_some hs' hf
    by_cases hc : (f.os && !K.os) = true
    · simp only [hc, ↓reduceIte]
      refine disp_step hd ht (fun _ e => ⟨upd_other _ _ _ _ e, upd_other _ _ _ _ e⟩) ?_ sig
      rw [expectedDisp_oneshot hft hfs (hfos (Bool.and_eq_true_iff.1 hc).1)]
      show upd _ _ _ _ = if upd _ _ _ _ = true then _ else _
      rw [upd_same, upd_same]; rfl
    · simp only [hc]
      refine disp_step hd ht (fun _ _ => ⟨rfl, rfl⟩) ?_ sig
      refine (hd _).trans (expectedDisp_absorb (fun k hk => ((mem_erase_sorted hs).1 hk).2)
        (fun k hk => (Decidable.em (k = K)).imp_right fun ek => (mem_erase_sorted hs).2 ⟨ek, hk⟩) hft hfs
        fun hfo => ⟨by simpa [hfo] using hc, hfos hfo⟩).symm

/-- signal.c:407-409: must the handler be installed (again) for a watcher of `sig` that joins `t`? -/
def needReg (t : List Key) (sig : Nat) (os : Bool) : Bool :=
  match firstHandle t sig with
  | none => true
  | some f => !os && f.os

/-- signal.c:410-415: the dispositions when a watcher of `sig` is about to join `t` -/
def afterStart (t : List Key) (sig : Nat) (os : Bool) (d : Nat → Disp) (dl : Nat → Bool) :
    (Nat → Disp) × (Nat → Bool) :=
  if needReg t sig os then (upd d sig (.uv os), upd dl sig false) else (d, dl)

theorem afterStart_spec {t : List Key} (hs : Sorted t) {K : Key} {sig0 : Nat} {os : Bool} (h1 : K.sig = sig0)
    (h2 : K.os = os) {d : Nat → Disp} {dl : Nat → Bool} (hd : ∀ sig, d sig = expectedDisp t dl sig) (sig : Nat) :
    (afterStart t sig0 os d dl).1 sig = expectedDisp (treeInsert K t) (afterStart t sig0 os d dl).2 sig := by
  subst h1 h2
  have hK : K ∈ treeInsert K t := mem_treeInsert.2 (Or.inl rfl)
  have ht : ∀ k : Key, k.sig ≠ K.sig → (k ∈ treeInsert K t ↔ k ∈ t) :=
    fun k hk => mem_treeInsert.trans (or_iff_right fun e => hk (e ▸ rfl))
  unfold afterStart needReg
  cases hf : firstHandle t K.sig with
  | none =>
    refine disp_step hd ht (fun _ e => ⟨upd_other _ _ _ _ e, upd_other _ _ _ _ e⟩) ((upd_same ..).trans ?_) sig
    cases ho : K.os
    · exact (expectedDisp_regular hK rfl ho).symm
    · show _ = expectedDisp _ (upd _ _ _) _
      rw [expectedDisp_oneshot hK rfl, upd_same]; rfl
      intro k hk hks
      rcases mem_treeInsert.1 hk with rfl | hk
      · exact ho
      · exact absurd hks (firstHandle_none hs hf k hk)
  | some f =>
    obtain ⟨hft, hfs, hfos⟩ := firstHandle_some hs hf
    by_cases hreg : (!K.os && f.os) = true
    · have ho : K.os = false := by simpa using (Bool.and_eq_true_iff.1 hreg).1
      simp only [hreg, ↓reduceIte]
      refine disp_step hd ht (fun _ e => ⟨upd_other _ _ _ _ e, upd_other _ _ _ _ e⟩) ?_ sig
      exact (upd_same ..).trans (ho ▸ (expectedDisp_regular hK rfl ho).symm)
    · simp only [hreg]
      refine disp_step hd ht (fun _ _ => ⟨rfl, rfl⟩) ?_ sig
      exact (hd _).trans (expectedDisp_absorb (fun k hk => mem_treeInsert.2 (Or.inr hk))
        (fun k hk => mem_treeInsert.1 hk) hft hfs fun hfo => ⟨by simpa [hfo] using hreg, hfos hfo⟩)

end UvModel.Signal
