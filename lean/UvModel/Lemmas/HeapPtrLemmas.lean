import UvModel.HeapPtr
import UvModel.Heap
import UvModel.Lemmas.HeapLemmas
/-! `Rep` relates the pointer memory to the level-order listing `f` of node ids.  A node `f k` is identified by its
position `k` (`Nodes`: the listing is injective) and a `struct heap_node**` by the position whose node it holds
(`slotOf f (t + 1)`), so that every cell after a `heap-inl.h` statement is a function of positions. -/
namespace UvModel.HeapPtr

@[simp] theorem setLeft_left (m : Mem) (a v x : Nat) : (setLeft m a v).left x = if x = a then v else m.left x := rfl
@[simp] theorem setLeft_right (m : Mem) (a v : Nat) : (setLeft m a v).right = m.right := rfl
@[simp] theorem setLeft_parent (m : Mem) (a v : Nat) : (setLeft m a v).parent = m.parent := rfl
@[simp] theorem setRight_right (m : Mem) (a v x : Nat) : (setRight m a v).right x = if x = a then v else m.right x := rfl
@[simp] theorem setRight_left (m : Mem) (a v : Nat) : (setRight m a v).left = m.left := rfl
@[simp] theorem setRight_parent (m : Mem) (a v : Nat) : (setRight m a v).parent = m.parent := rfl
@[simp] theorem setParent_parent (m : Mem) (a v x : Nat) : (setParent m a v).parent x = if x = a then v else m.parent x := rfl
@[simp] theorem setParent_left (m : Mem) (a v : Nat) : (setParent m a v).left = m.left := rfl
@[simp] theorem setParent_right (m : Mem) (a v : Nat) : (setParent m a v).right = m.right := rfl
@[simp] theorem setParentIf_left (m : Mem) (a v : Nat) : (setParentIf m a v).left = m.left := by
  unfold setParentIf; split <;> rfl
@[simp] theorem setParentIf_right (m : Mem) (a v : Nat) : (setParentIf m a v).right = m.right := by
  unfold setParentIf; split <;> rfl
@[simp] theorem setParentIf_parent (m : Mem) (a v x : Nat) :
    (setParentIf m a v).parent x = if a ≠ 0 ∧ x = a then v else m.parent x := by
  unfold setParentIf; by_cases h : a = 0 <;> simp [h]

/-- the `left` cells after heap-inl.h:78-96 in terms of the cells before; `swapBody_right`, `swapBody_parent` likewise -/
theorem swapBody_left (m : Mem) {p c : Nat} (hpc : p ≠ c) (x : Nat) :
    (swapBody m p c).left x =
      if x = c then (if m.left p = c then p else m.left p) else if x = p then m.left c else m.left x := by
  by_cases h : m.left p = c <;> simp [swapBody, setNode, hpc, h] <;> grind

theorem swapBody_right (m : Mem) {p c : Nat} (hpc : p ≠ c) (x : Nat) :
    (swapBody m p c).right x =
      if x = c then (if m.left p = c then m.right p else p) else if x = p then m.right c else m.right x := by
  by_cases h : m.left p = c <;> simp [swapBody, setNode, hpc, h] <;> grind

theorem swapBody_parent (m : Mem) {p c : Nat} (hpc : p ≠ c) (x : Nat) :
    (swapBody m p c).parent x =
      let sib := if m.left p = c then m.right p else m.left p
      if m.right c ≠ 0 ∧ x = m.right c then p
      else if m.left c ≠ 0 ∧ x = m.left c then p
      else if sib ≠ 0 ∧ x = sib then c
      else if x = p then c
      else if x = c then m.parent p
      else m.parent x := by
  by_cases h : m.left p = c <;> simp [swapBody, setNode, hpc, h] <;> grind

/-- `f` lists `n` distinct non-NULL nodes and is NULL from `n` on: the part of `Rep` that does not look at the memory -/
structure Nodes (f : Nat → Nat) (n : Nat) : Prop where
  live : ∀ i, i < n → f i ≠ 0
  dead : ∀ i, n ≤ i → f i = 0
  inj : ∀ i j, i < n → j < n → f i = f j → i = j

/-- the abstraction: `f i` is the node at level-order position `i` of a complete tree with `n` nodes -/
structure Rep (s : St) (f : Nat → Nat) (n : Nat) : Prop where
  nelts : s.nelts = n
  min : s.min = f 0
  live : ∀ i, i < n → f i ≠ 0
  dead : ∀ i, n ≤ i → f i = 0
  inj : ∀ i j, i < n → j < n → f i = f j → i = j
  left : ∀ i, i < n → s.m.left (f i) = f (2 * i + 1)
  right : ∀ i, i < n → s.m.right (f i) = f (2 * i + 2)
  parent : ∀ i, i < n → s.m.parent (f i) = if i = 0 then 0 else f ((i - 1) / 2)

variable {s : St} {f : Nat → Nat} {n : Nat}

theorem Rep.nodes (h : Rep s f n) : Nodes f n := ⟨h.live, h.dead, h.inj⟩

/-- `heap_init` yields the empty heap -/
theorem rep_init (s : St) : Rep (init s) (fun _ => 0) 0 :=
  ⟨rfl, rfl, nofun, fun _ _ => rfl, nofun, nofun, nofun, nofun⟩

namespace Nodes
variable (h : Nodes f n)
include h

theorem eq_iff {a b : Nat} (ha : a < n) : f a = f b ↔ a = b := by
  refine ⟨fun e => ?_, fun e => e ▸ rfl⟩
  by_cases hb : b < n
  · exact h.inj a b ha hb e
  · exact absurd (e.trans (h.dead b (Nat.le_of_not_lt hb))) (h.live a ha)

theorem eq_zero_iff (a : Nat) : f a = 0 ↔ n ≤ a :=
  ⟨fun e => Nat.le_of_not_lt fun c => h.live a c e, h.dead a⟩

theorem ne {a b : Nat} (ha : a < n) (hab : a ≠ b) : f a ≠ f b :=
  fun e => hab ((h.eq_iff ha).1 e)

theorem eq_iff' {a b : Nat} (hb : b < n) : f a = f b ↔ a = b := by
  rw [eq_comm, h.eq_iff hb, eq_comm]

/-- the test `y != NULL && x == y` of the node at position `a` against a cell that holds position `b` -/
theorem nonzero_and_eq_iff {a : Nat} (ha : a < n) (b : Nat) : (f b ≠ 0 ∧ a = b) ↔ a = b :=
  ⟨fun e => e.2, fun e => e ▸ ⟨h.live a ha, rfl⟩⟩

end Nodes

def upd (f : Nat → Nat) (i v : Nat) : Nat → Nat := fun k => if k = i then v else f k

theorem upd_same (f : Nat → Nat) (i v : Nat) : upd f i v i = v := if_pos rfl
theorem upd_ne {i k v : Nat} (h : k ≠ i) : upd f i v k = f k := if_neg h

theorem Nodes.of_upd {t v n' : Nat} (h : Nodes f n) (hn : ∀ k, k ≠ t → (k < n' ↔ k < n))
    (ht : t < n' ↔ v ≠ 0) (hv : ∀ k, k < n → f k ≠ v) : Nodes (upd f t v) n' := by
  refine ⟨fun i hi => ?_, fun i hi => ?_, fun i j hi hj e => ?_⟩
  · by_cases hit : i = t
    · rw [hit, upd_same]; exact ht.1 (hit ▸ hi)
    · rw [upd_ne hit]; exact h.live i ((hn i hit).1 hi)
  · by_cases hit : i = t
    · rw [hit, upd_same]; exact Classical.not_not.1 (mt ht.2 (Nat.not_lt.2 (hit ▸ hi)))
    · rw [upd_ne hit]; exact h.dead i (Nat.le_of_not_lt (mt (hn i hit).2 (Nat.not_lt.2 hi)))
  · by_cases hit : i = t
    · by_cases hjt : j = t
      · rw [hit, hjt]
      · rw [hit, upd_same, upd_ne hjt] at e; exact absurd e.symm (hv j ((hn j hjt).1 hj))
    · by_cases hjt : j = t
      · rw [hjt, upd_same, upd_ne hit] at e; exact absurd e (hv i ((hn i hit).1 hi))
      · rw [upd_ne hit, upd_ne hjt] at e; exact h.inj i j ((hn i hit).1 hi) ((hn j hjt).1 hj) e

/-- below position `t` the parent positions are below `t` too -/
theorem parent_upd {k t v : Nat} (h : k ≤ t) :
    (if k = 0 then 0 else upd f t v ((k - 1) / 2)) = if k = 0 then 0 else f ((k - 1) / 2) := by
  split
  · rfl
  · rename_i hk
    exact upd_ne (Nat.ne_of_lt (Nat.lt_of_lt_of_le (Heap.parent_lt (Nat.pos_of_ne_zero hk)) h))

/-- the lvalue holding the node at 1-based position `q`: `&heap->min` for the root, else the `left` /
`right` cell of the node at position `q / 2` -/
def slotOf (f : Nat → Nat) (q : Nat) : Slot :=
  if q ≤ 1 then Slot.root else if q % 2 = 1 then Slot.r (f (q / 2 - 1)) else Slot.l (f (q / 2 - 1))

theorem store_left (s : St) (sl : Slot) (v x : Nat) :
    (store s sl v).m.left x = if sl = .l x then v else s.m.left x := by
  cases sl <;> simp [store, eq_comm]

theorem store_right (s : St) (sl : Slot) (v x : Nat) :
    (store s sl v).m.right x = if sl = .r x then v else s.m.right x := by
  cases sl <;> simp [store, eq_comm]

theorem store_parent (s : St) (sl : Slot) (v : Nat) : (store s sl v).m.parent = s.m.parent := by
  cases sl <;> rfl

theorem store_nelts (s : St) (sl : Slot) (v : Nat) : (store s sl v).nelts = s.nelts := by
  cases sl <;> rfl

theorem store_min (s : St) (sl : Slot) (v : Nat) : (store s sl v).min = if sl = .root then v else s.min := by
  cases sl <;> simp [store]

/-- `slotOf` counts positions from 1: `slotOf f (t + 1)` is the lvalue of the 0-based position `t` used everywhere else -/
theorem slotOf_left (f : Nat → Nat) (k : Nat) : slotOf f (2 * k + 1 + 1) = .l (f k) := by
  show slotOf f (2 * k + 2) = _
  simp [slotOf]

theorem slotOf_right (f : Nat → Nat) (k : Nat) : slotOf f (2 * k + 2 + 1) = .r (f k) := by
  show slotOf f (2 * k + 3) = _
  simp [slotOf, show (2 * k + 3) / 2 - 1 = k by omega]

theorem pos_cases (t : Nat) : t = 0 ∨ ∃ k, t = 2 * k + 1 ∨ t = 2 * k + 2 := by
  by_cases h : t = 0
  · exact .inl h
  · exact .inr ⟨(t - 1) / 2, by omega⟩

theorem slotOf_eq_root (f : Nat → Nat) (t : Nat) : slotOf f (t + 1) = .root ↔ 0 = t := by
  rcases pos_cases t with rfl | ⟨k, rfl | rfl⟩
  · simp [slotOf]
  · simp [slotOf_left]
  · simp [slotOf_right]

theorem Nodes.slotOf_eq_l {k : Nat} (h : Nodes f n) (hk : k < n) (t : Nat) :
    slotOf f (t + 1) = .l (f k) ↔ 2 * k + 1 = t := by
  rcases pos_cases t with rfl | ⟨k', rfl | rfl⟩
  · simp [slotOf]
  · simp [slotOf_left, h.eq_iff hk, eq_comm]; omega
  · simp [slotOf_right]; omega

theorem Nodes.slotOf_eq_r {k : Nat} (h : Nodes f n) (hk : k < n) (t : Nat) :
    slotOf f (t + 1) = .r (f k) ↔ 2 * k + 2 = t := by
  rcases pos_cases t with rfl | ⟨k', rfl | rfl⟩
  · simp [slotOf]
  · simp [slotOf_left]; omega
  · simp [slotOf_right, h.eq_iff hk, eq_comm]; omega

theorem slotOf_ne {x : Nat} (hx : ∀ k, f k ≠ x) (t : Nat) :
    slotOf f (t + 1) ≠ .l x ∧ slotOf f (t + 1) ≠ .r x := by
  rcases pos_cases t with rfl | ⟨k, rfl | rfl⟩
  · simp [slotOf]
  · simp [slotOf_left, hx]
  · simp [slotOf_right, hx]

/-- heap-inl.h:98-103 / 208-214: the pointer that held `old` (`heap->min`, or the cell of the parent `pp`
that holds it) is set to `new` -/
def relink (s : St) (m : Mem) (pp old new : Nat) : St :=
  if pp = 0 then { s with m := m, min := new }
  else if m.left pp = old then { s with m := setLeft m pp new }
  else { s with m := setRight m pp new }

/-- when `old` sits at position `i`, that pointer is the lvalue of position `i` -/
theorem relink_eq_store {i pp old : Nat} (hN : Nodes f n) (hi : i < n) (s : St) (m : Mem) (new : Nat)
    (hpp : pp = if i = 0 then 0 else f ((i - 1) / 2))
    (hl : ∀ p, p < i → i = 2 * p + 1 → m.left (f p) = old) (hr : ∀ p, p < i → i = 2 * p + 2 → m.left (f p) ≠ old) :
    relink s m pp old new = store { s with m := m } (slotOf f (i + 1)) new := by
  subst hpp
  rcases pos_cases i with rfl | ⟨p, rfl | rfl⟩
  · rfl
  · have hpi : p < 2 * p + 1 := by omega
    rw [slotOf_left, Heap.parent_left]
    simp only [relink, Nat.add_one_ne_zero, if_false, if_neg (hN.live p (Nat.lt_trans hpi hi)), if_pos (hl p hpi rfl)]
    rfl
  · have hpi : p < 2 * p + 2 := by omega
    rw [slotOf_right, Heap.parent_right]
    simp only [relink, Nat.add_one_ne_zero, if_false, if_neg (hN.live p (Nat.lt_trans hpi hi)), if_neg (hr p hpi rfl)]
    rfl

theorem store_nelts_eq (s : St) (sl : Slot) (v k : Nat) :
    { store s sl v with nelts := k } = store { s with nelts := k } sl v := by
  cases sl <;> rfl

/-- position `t` gets the node `v` (NULL to drop it): storing `v` in the lvalue of position `t` yields the tree
listed by `upd f t v`, given the cells of `v` and the parent cells of its children are already in place -/
theorem store_upd_rep {n' t v : Nat} (hN : Nodes f n)
    (hn : ∀ k, k ≠ t → (k < n' ↔ k < n)) (ht : t < n' ↔ v ≠ 0) (hfresh : ∀ k, k < n → f k ≠ v)
    (hnel : s.nelts = n') (hmin : s.min = f 0)
    (hL : ∀ k, k < n → k ≠ t → s.m.left (f k) = f (2 * k + 1))
    (hR : ∀ k, k < n → k ≠ t → s.m.right (f k) = f (2 * k + 2))
    (hP : ∀ k, k < n → k ≠ t → s.m.parent (f k) = if k = 0 then 0 else upd f t v ((k - 1) / 2))
    (hv : t < n' → s.m.left v = f (2 * t + 1) ∧ s.m.right v = f (2 * t + 2) ∧
      s.m.parent v = if t = 0 then 0 else f ((t - 1) / 2)) :
    Rep (store s (slotOf f (t + 1)) v) (upd f t v) n' := by
  have hN' := hN.of_upd hn ht hfresh
  have hx : t < n' → ∀ j, f j ≠ v := fun h j e =>
    (Nat.lt_or_ge j n).elim (fun hj => hfresh j hj e) fun hj => ht.1 h (e ▸ hN.dead j hj)
  refine ⟨(store_nelts ..).trans hnel, ?_, hN'.live, hN'.dead, hN'.inj, fun k hk => ?_, fun k hk => ?_, fun k hk => ?_⟩
  · simp only [store_min, slotOf_eq_root]; exact congrArg _ hmin
  · by_cases hkt : k = t
    · subst hkt
      rw [upd_same, store_left, if_neg (slotOf_ne (hx hk) k).1, (hv hk).1, upd_ne (by omega)]
    · have hk' := (hn k hkt).1 hk
      simp only [upd_ne hkt, store_left, hN.slotOf_eq_l hk', hL k hk' hkt]; rfl
  · by_cases hkt : k = t
    · subst hkt
      rw [upd_same, store_right, if_neg (slotOf_ne (hx hk) k).2, (hv hk).2.1, upd_ne (by omega)]
    · have hk' := (hn k hkt).1 hk
      simp only [upd_ne hkt, store_right, hN.slotOf_eq_r hk', hR k hk' hkt]; rfl
  · by_cases hkt : k = t
    · subst hkt
      rw [upd_same, store_parent, (hv hk).2.2, parent_upd (Nat.le_refl k)]
    · rw [upd_ne hkt, store_parent, hP k ((hn k hkt).1 hk) hkt]

/-- the array with positions `i` and `j` exchanged -/
def exchange (f : Nat → Nat) (i j : Nat) : Nat → Nat := fun k => if k = i then f j else if k = j then f i else f k

/-- the transposition of positions `i` and `j` -/
def tr (i j k : Nat) : Nat := if k = i then j else if k = j then i else k

theorem exchange_eq (i j k : Nat) : exchange f i j k = f (tr i j k) := by
  unfold exchange tr; split
  · rfl
  · split <;> rfl

theorem exchange_fst (i j : Nat) : exchange f i j i = f j := if_pos rfl

theorem tr_lt {i j : Nat} (hi : i < n) (hj : j < n) (k : Nat) : tr i j k < n ↔ k < n := by
  unfold tr; split
  · rename_i e; exact iff_of_true hj (e ▸ hi)
  · split
    · rename_i e; exact iff_of_true hi (e ▸ hj)
    · exact Iff.rfl

theorem tr_tr (i j k : Nat) : tr i j (tr i j k) = k := by
  unfold tr; grind

theorem nodes_exchange {i j : Nat} (h : Nodes f n) (hi : i < n) (hj : j < n) :
    Nodes (exchange f i j) n := by
  have ht := tr_lt hi hj
  refine ⟨fun k hk => ?_, fun k hk => ?_, fun a b ha hb e => ?_⟩
  · rw [exchange_eq]; exact h.live _ ((ht k).2 hk)
  · rw [exchange_eq]; exact h.dead _ (Nat.le_of_not_lt (mt (ht k).1 (Nat.not_lt.2 hk)))
  · rw [exchange_eq, exchange_eq, h.eq_iff ((ht a).2 ha)] at e
    rw [← tr_tr i j a, e, tr_tr]

theorem lt_of_child {i j : Nat} (hc : j = 2 * i + 1 ∨ j = 2 * i + 2) : i < j := by omega

section swap
variable {i j : Nat} (h : Rep s f n) (hi : i < n) (hj : j < n)
  (hc : j = 2 * i + 1 ∨ j = 2 * i + 2)
include h hi hj hc

/-- the `left` cell, after heap-inl.h:78-96, of the node that ends up at position `k`: it is wrong only in the parent
of `i`, which still points at `f i` (lines 98-103 repair that) -/
theorem swapBody_left_pos (k : Nat) (hk : k < n) :
    (swapBody s.m (f i) (f j)).left (exchange f i j k) =
      if 2 * k + 1 = i then f i else exchange f i j (2 * k + 1) := by
  have hN := h.nodes
  have ht := (tr_lt hi hj k).2 hk
  rw [swapBody_left _ (h.nodes.ne hi (Nat.ne_of_lt (lt_of_child hc))), h.left i hi, h.left j hj]
  simp only [exchange_eq, hN.eq_iff ht, hN.eq_iff' hj, h.left _ ht]
  unfold tr
  grind

theorem swapBody_right_pos (k : Nat) (hk : k < n) :
    (swapBody s.m (f i) (f j)).right (exchange f i j k) =
      if 2 * k + 2 = i then f i else exchange f i j (2 * k + 2) := by
  have hN := h.nodes
  have ht := (tr_lt hi hj k).2 hk
  rw [swapBody_right _ (h.nodes.ne hi (Nat.ne_of_lt (lt_of_child hc))), h.left i hi, h.right i hi, h.right j hj]
  simp only [exchange_eq, hN.eq_iff ht, hN.eq_iff' hj, h.right _ ht]
  unfold tr
  grind

theorem swapBody_parent_pos (k : Nat) (hk : k < n) :
    (swapBody s.m (f i) (f j)).parent (exchange f i j k) =
      if k = 0 then 0 else exchange f i j ((k - 1) / 2) := by
  have hN := h.nodes
  have hij := lt_of_child hc
  -- `j'` is the sibling of `j`; the cells written are the parent cells of `f i`, `f j`, `f j'` and of the children of `f j`,
  -- so `k` is compared with `i`, `j`, `j'`, `2j+1`, `2j+2`: arithmetic on the transposition, left to `grind`
  obtain ⟨j', hj'⟩ : ∃ j', j + j' = 4 * i + 3 := ⟨4 * i + 3 - j, by omega⟩
  have hs : (if f (2 * i + 1) = f j then f (2 * i + 2) else f (2 * i + 1)) = f j' := by
    rcases hc with rfl | rfl
    · rw [if_pos rfl]; congr 1; omega
    · rw [if_neg (hN.ne (by omega) (by omega))]; congr 1; omega
  have ht := (tr_lt hi hj k).2 hk
  rw [swapBody_parent _ (h.nodes.ne hi (Nat.ne_of_lt (lt_of_child hc))), h.left i hi, h.right i hi, h.left j hj, h.right j hj,
    h.parent i hi]
  simp only [hs, exchange_eq, hN.eq_iff ht, hN.nonzero_and_eq_iff ht, h.parent _ ht]
  clear hs ht hN h
  unfold tr
  grind

end swap

theorem swap_eq_relink (s : St) (p c : Nat) :
    swap s p c = relink s (swapBody s.m p c) ((swapBody s.m p c).parent c) p c := rfl

/-- heap_node_swap(heap, parent, child) on a represented heap: positions `i` (parent) and `j` (its left or
right child) are exchanged, every other position keeps its node -/
theorem swap_rep {n i j : Nat} (h : Rep s f n) (hj : j < n)
    (hc : j = 2 * i + 1 ∨ j = 2 * i + 2) : Rep (swap s (f i) (f j)) (exchange f i j) n := by
  have hN := h.nodes
  have hij := lt_of_child hc
  have hi := Nat.lt_trans hij hj
  have hN' := nodes_exchange hN hi hj
  have bl := swapBody_left_pos h hi hj hc
  have br := swapBody_right_pos h hi hj hc
  have bp := swapBody_parent_pos h hi hj hc
  -- lines 98-103 store the child into the lvalue of position `i`
  have e : swap s (f i) (f j) =
      store { s with m := swapBody s.m (f i) (f j) } (slotOf (exchange f i j) (i + 1)) (f j) := by
    rw [swap_eq_relink]
    refine relink_eq_store hN' hi s _ (f j) ?_ (fun p hpi hp => ?_) (fun p hpi hp => ?_)
    · have := bp i hi; rwa [exchange_fst] at this
    · rw [bl p (Nat.lt_trans hpi hi), if_pos hp.symm]
    · have h1 : 2 * p + 1 < i := by omega
      rw [bl p (Nat.lt_trans hpi hi), if_neg (Nat.ne_of_lt h1), exchange, if_neg (Nat.ne_of_lt h1),
        if_neg (Nat.ne_of_lt (Nat.lt_trans h1 hij))]
      exact hN.ne (Nat.lt_trans h1 hi) (Nat.ne_of_lt h1)
  rw [e]
  refine ⟨(store_nelts ..).trans h.nelts, ?_, hN'.live, hN'.dead, hN'.inj, ?_, ?_, ?_⟩
  · simp only [store_min, slotOf_eq_root, exchange]
    rw [if_neg (Nat.ne_of_lt (Nat.lt_of_le_of_lt (Nat.zero_le i) hij))]; exact congrArg _ h.min
  · intro k hk
    simp only [store_left, hN'.slotOf_eq_l hk, bl k hk]
    split
    · rename_i e; rw [← e, exchange_fst]
    · rfl
  · intro k hk
    simp only [store_right, hN'.slotOf_eq_r hk, br k hk]
    split
    · rename_i e; rw [← e, exchange_fst]
    · rfl
  · intro k hk; rw [store_parent]; exact bp k hk

/-- 1-based level-order position reached from position `q` by consuming `k` bits of `path`, least
significant first: bit 0 = go to the left child (`2q`), bit 1 = right child (`2q+1`) -/
def reach : Nat → Nat → Nat → Nat
  | q, 0, _ => q
  | q, k + 1, path => reach (2 * q + path % 2) k (path / 2)

theorem bitstep (path n : Nat) : (path <<< 1) ||| (n &&& 1) = 2 * path + n % 2 := by
  rw [Nat.and_one_is_mod, ← Nat.shiftLeft_add_eq_or_of_lt (i := 1) (by omega), Nat.shiftLeft_eq]; omega

theorem reach_push (q k path : Nat) {b : Nat} (hb : b < 2) :
    reach q (k + 1) (2 * path + b) = reach (2 * q + b) k path := by
  rw [reach, Nat.mul_add_mod, Nat.mod_eq_of_lt hb, Nat.mul_add_div Nat.zero_lt_two, Nat.div_eq_of_lt hb, Nat.add_zero]

theorem pathLoop_reach (N : Nat) : ∀ fuel n k path, 1 ≤ n → n ≤ fuel → reach n k path = N →
    reach 1 (pathLoop fuel n k path).1 (pathLoop fuel n k path).2 = N := by
  intro fuel
  induction fuel with
  | zero => intro n k path h1 h2; omega
  | succ fuel ih =>
    intro n k path h1 h2 hr
    unfold pathLoop
    by_cases hn : n ≥ 2
    · rw [if_pos hn]
      apply ih (n / 2) (k + 1) _ (by omega) (by omega)
      rw [bitstep, reach_push _ _ _ (Nat.mod_lt n Nat.zero_lt_two), Nat.div_add_mod, hr]
    · rw [if_neg hn, ← hr, Nat.le_antisymm (Nat.le_of_lt_succ (Nat.lt_of_not_le hn)) h1]

theorem reach_ge : ∀ k q path, q ≤ reach q k path := by
  intro k
  induction k with
  | zero => intro q path; simp [reach]
  | succ k ih => intro q path; rw [reach]; have := ih (2 * q + path % 2) (path / 2); omega

theorem deref_slotOf (h : Rep s f n) (t : Nat)
    (ht : t = 0 ∨ (t - 1) / 2 < n) : deref s (slotOf f (t + 1)) = f t := by
  rcases pos_cases t with rfl | ⟨k, rfl | rfl⟩
  · exact h.min
  · rw [slotOf_left]; exact h.left k (by simpa using ht)
  · rw [slotOf_right]; exact h.right k (Heap.parent_right k ▸ ht.resolve_left (Nat.succ_ne_zero _))

/-- one step of the walk: `&(*child)->right` / `&(*child)->left` from the lvalue of 1-based position `t + 1` -/
theorem slotOf_child (f : Nat → Nat) (t : Nat) : ∀ b, b < 2 →
    (if b ≠ 0 then Slot.r (f t) else Slot.l (f t)) = slotOf f (2 * (t + 1) + b)
  | 0, _ => (slotOf_left f t).symm
  | 1, _ => (slotOf_right f t).symm

/-- the walk of heap-inl.h:127-136 follows `reach`: from the slot of position `q` it ends on the slot of
position `reach q k path`, with `parent` the slot of that position's parent (if any step was taken) -/
theorem walk_slot (h : Rep s f n) : ∀ k path q ps, 1 ≤ q →
    (k = 0 ∨ reach q k path / 2 ≤ n) →
    walk s k path ps (slotOf f q) =
      (if k = 0 then ps else slotOf f (reach q k path / 2), slotOf f (reach q k path)) := by
  intro k
  induction k with
  | zero => intro path q ps _ _; rfl
  | succ k ih =>
    intro path q ps hq hr
    obtain ⟨t, rfl⟩ : ∃ t, q = t + 1 := ⟨q - 1, by omega⟩
    have hr : reach (2 * (t + 1) + path % 2) k (path / 2) / 2 ≤ n := hr.resolve_left (Nat.succ_ne_zero k)
    have hge := reach_ge k (2 * (t + 1) + path % 2) (path / 2)
    have hb := Nat.mod_lt path Nat.zero_lt_two
    have hd := deref_slotOf h t (.inr (Heap.parent_lt_of_lt (show t < n by omega)))
    rw [walk, hd, Nat.and_one_is_mod, slotOf_child f t _ hb, Nat.shiftRight_eq_div_pow, Nat.pow_one,
      ih (path / 2) _ (slotOf f (t + 1)) (by omega) (Or.inr hr), reach, if_neg (Nat.succ_ne_zero k)]
    by_cases hk : k = 0
    · subst hk; rw [if_pos rfl, reach, Nat.mul_add_div Nat.zero_lt_two, Nat.div_eq_of_lt hb, Nat.add_zero]
    · rw [if_neg hk]
end UvModel.HeapPtr
