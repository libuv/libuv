import UvModel.Lemmas.LoopPollBound
/-!
  Phase order of a whole `uv_run`: the new part of the trace, oldest first, is an initial timer segment
  (callbacks of phase `timers0` only, and none at all unless `initialTimers`) followed by one segment per
  loop iteration, each with its callback phases in order and none of phase `timers0`.
-/
namespace UvModel.Loop.Phases
open UvModel.Loop UvModel.HandleKernels

/-- the events (oldest first) of one loop iteration: callback phases in order, none of the initial timer pass -/
def IterSeg (seg : List Event) : Prop :=
  (phasesOf seg).Pairwise (fun a b => a.ctorIdx ≤ b.ctorIdx) ∧ Phase.timers0 ∉ phasesOf seg

/-- `s` is reached from `s0` by whole iterations -/
def Iters (s0 s : State) : Prop :=
  ∃ segs : List (List Event), s.trace.reverse = s0.trace.reverse ++ segs.flatten ∧ ∀ seg ∈ segs, IterSeg seg

theorem Iters.refl (s : State) : Iters s s := ⟨[], by simp, by simp⟩

theorem mem_phasesOf_reverse {p : Phase} {l : List Event} : p ∈ phasesOf l.reverse ↔ p ∈ phasesOf l := by
  rw [phasesOf_reverse, List.mem_reverse]

theorem Iters.iteration {s0 s : State} (sc : Script) (mode : Mode) (h : Iters s0 s) : Iters s0 (iteration sc mode s) := by
  obtain ⟨segs, ht, hs⟩ := h
  obtain ⟨new, hn, hp, hr⟩ := iteration_mono sc mode s
  refine ⟨segs ++ [new.reverse], ?_, ?_⟩
  · rw [hn, List.reverse_append, ht]
    simp [List.append_assoc]
  · intro seg hseg
    rcases List.mem_append.1 hseg with h1 | h1
    · exact hs seg h1
    · rw [List.mem_singleton.1 h1]
      refine ⟨hp, ?_⟩
      intro hm
      have := (hr _ (mem_phasesOf_reverse.1 hm)).1
      revert this
      decide

theorem runLoop_iters (sc : Script) (mode : Mode) (s0 : State) (fuel : Nat) (s : State) (r : Bool) (hi : Iters s0 s) :
    ∀ s' r', runLoop sc mode fuel s r = some (s', r') → Iters s0 s' := by
  fun_induction runLoop sc mode fuel s r with
  | case1 => intro _ _ h; cases h
  | case2 => intro _ _ h; cases h; exact hi
  | case3 => intro _ _ h; cases h; exact hi.iteration sc mode
  | case4 => rename_i ih; exact ih (hi.iteration sc mode)

/-- the new part of the trace of a whole `uv_run`, oldest first -/
theorem uvRun_trace (sc : Script) (mode : Mode) (fuel : Nat) (s s' : State) (r : Bool)
    (h : uvRun sc mode fuel s = some (s', r)) :
    ∃ (seg0 : List Event) (segs : List (List Event)),
      s'.trace.reverse = s.trace.reverse ++ seg0 ++ segs.flatten ∧
      (∀ p ∈ phasesOf seg0, p = Phase.timers0) ∧
      (initialTimers mode (alive s) s.stop = false → phasesOf seg0 = []) ∧
      ∀ seg ∈ segs, IterSeg seg := by
  unfold uvRun at h
  simp only at h
  have h0 : (if !alive s then updateTime s else s).trace = s.trace ∧ (if !alive s then updateTime s else s).stop = s.stop := by
    split <;> exact ⟨rfl, rfl⟩
  generalize (if !alive s then updateTime s else s) = sa at h h0
  obtain ⟨ta, sta⟩ := h0
  rw [sta] at h
  have h1 : ∃ seg0, (if initialTimers mode (alive s) s.stop then runTimers sc .timers0 (updateTime sa) else sa).trace.reverse =
      s.trace.reverse ++ seg0 ∧ (∀ p ∈ phasesOf seg0, p = Phase.timers0) ∧
      (initialTimers mode (alive s) s.stop = false → phasesOf seg0 = []) := by
    split
    · rename_i hit
      obtain ⟨new, hn, hp, _⟩ := (runTimers_reach sc .timers0 (updateTime sa)).ext
      refine ⟨new.reverse, ?_, ?_, ?_⟩
      · rw [hn, List.reverse_append]
        show sa.trace.reverse ++ _ = _
        rw [ta]
      · intro p hm
        obtain ⟨k, i, a, b, he⟩ := mem_phasesOf.1 (mem_phasesOf_reverse.1 hm)
        exact hp _ he
      · intro hf; rw [hf] at hit; exact absurd hit (by simp)
    · exact ⟨[], by simp [ta], by simp [phasesOf], fun _ => rfl⟩
  generalize (if initialTimers mode (alive s) s.stop then runTimers sc .timers0 (updateTime sa) else sa) = sb at h h1
  obtain ⟨seg0, tb, p0, e0⟩ := h1
  cases hr : runLoop sc mode fuel sb (alive s) with
  | none => simp [hr] at h
  | some p =>
    simp only [hr, Option.some.injEq, Prod.mk.injEq] at h
    obtain ⟨segs, ht, hs⟩ := runLoop_iters sc mode sb fuel sb (alive s) (Iters.refl sb) p.1 p.2 (by simp [hr])
    refine ⟨seg0, segs, ?_, p0, e0, hs⟩
    rw [← h.1]
    show p.1.trace.reverse = _
    rw [ht, tb]

end UvModel.Loop.Phases
