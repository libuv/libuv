import UvModel.Wtf8
import UvModel.Lemmas.BitArith
/-!
  WTF-8 ⇄ UTF-16: both converters are compared with `encU`, the WTF-8 form of a unit list as a pure
  function.
-/
namespace UvModel.Wtf8
open UvModel.Bits

/-- a trailing byte `10xxxxxx` passes the checks of idna.c:43, :50, :57 -/
theorem cont_c0 {x : Nat} (h : x < 64) : (128 + x) &&& 0xC0 = 0x80 := by
  rw [Nat.and_comm, and_c0]; omega
theorem cont_3f {x : Nat} (h : x < 64) : (128 + x) &&& 0x3F = x := by
  rw [and63]; omega

theorem orC0 (x : Nat) (h : x < 64) : 0xC0 ||| x = 192 + x := shl_or 3 6 x h
theorem orE0 (x : Nat) (h : x < 32) : 0xE0 ||| x = 224 + x := shl_or 7 5 x h
theorem orF0 (x : Nat) (h : x < 16) : 0xF0 ||| x = 240 + x := shl_or 15 4 x h

theorem encode_eq_digits (cp : Nat) (h : cp < 0x110000) : encode cp =
    if cp < 0x80 then [cp]
    else if cp < 0x800 then [192 + cp / 64, 128 + cp % 64]
    else if cp < 0x10000 then [224 + cp / 4096, 128 + cp / 64 % 64, 128 + cp % 64]
    else [240 + cp / 262144, 128 + cp / 4096 % 64, 128 + cp / 64 % 64, 128 + cp % 64] := by
  unfold encode
  simp only [and63, Nat.shiftRight_eq_div_pow]
  split
  · rfl
  · split
    · rw [orC0 _ (by omega), or80 _ (by omega)]
    · split
      · rw [orE0 _ (by omega), or80 _ (by omega), or80 _ (by omega)]
      · rw [orF0 _ (by omega), or80 _ (by omega), or80 _ (by omega), or80 _ (by omega)]

theorem decode1_encode (cp : Nat) (h : cp < 0x110000) (tail : List Nat) :
    decode1 (encode cp ++ tail) = (some cp, (encode cp).length - 1) := by
  have hx : cp / 4096 % 64 < 64 := Nat.mod_lt _ (by decide)
  have hy : cp / 64 % 64 < 64 := Nat.mod_lt _ (by decide)
  have hz : cp % 64 < 64 := Nat.mod_lt _ (by decide)
  rw [encode_eq_digits cp h]
  repeat' split
  all_goals simp only [List.cons_append, List.nil_append, List.length_cons, List.length_nil, decode1,
    List.headD_cons, List.drop_succ_cons, List.drop_zero, cont_c0 hx, cont_3f hx, cont_c0 hy, cont_3f hy,
    cont_c0 hz, cont_3f hz, shl_or _ 6 _ hx, shl_or _ 6 _ hy, shl_or _ 6 _ hz, ne_eq, not_true_eq_false,
    if_false]
  · rw [if_pos (by omega)]
  · rw [if_neg (by omega), if_neg (by omega), if_pos (by omega), Nat.and_comm,
      Nat.and_two_pow_sub_one_eq_mod _ 11]
    congr 2
    omega
  · rw [if_neg (by omega), if_neg (by omega), if_neg (by omega), if_pos (by omega), Nat.and_comm,
      Nat.and_two_pow_sub_one_eq_mod _ 16]
    congr 2
    omega
  · rw [if_neg (by omega), if_neg (by omega), if_neg (by omega), if_neg (by omega),
      Nat.and_two_pow_sub_one_eq_mod _ 21]
    generalize hw : _ % 2 ^ 21 = w
    obtain rfl : w = cp := by omega
    rw [if_pos ⟨by omega, by omega⟩]

theorem lengthAsUtf16_eq_toUtf16 (l : List Nat) (acc : Nat) :
    lengthAsUtf16 l acc = (toUtf16 l).map (fun us => acc + us.length) := by
  fun_induction lengthAsUtf16 l acc with
  | case1 l acc n hd => rw [toUtf16, hd]; rfl
  | case2 l acc cp adv hd acc' hnz ih =>
    rw [toUtf16, hd]
    simp only [dif_pos hnz, ih, Option.map_map]
    congr 1; funext us
    simp only [Function.comp, List.length_append, acc']
    split <;> simp <;> omega
  | case3 l acc cp adv hd acc' hz =>
    rw [toUtf16, hd]
    simp only [dif_neg hz, Option.map_some, acc']
    split <;> simp

/-- WTF-8 encoding of a UTF-16 unit list as a pure function: surrogate pairs are combined, every
    other unit (unpaired surrogates included) is encoded on its own -/
def encU : List Nat → List Nat
  | [] => []
  | [u] => encode u
  | u :: next :: rest =>
    if isHi u ∧ isLo next then encode (pairValue u next) ++ encU rest
    else encode u ++ encU (next :: rest)

/-- units are non-zero 16-bit values -/
def Units (u : List Nat) : Prop := ∀ x ∈ u, 0 < x ∧ x < 65536

theorem units_cons {x : Nat} {l : List Nat} (h : Units (x :: l)) : (0 < x ∧ x < 65536) ∧ Units l :=
  ⟨h x (by simp), fun y hy => h y (by simp [hy])⟩

theorem pairValue_bounds (u n : Nat) (h : isHi u ∧ isLo n) :
    0x10000 ≤ pairValue u n ∧ pairValue u n < 0x110000 ∧
    (pairValue u n - 0x10000) / 1024 + 0xD800 = u ∧ (pairValue u n - 0x10000) % 1024 + 0xDC00 = n := by
  unfold pairValue isHi isLo at *
  rw [Nat.shiftLeft_eq]
  omega

theorem encode_len (cp : Nat) : 1 ≤ (encode cp).length ∧ (0x10000 ≤ cp → (encode cp).length = 4) := by
  unfold encode
  split
  · exact ⟨Nat.le_refl 1, fun _ => by omega⟩
  · split
    · exact ⟨Nat.le_add_left 1 _, fun _ => by omega⟩
    · split
      · exact ⟨Nat.le_add_left 1 _, fun _ => by omega⟩
      · exact ⟨Nat.le_add_left 1 _, fun _ => rfl⟩

theorem lengthAsWtf8_eq_encU (z : Bool) (u : List Nat) (hu : Units u) :
    lengthAsWtf8 z u = (encU u).length := by
  fun_induction lengthAsWtf8 z u with
  | case1 => rfl
  | case2 u hz => exact absurd hz.2 (by have := (units_cons hu).1; omega)
  | case3 u hz => rfl
  | case4 u next rest hz => exact absurd hz.2 (by have := (units_cons hu).1; omega)
  | case5 u next rest hz hp ih =>
    rw [encU, if_pos hp, List.length_append, (encode_len _).2 (pairValue_bounds u next hp).1,
      ih (units_cons (units_cons hu).2).2]
  | case6 u next rest hz hp ih =>
    rw [encU, if_neg hp, List.length_append, ih (units_cons hu).2]

/-- one step of `encU` in the terms `pair`, `cp` and the recursive call of `toWtf8Loop` -/
theorem encU_step (u : Nat) (rest : List Nat) :
    encU (u :: rest) =
      encode (if (match rest with | next :: _ => decide (isHi u ∧ isLo next) | [] => false) = true
          then pairValue u (rest.headD 0) else u) ++
        encU (if (match rest with | next :: _ => decide (isHi u ∧ isLo next) | [] => false) = true
          then rest.drop 1 else rest) := by
  match rest with
  | [] => simp [encU]
  | next :: r => by_cases hp : isHi u ∧ isLo next <;> simp [encU, hp]

theorem encU_pos (u : Nat) (rest : List Nat) : 1 ≤ (encU (u :: rest)).length := by
  rw [encU_step, List.length_append]
  exact Nat.le_trans (encode_len _).1 (Nat.le_add_right _ _)

theorem toWtf8Loop_fits (z : Bool) (cap : Nat) (src out : List Nat) (tlen : Nat) (hu : Units src)
    (hcap : out.length + (encU src).length ≤ cap) :
    ∃ t, toWtf8Loop z cap src out tlen =
      (out ++ encU src, t, [], z && ((out ++ encU src).length == cap)) := by
  fun_induction toWtf8Loop z cap src out tlen with
  | case1 out tlen =>
    refine ⟨tlen, ?_⟩
    simp only [encU, List.append_nil, Prod.mk.injEq, true_and]
    cases z <;> simp [bne]
  | case2 u rest out tlen hfull =>
    have := encU_pos u rest
    omega
  | case3 u rest out tlen hfull hz => exact absurd hz.2 (by have := (units_cons hu).1; omega)
  | case4 u rest out tlen hfull hz pair cp bs room hbig =>
    have he : encU (u :: rest) = bs ++ encU (if pair then rest.drop 1 else rest) := encU_step u rest
    have hbig : bs.length > cap - out.length := hbig
    rw [he, List.length_append] at hcap
    omega
  | case5 u rest out tlen hfull hz pair cp bs room hbig out' hpair ih =>
    have he : encU (u :: rest) = bs ++ encU (if pair then rest.drop 1 else rest) := encU_step u rest
    rw [if_pos hpair] at he
    rw [he, List.length_append] at hcap
    obtain ⟨t, ht⟩ := ih (fun x hx => hu x (List.mem_cons_of_mem _ (List.mem_of_mem_drop hx)))
      (by rw [List.length_append]; omega)
    exact ⟨t, by rw [ht, he, List.append_assoc]⟩
  | case6 u rest out tlen hfull hz pair cp bs room hbig out' hpair ih =>
    have he : encU (u :: rest) = bs ++ encU (if pair then rest.drop 1 else rest) := encU_step u rest
    rw [if_neg hpair] at he
    rw [he, List.length_append] at hcap
    obtain ⟨t, ht⟩ := ih (units_cons hu).2 (by rw [List.length_append]; omega)
    exact ⟨t, by rw [ht, he, List.append_assoc]⟩

/-- the last byte of an encoded non-zero code point is not 0, so the `do … while` loops go on -/
theorem encode_last_ne (cp : Nat) (h0 : 0 < cp) (h : cp < 0x110000) (tail : List Nat) :
    ((encode cp ++ tail).drop ((encode cp).length - 1)).headD 0 ≠ 0 := by
  rw [encode_eq_digits cp h]
  repeat' split
  all_goals (simp <;> omega)

theorem toUtf16_encode (cp : Nat) (h0 : 0 < cp) (h : cp < 0x110000) (tail : List Nat) :
    toUtf16 (encode cp ++ tail) = (toUtf16 tail).map
      ((if cp > 0xFFFF then [((cp - 0x10000) >>> 10) + 0xD800, ((cp - 0x10000) &&& 0x3FF) + 0xDC00]
        else [cp]) ++ ·) := by
  rw [toUtf16, decode1_encode cp h tail]
  simp only [dif_pos (encode_last_ne cp h0 h tail)]
  have hl := (encode_len cp).1
  rw [show (encode cp).length - 1 + 1 = (encode cp).length by omega, List.drop_left']
  rfl

theorem toUtf16_nil : toUtf16 [] = some [0] := by
  rw [toUtf16]; simp [decode1]

theorem toUtf16_encU (u : List Nat) (hu : Units u) : toUtf16 (encU u) = some (u ++ [0]) := by
  fun_induction encU u with
  | case1 => exact toUtf16_nil
  | case2 u =>
    have hb := (units_cons hu).1
    have := toUtf16_encode u hb.1 (by omega) []
    rw [List.append_nil] at this
    rw [this, toUtf16_nil, if_neg (by omega)]; rfl
  | case3 u next rest hp ih =>
    have pb := pairValue_bounds u next hp
    rw [toUtf16_encode _ (by omega) pb.2.1 _, ih (units_cons (units_cons hu).2).2, if_pos (by omega)]
    rw [Nat.shiftRight_eq_div_pow, Nat.and_two_pow_sub_one_eq_mod _ 10, pb.2.2.1, pb.2.2.2]; rfl
  | case4 u next rest hp ih =>
    have hb := (units_cons hu).1
    rw [toUtf16_encode u hb.1 (by omega) _, ih (units_cons hu).2, if_neg (by omega)]; rfl

theorem toWtf8_provided (z : Bool) (src : List Nat) (hu : Units src) (n : Nat)
    (hn : (encU src).length ≤ n) :
    toWtf8 z src (some n) = ⟨0, encU src ++ [0], (encU src).length⟩ := by
  unfold toWtf8
  obtain ⟨t, ht⟩ := toWtf8Loop_fits z n src [] 0 hu (by simpa using hn)
  simp only [ht]
  simp only [List.nil_append, List.headD_nil, ne_eq, and_true]
  by_cases he : (encU src).length = n
  · cases z <;> simp [he]
  · cases z <;> simp [he]

/-- the allocating mode is the caller-supplied mode with `uv_utf16_length_as_wtf8` bytes (idna.c:473-478) -/
theorem toWtf8_alloc (z : Bool) (src : List Nat) (hu : Units src) :
    toWtf8 z src none = ⟨0, encU src ++ [0], (encU src).length⟩ :=
  toWtf8_provided z src hu (lengthAsWtf8 z src) (Nat.le_of_eq (lengthAsWtf8_eq_encU z src hu).symm)
end UvModel.Wtf8
