import UvModel.Lemmas.AsyncInv
/-! C09 liveness: a termination measure for the uv__async_io scan under interleaved sender steps, helpful threads,
    and the weak-fairness argument over infinite schedules -/
namespace UvModel.Async
variable {s s' : State} {a : Act}

/-- Position of the loop thread relative to handle `h`, in loop steps still to go (an upper bound).  A handle costs two
steps (exchange, callback return); with `h` at index `i` of `queue` that is `2i` plus the 3 (2) steps of the handle under
way.  When the scan is past `h` a whole further pass is due: the rest of `queue` (`2·|queue|`), going to sleep, waking
and draining, and at most all `tot` handles again (`2·tot + 5`).  Inside uv__async_spin the rank is not used. -/
def rankL (s : State) (h : Nat) : Nat :=
  let tot := s.handles.length + s.queue.length
  match s.lpc with
  | .idle => 2 * tot + 5
  | .drain => 2 * tot + 4
  | .scan h' => if h' = h then 1 else if h ∈ s.queue then 2 * s.queue.idxOf h + 3 else 2 * tot + 5 + 2 * s.queue.length + 2
  | .inCb _ => if h ∈ s.queue then 2 * s.queue.idxOf h + 2 else 2 * tot + 5 + 2 * s.queue.length + 1
  | _ => 0

/-- `rankL` doubled, plus 1 while the loop sleeps with the eventfd at 0, so that the eventfd write counts as progress -/
def mu (s : State) (h : Nat) : Nat :=
  2 * rankL s h + (if s.lpc = .idle ∧ s.efd = 0 then 1 else 0)

/-- the loop thread is not inside uv__async_spin -/
def noClosePc (s : State) : Prop := ∀ h' r, s.lpc ≠ .closeStore h' r ∧ s.lpc ≠ .closeSpin h' r

/-- a callback of `h` is owed and has not started since the count was `c0` -/
structure Owed (s : State) (h c0 : Nat) : Prop where
  inv : Inv s
  pend : (s.hs h).pending ≠ 0
  opn : (s.hs h).closing = false
  cnt : (s.hs h).cbs = c0
  pc : noClosePc s

theorem LoopOp.noClosePc (hop : LoopOp s s') (h : noClosePc s) : noClosePc s' := by
  intro k r
  refine ⟨hop.lpc_ne_closeStore k r, ?_⟩
  cases hop with
  | wake | call => nofun
  | drain | skip | cbRet => intro e; rcases nextScan_lpc _ with h | ⟨_, h⟩ <;> rw [e] at h <;> cases h
  | store hl => exact absurd hl (h _ _).1
  | unlink hl => exact absurd hl (h _ _).2

theorem mu_nextScan_lt {h h' : Nat} (hl : (s.lpc = .scan h' ∧ h' ≠ h) ∨ s.lpc = .inCb h') :
    mu (nextScan s) h < mu s h := by
  have hs : mu s h ≥ 2 * (if h ∈ s.queue then 2 * s.queue.idxOf h + 2
      else 2 * (s.handles.length + s.queue.length) + 5 + 2 * s.queue.length + 1) := by
    rcases hl with ⟨hl, hne⟩ | hl <;> simp only [mu, rankL, hl]
    · rw [if_neg hne]; split <;> omega
    · split <;> omega
  refine Nat.lt_of_lt_of_le ?_ hs
  rcases nextScan_cases s with ⟨hq, he⟩ | ⟨q0, qs, hq, he⟩ <;> rw [he, hq] <;>
    simp only [mu, rankL, List.length_append, List.length_cons, List.length_nil, List.idxOf_cons, List.mem_cons,
      List.not_mem_nil, if_false, beq_iff_eq, cond_eq_ite, reduceCtorEq, false_and, Nat.add_zero]
  · split <;> omega
  · by_cases e : q0 = h
    · simp only [e, if_true, true_or]; omega
    · have e' : ¬ h = q0 := fun x => e x.symm
      simp only [e, e', if_false, false_or]
      split <;> omega

theorem loop_step_dec {h c0 : Nat} (ho : Owed s h c0) (hs : step? s .loop = some s') :
    (s'.hs h).cbs > c0 ∨ (Owed s' h c0 ∧ mu s' h < mu s h) := by
  have hop := step?_loop hs
  have hO : s'.hs h = s.hs h → Owed s' h c0 := fun e =>
    ⟨inv_step ho.inv hs, e ▸ ho.pend, e ▸ ho.opn, e ▸ ho.cnt, hop.noClosePc ho.pc⟩
  cases hop with
  | wake hl he =>
    refine .inr ⟨hO rfl, ?_⟩
    simp only [mu, rankL, hl, reduceCtorEq, false_and, if_false]; omega
  | drain hl =>
    refine .inr ⟨hO (congrFun (nextScan_hs _) h), ?_⟩
    have hq := ho.inv.L.qEmpty (by rw [hl]; rfl)
    have hin := (ho.inv.L.open_mem (ho.inv.S.pendLt h ho.pend) ho.opn).resolve_left (by rw [hq]; nofun)
    rcases nextScan_cases { s with efd := 0, queue := s.handles, handles := [] } with ⟨hh, -⟩ | ⟨q0, qs, hh, he⟩ <;>
      dsimp only at hh <;> rw [hh] at hin
    · cases hin
    · have := @List.idxOf_lt_length_iff _ _ _ qs h
      rw [he]
      simp only [mu, rankL, hl, hh, hq, List.length_cons, List.length_nil, List.nil_append, List.mem_cons,
        reduceCtorEq, false_and, if_false] at hin ⊢
      split
      · omega
      · rw [if_pos (hin.resolve_left (fun e => ‹¬ q0 = h› e.symm))]
        have := this.mpr (hin.resolve_left (fun e => ‹¬ q0 = h› e.symm)); omega
  | skip hl h0 => exact .inr ⟨hO (congrFun (nextScan_hs _) h), mu_nextScan_lt (.inl ⟨hl, fun e => ho.pend (e ▸ h0)⟩)⟩
  | cbRet hl => exact .inr ⟨hO (congrFun (nextScan_hs _) h), mu_nextScan_lt (.inr hl)⟩
  | @call h' hl hp =>
    by_cases e : h' = h
    · subst e; left
      show (upd s.hs h' _ h').cbs > c0
      rw [upd_same, ← ho.cnt]; exact Nat.lt_succ_self _
    · refine .inr ⟨hO (upd_other _ _ _ _ (Ne.symm e)), ?_⟩
      simp only [mu, rankL, hl, e, setH, if_false, reduceCtorEq, false_and]
      split <;> omega
  | store hl => exact absurd hl (ho.pc _ _).1
  | unlink hl => exact absurd hl (ho.pc _ _).2

theorem rankL_congr (h : Nat) (h1 : s'.lpc = s.lpc) (h2 : s'.queue = s.queue) (h3 : s'.handles = s.handles) :
    rankL s' h = rankL s h := by
  simp only [rankL, h1, h2, h3]

theorem owed_step {h c0 : Nat} (a : Act) (ha : notClose a) (ho : Owed s h c0) :
    ((step s a).hs h).cbs > c0 ∨ (Owed (step s a) h c0 ∧ mu (step s a) h ≤ mu s h) := by
  refine step_elim (P := fun s' => (s'.hs h).cbs > c0 ∨ (Owed s' h c0 ∧ mu s' h ≤ mu s h))
    (.inr ⟨ho, Nat.le_refl _⟩) fun s' hs => ?_
  by_cases hl : a = .loop
  · subst hl; exact (loop_step_dec ho hs).imp id fun h => ⟨h.1, Nat.le_of_lt h.2⟩
  · obtain ⟨h1, h2, h3, h4, h5, -⟩ := Frame.of_step? hs ha hl
    have e : s'.hs h = _ := nonloop_loopFieldsEq hs hl h
    refine .inr ⟨⟨inv_step ho.inv hs, (h5 h).2 ho.pend, (h5 h).1 ▸ ho.opn, by rw [e]; exact ho.cnt,
      fun k r => h1 ▸ ho.pc k r⟩, ?_⟩
    simp only [mu, rankL_congr h h1 h2 h3, h1]
    by_cases hi : s.lpc = .idle <;> simp only [hi, true_and, false_and, if_false, Nat.le_refl]
    split <;> split <;> omega

/-- the thread whose next step lowers `mu`: the loop thread unless it is blocked, else the sender parked at the eventfd write -/
def Helpful (s : State) : Act → Prop
  | .loop => s.lpc ≠ .idle ∨ s.efd > 0
  | .snd t => s.lpc = .idle ∧ s.efd = 0 ∧ ∃ x : Sender, s.snd[t]? = some x ∧ x.pc = .write
  | _ => False

theorem step_snd_length (s : State) (a : Act) : (step s a).snd.length = s.snd.length := by
  refine step_elim (P := fun s' => s'.snd.length = s.snd.length) rfl fun s' hs => ?_
  cases step?_step hs with
  | begin t h x _ _ _ _ => exact List.length_set
  | snd t x x' v e _ _ => exact List.length_set
  | loop _ hop => rw [hop.snd_eq]
  | close h r _ _ _ => rfl
  | fork _ => exact List.length_map _
  | eintr w => rfl
  | closeCbs _ => rfl

theorem exists_helpful {h c0 : Nat} (ho : Owed s h c0) :
    ∃ a, Helpful s a ∧ (a = .loop ∨ ∃ t, a = .snd t ∧ t < s.snd.length) := by
  by_cases hl : s.lpc = .idle
  · by_cases he : s.efd = 0
    · rcases ho.inv.W h ho.pend ho.opn with h1 | ⟨t, x, hx, hw⟩ | h1
      · omega
      · exact ⟨.snd t, ⟨hl, he, x, hx, hw⟩, .inr ⟨t, rfl, (List.getElem?_eq_some_iff.mp hx).1⟩⟩
      · simp [willScan, hl] at h1
    · exact ⟨.loop, Or.inr (by omega), Or.inl rfl⟩
  · exact ⟨.loop, Or.inl hl, Or.inl rfl⟩

theorem Helpful.cases (h : Helpful s a) : a = .loop ∨ ∃ t, a = .snd t := by
  cases a <;> first | exact .inl rfl | exact .inr ⟨_, rfl⟩ | exact h.elim

theorem helpful_dec {h c0 : Nat} (ho : Owed s h c0) (hh : Helpful s a) :
    ((step s a).hs h).cbs > c0 ∨ (Owed (step s a) h c0 ∧ mu (step s a) h < mu s h) := by
  rcases hh.cases with rfl | ⟨t, rfl⟩
  · obtain ⟨s', hs⟩ := Option.ne_none_iff_exists'.mp fun hn => by
      rcases loop_blocked.mp hn with ⟨hl, he⟩ | ⟨k, r, hl, -⟩
      · exact hh.elim (· hl) (by omega)
      · exact (ho.pc k r).2 hl
    rw [step, hs]; exact loop_step_dec ho hs
  · obtain ⟨hl, he, x, hx, hw⟩ := hh
    have hfr := Frame.of_step s (.snd t) trivial nofun
    have hpos : (step s (.snd t)).efd > 0 := by
      obtain ⟨s', hs⟩ := Option.isSome_iff_exists.mp (snd_enabled hx (by rw [hw]; nofun))
      rw [step, hs]
      obtain ⟨y, x', v, e, hy, hop, rfl⟩ := step?_snd hs
      cases hx.symm.trans hy; exact hop.efd_pos hw
    refine (owed_step (.snd t) trivial ho).imp id fun ⟨h1, _⟩ => ⟨h1, ?_⟩
    rw [mu, mu, rankL_congr h hfr.lpc hfr.queue hfr.handles, hfr.lpc, if_neg (fun h => Nat.ne_of_gt hpos h.2), if_pos ⟨hl, he⟩]
    exact Nat.lt_succ_self _

theorem helpful_persist {h : Nat} {a b : Act} (hh : Helpful s a)
    (hb : notClose b) (hne : b ≠ a) : Helpful (step s b) a ∨ mu (step s b) h < mu s h := by
  rcases hh.cases with rfl | ⟨t, rfl⟩
  · obtain ⟨h1, -, -, h4, -, -⟩ := Frame.of_step s b hb hne
    exact .inl (hh.imp (h1 ▸ ·) (Nat.lt_of_lt_of_le · h4))
  · obtain ⟨hl, he, x, hx, hw⟩ := hh
    by_cases hbl : b = .loop
    · rw [hbl, step, loop_blocked.mpr (.inl ⟨hl, he⟩)]; exact .inl ⟨hl, he, x, hx, hw⟩
    · obtain ⟨h1, h2, h3, -, -, h5⟩ := Frame.of_step s b hb hbl
      by_cases he' : (step s b).efd = 0
      · exact .inl ⟨h1 ▸ hl, he', x, h5 t hne x hx (by rw [hw]; nofun), hw⟩
      · right
        rw [mu, mu, rankL_congr h h1 h2 h3, h1, if_neg (he' ·.2), if_pos ⟨hl, he⟩]
        exact Nat.lt_succ_self _

def runN (σ : Nat → Act) (n : Nat) (s : State) : State := (List.range n).foldl (fun s i => step s (σ i)) s

theorem runN_succ (σ : Nat → Act) (n : Nat) (s : State) : runN σ (n + 1) s = step (runN σ n s) (σ n) := by
  simp [runN, List.range_succ, List.foldl_append]

theorem runN_snd_length (σ : Nat → Act) (n : Nat) (s : State) : (runN σ n s).snd.length = s.snd.length := by
  induction n with
  | zero => simp [runN]
  | succ n ih => rw [runN_succ, step_snd_length, ih]

/-- The weak-fairness argument.  `O` says that something is still owed, `G` that it has been delivered, `m` is a
measure and `H s a` says that thread `a` is helpful in `s`.  If while `O` holds no scheduled step raises `m`, some
loop or sender thread is helpful, a helpful thread reaches `G` or lowers `m` when scheduled and stays helpful until
then (unless `m` drops meanwhile), then a schedule that runs the loop thread and every sender again and again
reaches `G`. -/
theorem fair_reach {O G : State → Prop} {m : State → Nat} {H : State → Act → Prop} (σ : Nat → Act) (s0 : State)
    (hex : ∀ s, O s → ∃ a, H s a ∧ (a = .loop ∨ ∃ t, a = .snd t ∧ t < s.snd.length))
    (hdec : ∀ s a, O s → H s a → G (step s a) ∨ (O (step s a) ∧ m (step s a) < m s))
    (hstay : ∀ s n, O s → G (step s (σ n)) ∨ (O (step s (σ n)) ∧ m (step s (σ n)) ≤ m s))
    (hper : ∀ s a n, O s → H s a → σ n ≠ a → H (step s (σ n)) a ∨ m (step s (σ n)) < m s)
    (fairL : ∀ n, ∃ k, k ≥ n ∧ σ k = .loop)
    (fairS : ∀ n t, t < s0.snd.length → ∃ k, k ≥ n ∧ σ k = .snd t) :
    ∀ (k n : Nat), m (runN σ n s0) ≤ k → O (runN σ n s0) → ∃ n', G (runN σ n' s0) := by
  -- `a` is helpful at time `n` and scheduled at time `n + d`: `G` is reached, or `m` has dropped at some time with `O`
  have drop : ∀ a d n, σ (n + d) = a → O (runN σ n s0) → H (runN σ n s0) a →
      (∃ n', G (runN σ n' s0)) ∨ ∃ j, O (runN σ j s0) ∧ m (runN σ j s0) < m (runN σ n s0) := by
    intro a
    have now : ∀ n, σ n = a → O (runN σ n s0) → H (runN σ n s0) a →
        (∃ n', G (runN σ n' s0)) ∨ ∃ j, O (runN σ j s0) ∧ m (runN σ j s0) < m (runN σ n s0) := by
      intro n hna ho hh
      have := hdec _ a ho hh
      rw [← hna, ← runN_succ] at this
      exact this.imp (fun h => ⟨_, h⟩) fun h => ⟨_, h⟩
    intro d
    induction d with
    | zero => exact fun n hm => now n hm
    | succ d ih =>
      intro n hm ho hh
      by_cases hna : σ n = a
      · exact now n hna ho hh
      · have h1 := hstay _ n ho
        have h3 := hper _ a n ho hh hna
        rw [← runN_succ] at h1 h3
        rcases h1 with h1 | ⟨h1, h2⟩
        · exact .inl ⟨_, h1⟩
        · rcases h3 with h3 | h3
          · refine (ih (n + 1) (by rw [← hm]; congr 1; omega) h1 h3).imp id fun ⟨j, h4, h5⟩ => ⟨j, h4, by omega⟩
          · exact .inr ⟨_, h1, h3⟩
  intro k
  induction k using Nat.strongRecOn with
  | _ k ih =>
    intro n hk ho
    obtain ⟨a, hh, ha⟩ := hex _ ho
    have ⟨j, hge, hj⟩ : ∃ j, j ≥ n ∧ σ j = a := by
      rcases ha with rfl | ⟨t, rfl, ht⟩
      · exact fairL n
      · exact fairS n t (by rwa [runN_snd_length] at ht)
    rcases drop a (j - n) n (by rw [← hj]; congr 1; omega) ho hh with h1 | ⟨i, h1, h2⟩
    · exact h1
    · exact ih _ (by omega) i (Nat.le_refl _) h1

theorem liveness_aux (σ : Nat → Act) (hσ : ∀ n, notClose (σ n)) (s0 : State) (h c0 : Nat)
    (fairL : ∀ n, ∃ m, m ≥ n ∧ σ m = .loop)
    (fairS : ∀ n t, t < s0.snd.length → ∃ m, m ≥ n ∧ σ m = .snd t) :
    ∀ (k n : Nat), mu (runN σ n s0) h ≤ k → Owed (runN σ n s0) h c0 → ∃ n', ((runN σ n' s0).hs h).cbs > c0 :=
  fair_reach (O := (Owed · h c0)) (G := fun s => (s.hs h).cbs > c0) (m := (mu · h)) (H := Helpful) σ s0
    (fun _ => exists_helpful) (fun _ _ => helpful_dec) (fun _ n => owed_step (σ n) (hσ n))
    (fun _ _ n _ hh => helpful_persist hh (hσ n)) fairL fairS

end UvModel.Async
