import UvModel.Lemmas.AsyncSenders
/-! The wake-up invariants: a set `pending` flag is never stranded (`NoLost`), callbacks never outnumber effective
exchanges (`CbLe`), a published send is seen by a callback or still pending (`SeenOrPending`). -/
namespace UvModel.Async
variable {s s' : State} {a : Act} {c e e' : Nat} {x x' : Sender} {v v' : HS}

def atWriteL (l : List Sender) : Prop := ∃ (t : Nat) (x : Sender), l[t]? = some x ∧ x.pc = .write
def atWrite (s : State) : Prop := atWriteL s.snd

/-- the loop thread is inside uv__async_io and its scan has not yet passed handle `h` -/
def willScan (s : State) (h : Nat) : Prop :=
  match s.lpc with
  | .idle => False
  | .drain => h ∈ s.handles
  | .scan h' => h = h' ∨ h ∈ s.queue
  | .inCb _ => h ∈ s.queue
  | .closeStore _ r => r ≠ .idle ∧ h ∈ s.queue
  | .closeSpin _ r => r ≠ .idle ∧ h ∈ s.queue

/-- No lost wake-up.  Handle `h` is *owed a callback* when `pending ≠ 0` and it is not closing; then the eventfd is
readable, or some sender is about to write it, or the running scan still reaches `h`. -/
def NoLost (s : State) : Prop :=
  ∀ h, (s.hs h).pending ≠ 0 → (s.hs h).closing = false → s.efd > 0 ∨ atWrite s ∨ willScan s h

theorem atWriteL_set_of_not {l : List Sender} {t : Nat} {x x' : Sender} (h0 : l[t]? = some x) (hx : x.pc ≠ .write)
    (h : atWriteL l) : atWriteL (l.set t x') := by
  obtain ⟨u, y, hu, hy⟩ := h
  refine ⟨u, y, ?_, hy⟩
  rw [List.getElem?_set]
  split
  · next heq => subst heq; rw [h0] at hu; cases hu; exact absurd hy hx
  · exact hu

theorem willScan_nextScan {j : Nat} (h : j ∈ s.queue) : willScan (nextScan s) j := by
  rcases nextScan_cases s with ⟨hq, he⟩ | ⟨h0, q, hq, he⟩ <;> rw [he] <;> rw [hq] at h
  · cases h
  · exact List.mem_cons.mp h

theorem SndOp.wake_cases (h : SndOp c x v e x' v' e') :
    e' > 0 ∨ x'.pc = .write ∨ (x.pc ≠ .write ∧ e' = e ∧ (v'.pending ≠ 0 → v.pending ≠ 0)) := by
  cases h
  case write => left; split <;> omega
  case won => exact .inr (.inl rfl)
  all_goals exact .inr (.inr ⟨by simp [*], rfl, by simp [*]⟩)

theorem noLost_step (hL : InvL s) (hS : InvS s) (hI : NoLost s) (hs : step? s a = some s') :
    NoLost s' := by
  intro j hp hc
  cases step?_step hs with
  | begin t h x hx hpc _ _ =>
    simp only [setSnd, setH, upd_proj HS.pending, upd_proj HS.closing] at hp hc
    exact (hI j hp hc).imp id (.imp (atWriteL_set_of_not hx (by simp [hpc])) id)
  | snd t x x' v e hx hop =>
    rcases hop.wake_cases with he | hw | ⟨hnw, rfl, hpend⟩
    · exact .inl he
    · exact .inr (.inl ⟨t, x', List.getElem?_set_self (List.getElem?_eq_some_iff.mp hx).1, hw⟩)
    · have hcl : v.closing = (s.hs x.h).closing := by rw [hop.frame]
      simp only [setSnd, setH, upd_proj HS.closing hcl] at hp hc
      refine (hI j ?_ hc).imp id (.imp (atWriteL_set_of_not hx hnw) id)
      by_cases ej : j = x.h
      · subst ej; rw [upd_same] at hp; exact hpend hp
      · rwa [upd_other _ _ _ _ ej] at hp
  | loop _ hop =>
    cases hop with
    | wake hl he => exact .inl he
    | drain hl =>
      rw [nextScan_hs] at hp hc
      have := hL.open_mem (hS.pendLt j hp) hc
      rw [hL.qEmpty (by rw [hl]; rfl)] at this
      exact .inr (.inr (willScan_nextScan (this.resolve_left nofun)))
    | @skip h0 hl h0p =>
      rw [nextScan_hs] at hp hc
      refine (hI j hp hc).imp (fun h => by rwa [nextScan_efd]) (.imp (fun h => by rwa [atWrite, nextScan_snd]) fun h => ?_)
      rw [willScan, hl] at h
      exact willScan_nextScan (h.resolve_left fun e => hp (e ▸ h0p))
    | @cbRet h0 hl =>
      rw [nextScan_hs] at hp hc
      refine (hI j hp hc).imp (fun h => by rwa [nextScan_efd]) (.imp (fun h => by rwa [atWrite, nextScan_snd]) fun h => ?_)
      rw [willScan, hl] at h
      exact willScan_nextScan h
    | @call h0 hl h0p =>
      have ej : j ≠ h0 := fun e => by subst e; exact hp (by simp [setH])
      simp only [setH, upd_other _ _ _ _ ej] at hp hc
      refine (hI j hp hc).imp id (.imp id fun h => ?_)
      rw [willScan, hl] at h
      exact h.resolve_left ej
    | @store h0 r hl =>
      have ej : j ≠ h0 := fun e => by subst e; simp [setH, (hL.cloPc _ _ (.inl hl)).1] at hc
      simp only [setH, upd_other _ _ _ _ ej] at hp hc
      refine (hI j hp hc).imp id (.imp id fun h => ?_)
      rw [willScan, hl] at h
      exact h
    | @unlink h0 r hl hb =>
      have ej : j ≠ h0 := fun e => by subst e; simp [setH, (hL.cloPc _ _ (.inr hl)).1] at hc
      simp only [setH, upd_other _ _ _ _ ej] at hp hc
      refine (hI j hp hc).imp id (.imp id fun h => ?_)
      rw [willScan, hl] at h
      cases r with
      | idle => exact absurd rfl h.1
      | inCb h' => exact List.mem_filter.mpr ⟨h.2, by simpa using ej⟩
  | close h r hl _ _ =>
    have ej : j ≠ h := fun e => by subst e; simp [setH] at hc
    simp only [setH, upd_other _ _ _ _ ej] at hp hc
    refine (hI j hp hc).imp id (.imp id fun hw => ?_)
    rw [willScan, hl] at hw
    cases r with
    | idle => exact hw.elim
    | inCb h' => exact ⟨nofun, hw⟩
  | fork hl =>
    simp only [apply_ite HS.closing, ite_self] at hc
    dsimp only at hp
    split at hp
    · exact absurd rfl hp
    · next hin =>
      have := hL.open_mem (hS.pendLt j hp) hc
      rw [hL.qEmpty (by rw [hl]; rfl)] at this
      exact absurd (this.resolve_left nofun) hin
  | eintr w => exact hI j hp hc
  | closeCbs _ =>
    simp only [apply_ite HS.closing, apply_ite HS.pending, ite_self] at hp hc
    exact hI j hp hc

/-- `CbLe` for one handle record: `CbLe s` unfolds to `∀ h, (s.hs h).cbLe` -/
def HS.cbLe (v : HS) : Prop := v.cbs + (if v.pending ≠ 0 ∧ v.stored = false then 1 else 0) ≤ v.x01

def CbLe (s : State) : Prop :=
  ∀ h, (s.hs h).cbs + (if (s.hs h).pending ≠ 0 ∧ (s.hs h).stored = false then 1 else 0) ≤ (s.hs h).x01

theorem SndOp.cbLe (h : SndOp c x v e x' v' e') (hv : v.cbLe) : v'.cbLe := by
  cases h
  case won hp => simp only [HS.cbLe, hp] at hv ⊢; split <;> omega
  case lost hp => simpa only [HS.cbLe, hp, ne_eq, not_false_eq_true, true_and, Nat.one_ne_zero] using hv
  all_goals exact hv

theorem cbLe_step (hL : InvL s) (hI : CbLe s) (hs : step? s a = some s') : CbLe s' := by
  intro j
  cases step?_step hs with
  | begin t h x _ _ _ _ =>
    exact upd_at (P := HS.cbLe) (hI j) fun _ h => h
  | snd t x x' v e _ hop =>
    exact upd_at (P := HS.cbLe) (hI j) fun _ => hop.cbLe
  | loop _ hop =>
    have hj := hI j
    rcases hop.hs_cases j with e | ⟨hl, hp, -, -, e⟩ | ⟨r, -, e⟩ | ⟨r, -, -, e⟩ <;> rw [e]
    · exact hj
    · simp only [hp, hL.scan_not_stored hl, ne_eq, not_false_eq_true, and_self, if_true] at hj
      simpa only [ne_eq, not_true_eq_false, false_and, if_false] using hj
    · have : ¬ ((1 : Nat) ≠ 0 ∧ true = false) := nofun
      simp only [this, if_false]; omega
    · exact hj
  | close h r _ _ _ =>
    exact upd_at (P := HS.cbLe) (hI j) fun _ h => h
  | fork _ =>
    have hj := hI j
    dsimp only; split
    · have : ¬ ((0 : Nat) ≠ 0 ∧ (s.hs j).stored = false) := fun h => h.1 rfl
      simp only [this, if_false]; omega
    · exact hj
  | eintr w => exact hI j
  | closeCbs _ =>
    dsimp only; split <;> exact hI j

/-- the send of `x` has executed its exchange: `pending` was set on its behalf -/
def published (x : Sender) : Prop := x.pc = .write ∨ x.pc = .dec ∨ (x.pc = .idle ∧ x.sent = true)

/-- `SeenOrPending` for one sender `x` and the record `v` of its handle: `SeenOrPending s` unfolds to
`∀ t x, s.snd[t]? = some x → x.seenOrPending (s.hs x.h)` -/
def Sender.seenOrPending (x : Sender) (v : HS) : Prop :=
  published x → v.closing = false → x.seq ≤ v.seen ∨ v.pending ≠ 0

def SeenOrPending (s : State) : Prop :=
  ∀ (t : Nat) (x : Sender), s.snd[t]? = some x → published x → (s.hs x.h).closing = false →
    x.seq ≤ (s.hs x.h).seen ∨ (s.hs x.h).pending ≠ 0

theorem Sender.seenOrPending_mono {x : Sender} {v v' : HS} (h : x.seenOrPending v) (hc : v'.closing = v.closing) (hs : v'.seen = v.seen)
    (hp : v.pending ≠ 0 → v'.pending ≠ 0) : x.seenOrPending v' :=
  fun hx hcl => (h hx (hc ▸ hcl)).imp (hs ▸ id) hp

theorem SndOp.seenOrPending (h : SndOp c x v e x' v' e') (hv : x.seenOrPending v) : x'.seenOrPending v' := by
  cases h
  case fast hp => exact fun _ _ => .inr hp
  case slow | inc => intro h; rcases h with h | h | ⟨h, -⟩ <;> cases h
  case won | lost => exact fun _ _ => .inr nofun
  case write hpc => exact fun _ => hv (.inl hpc)
  case dec hpc => exact fun _ => hv (.inr (.inl hpc))

theorem seenOrPending_step (hS : InvS s) (hI : SeenOrPending s) (hs : step? s a = some s') :
    SeenOrPending s' := by
  intro t' y hy
  cases step?_step hs with
  | begin t h x _ _ _ _ =>
    rcases getElem?_set_some hy with ⟨-, rfl⟩ | ⟨-, hy⟩
    · intro h; rcases h with h | h | ⟨h, -⟩ <;> cases h
    · exact upd_at (P := y.seenOrPending) (hI t' y hy) fun _ h => h
  | snd t x x' v e hx hop =>
    rcases getElem?_set_some hy with ⟨rfl, rfl⟩ | ⟨-, hy⟩
    · show y.seenOrPending (upd s.hs x.h v y.h)
      rw [hop.h_eq, upd_same]; exact hop.seenOrPending (hI t' x hx)
    · refine upd_at (P := y.seenOrPending) (hI t' y hy) fun _ h => Sender.seenOrPending_mono h ?_ ?_ hop.pending_ne <;> rw [hop.frame]
  | loop _ hop =>
    rw [hop.snd_eq] at hy
    have := hI t' y hy
    rcases hop.hs_cases y.h with e | ⟨-, -, -, -, e⟩ | ⟨r, -, e⟩ | ⟨r, -, -, e⟩ <;> rw [e]
    · exact this
    · exact fun _ _ => .inl (hS.seqLe t' y hy)
    · exact fun _ _ => .inr nofun
    · exact this
  | close h r _ _ _ =>
    exact upd_at (P := y.seenOrPending) (hI t' y hy) fun _ _ _ => nofun
  | fork _ =>
    simp only [List.getElem?_map, Option.map_eq_some_iff] at hy
    obtain ⟨x, -, rfl⟩ := hy
    intro h; rcases h with h | h | ⟨-, h⟩ <;> cases h
  | eintr w => exact hI t' y hy
  | closeCbs _ =>
    have := hI t' y hy
    dsimp only; split <;> exact this

end UvModel.Async
