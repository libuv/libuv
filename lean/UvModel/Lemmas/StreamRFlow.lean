import UvModel.StreamR
/-! Facts about the read-side model alone, shared by the proofs about traces and about liveness: a loop
    rule and the outcomes of one poll event, through which an invariant of single rounds reaches
    whole runs; what callbacks leave alone; what the kernel model guarantees about one read. -/
namespace UvModel.StreamR

theorem readLoop_rec {P R : St → Prop} (u : User) (h0 : ∀ s, P s → R s)
    (hs : ∀ s, P s → s.reading = true →
      if (readRound u s).2 then P (readRound u s).1 else R (readRound u s).1) :
    ∀ (count : Nat) (s : St), P s → R (readLoop u count s)
  | 0, s, h => h0 s h
  | count + 1, s, h => by
    unfold readLoop
    split
    · exact h0 s h
    · next hc =>
      rw [Bool.not_eq_true, Bool.not_eq_false', Bool.and_eq_true] at hc
      have h1 := hs s h hc.2
      dsimp only
      split <;> rename_i hr <;> simp only [hr, if_true, if_false, Bool.false_eq_true] at h1
      · exact readLoop_rec u h0 hs count _ h1
      · exact h1

/-- What one poll event makes of the stream: nothing, uv__read, or uv__read and then the synthetic EOF,
    which takes a stream that uv__read left reading with READ_PARTIAL set. -/
def PollOutcome (u : User) (s t : St) : Prop :=
  t = s ∨ t = uvRead u s ∨
  (t = streamEof u (uvRead u s) none ∧ (uvRead u s).reading = true ∧ (uvRead u s).readPartial = true)

theorem streamIo_cases (u : User) (s : St) (ev : PollEv) : PollOutcome u s (streamIo u s ev) := by
  unfold streamIo PollOutcome
  cases hh : ev.hup
  · simp only [Bool.or_false, Bool.false_and, Bool.false_eq_true, if_false, ite_self]
    split
    · exact .inr (.inl rfl)
    · exact .inl rfl
  · simp only [Bool.or_true, if_true, Bool.true_and]
    split
    · exact .inr (.inl rfl)
    · split
      · next hc =>
        simp only [Bool.and_eq_true] at hc
        exact .inr (.inr ⟨rfl, hc.1.1, hc.1.2⟩)
      · exact .inr (.inl rfl)

theorem ioPoll_cases (u : User) (s : St) (raw : PollEv) : PollOutcome u s (ioPoll u s raw) := by
  unfold ioPoll
  split
  · exact Or.inl rfl
  · extract_lets e bare e'
    split
    · exact streamIo_cases u s e'
    · exact Or.inl rfl

/-- components that user callbacks and API calls never touch -/
def Same (s s' : St) : Prop :=
  s'.nAlloc = s.nAlloc ∧ s'.kbuf = s.kbuf ∧ s'.ipc = s.ipc ∧ s'.oracle = s.oracle ∧ s'.readPartial = s.readPartial

theorem same_doOp {s0 : St} (s : St) (op : CbOp) (h : Same s0 s) : Same s0 (doOp s op) := by
  cases op <;> simp only [doOp, readStop, readStart, closeH, emit] <;> (repeat' split) <;> exact h

theorem same_callReadCb (u : User) {s : St} {n : Int} {buf : Option Nat} {b : List Byte} :
    Same s (callReadCb u s n buf b) :=
  List.foldlRecOn (motive := Same s) _ doOp ⟨rfl, rfl, rfl, rfl, rfl⟩ fun s' h op _ => same_doOp s' op h

theorem afterRead_frame (u : User) (s : St) (id sz : Nat) (r : RRes) :
    Same s (afterRead u s id sz r).1 ∨
    (Same { s with readPartial := true } (afterRead u s id sz r).1 ∧ (afterRead u s id sz r).2 = false ∧
      s.ipc = false ∧ ∃ bs, r = .data bs ∧ bs.length < sz) := by
  cases r with
  | eagain =>
    simp only [afterRead]
    split
    · exact .inl (same_callReadCb u)
    · exact .inl (same_callReadCb u)
  | err e =>
    simp only [afterRead]
    split <;> exact .inl (same_callReadCb u)
  | eof => exact .inl (same_callReadCb u)
  | data bs =>
    have h := same_callReadCb u (s := s) (n := bs.length) (buf := some id) (b := bs)
    simp only [afterRead]
    split
    · next hlt =>
      split
      · next hi => exact .inr ⟨⟨h.1, h.2.1, h.2.2.1, h.2.2.2.1, rfl⟩, rfl, by simpa [h.2.2.1] using hi, bs, rfl, hlt⟩
      · exact .inl h
    · exact .inl h

theorem readRound_nAlloc (u : User) (s : St) : (readRound u s).1.nAlloc = s.nAlloc + 1 := by
  unfold readRound
  dsimp only
  split
  · exact (same_callReadCb u).1
  · exact (afterRead_frame u _ _ _ _).elim (·.1) (·.1.1)

theorem readLoop_nAlloc (u : User) : ∀ (count : Nat) (s : St), (readLoop u count s).nAlloc ≤ s.nAlloc + count
  | 0, _ => Nat.le_refl _
  | c + 1, s => by
    unfold readLoop
    split
    · omega
    · have h1 := readRound_nAlloc u s
      dsimp only
      split
      · have := readLoop_nAlloc u c (readRound u s).1
        omega
      · omega

theorem ioPoll_nAlloc (u : User) (s : St) (ev : PollEv) : (ioPoll u s ev).nAlloc ≤ s.nAlloc + 32 := by
  have h : (uvRead u s).nAlloc ≤ s.nAlloc + 32 := readLoop_nAlloc u 32 { s with readPartial := false }
  rcases ioPoll_cases u s ev with he | he | ⟨he, _⟩ <;> rw [he]
  · omega
  · exact h
  · exact Nat.le_trans (Nat.le_of_eq (same_callReadCb u).1) h

/-- What the kernel model guarantees about one read result; `full`: the call hands over
    min(buffer, available) bytes if it hands over any. -/
def KOk (kbuf : List Byte) (shut : Bool) (cap : Nat) (full : Prop) (r : RRes × List Byte) : Prop :=
  match r.1 with
  | .data bs => bs ≠ [] ∧ bs ++ r.2 = kbuf ∧ bs.length ≤ cap ∧ (full → bs.length < cap → r.2 = [])
  | .eof => kbuf = [] ∧ shut = true ∧ r.2 = kbuf
  | .eagain => r.2 = kbuf
  | .err e => (e ≠ 0 ∧ e < 4095) ∧ r.2 = kbuf

theorem kfull_ok {kbuf : List Byte} {shut : Bool} {cap k : Nat} {full : Prop} (hf : full → cap ≤ k) :
    KOk kbuf shut cap full (kfull kbuf shut cap k) := by
  unfold kfull
  dsimp only
  split
  · split
    · next h1 =>
      rw [Bool.and_eq_true, List.isEmpty_iff] at h1
      exact ⟨h1.1, h1.2, rfl⟩
    · exact rfl
  · next h0 =>
    have hl : (kbuf.take (min k (min cap kbuf.length))).length = min k (min cap kbuf.length) := by
      rw [List.length_take]; omega
    refine ⟨fun hc => h0 (hl ▸ congrArg List.length hc), List.take_append_drop _ _, ?_, fun hfull => ?_⟩
    · omega
    · have := hf hfull
      rw [List.drop_eq_nil_iff]; omega

theorem kread_ok {kbuf : List Byte} {shut : Bool} {cap : Nat} {o : Option Outcome} {full : Prop}
    (hf : full → ∀ k, o = some (.ok k) → cap ≤ k) : KOk kbuf shut cap full (kread kbuf shut cap o) := by
  unfold kread
  cases o with
  | none => exact kfull_ok fun _ => Nat.le_refl _
  | some o =>
    cases o with
    | ok k => exact kfull_ok fun h => hf h k rfl
    | eagain => exact rfl
    | eintr => exact rfl
    | err e =>
      dsimp only
      split
      · exact rfl
      · next he => exact ⟨⟨by omega, by omega⟩, rfl⟩

theorem skipEintr_mem (l : List Outcome) :
    (∀ o, (skipEintr l).2.1 = some o → o ∈ l) ∧ (∀ o, o ∈ (skipEintr l).2.2 → o ∈ l) := by
  induction l with
  | nil => simp [skipEintr]
  | cons a t ih =>
    cases a with
    | eintr => exact ⟨fun o ho => .tail _ (ih.1 o ho), fun o ho => .tail _ (ih.2 o ho)⟩
    | _ => exact ⟨fun o ho => Option.some.inj ho ▸ .head _, fun o ho => .tail _ ho⟩

/-- every scripted successful read offers at least `K` bytes (so none is short of a buffer of size ≤ `K`) -/
def NoShort (K : Nat) (l : List Outcome) : Prop := ∀ o ∈ l, ∀ k, o = .ok k → K ≤ k

/-- the environment condition under which a hang-up loses nothing: an IPC pipe (READ_PARTIAL is never
    set), or a kernel that hands over min(buffer, available) bytes on every successful read.  The second
    alternative needs the user's buffer sizes bounded by `K`; a script without `ok` outcomes (natural reads
    only) meets its `NoShort` half for every `K`. -/
def EnvOK (u : User) (K : Nat) (ipc : Bool) (l : List Outcome) : Prop :=
  ipc = true ∨ ((∀ i, u.allocS i ≤ K) ∧ NoShort K l)

theorem EnvOK.mono {u : User} {K : Nat} {ipc : Bool} {l l' : List Outcome} (H : EnvOK u K ipc l)
    (hsub : ∀ o, o ∈ l' → o ∈ l) : EnvOK u K ipc l' :=
  H.imp_right fun ⟨hA, hN⟩ => ⟨hA, fun o ho => hN o (hsub o ho)⟩

/-- what keeps the loop of uv__read going under `EnvOK` -/
def Going (u : User) (K : Nat) (ipc : Bool) (s : St) : Prop :=
  s.readPartial = false ∧ s.ipc = ipc ∧ EnvOK u K ipc s.oracle

/-- a round under `EnvOK`, in the shape `readLoop_rec` asks for: the loop goes on with `Going`, or is left
    with READ_PARTIAL set only on a drained non-IPC stream -/
def GoingOrDrained (u : User) (K : Nat) (ipc : Bool) (a : St × Bool) : Prop :=
  if a.2 then Going u K ipc a.1 else a.1.readPartial = true → a.1.kbuf = [] ∧ ipc = false

theorem afterRead_going (u : User) (K : Nat) (ipc : Bool) (s : St) (id sz : Nat) (r : RRes) (k0 : List Byte)
    (shut : Bool) (h : Going u K ipc s) (hk : KOk k0 shut sz (ipc = false) (r, s.kbuf)) :
    GoingOrDrained u K ipc (afterRead u s id sz r) := by
  unfold GoingOrDrained
  rcases afterRead_frame u s id sz r with ⟨-, -, hi', ho, hp⟩ | ⟨⟨-, hk', -⟩, h2, hi0, bs, rfl, hlt⟩
  · split
    · exact ⟨hp.trans h.1, hi'.trans h.2.1, ho ▸ h.2.2⟩
    · exact fun hp' => absurd (hp.symm.trans hp' ▸ h.1) nofun
  · rw [h2]
    have hi := h.2.1 ▸ hi0
    exact fun _ => ⟨hk'.trans (hk.2.2.2 hi hlt), hi⟩

theorem readRound_going (u : User) (K : Nat) (ipc : Bool) (s : St) (h : Going u K ipc s) :
    GoingOrDrained u K ipc (readRound u s) := by
  have hm := skipEintr_mem s.oracle
  unfold readRound GoingOrDrained
  dsimp only
  split
  · intro hp
    rw [(same_callReadCb u).2.2.2.2] at hp
    exact absurd (h.1 ▸ hp) nofun
  · refine afterRead_going u K ipc _ _ _ _ s.kbuf s.peerShut ⟨h.1, h.2.1, h.2.2.mono hm.2⟩ (kread_ok ?_)
    intro hi k hk
    rcases h.2.2 with h1 | ⟨hA, hN⟩
    · cases hi.symm.trans h1
    · exact Nat.le_trans (hA _) (hN _ (hm.1 _ hk) k rfl)

end UvModel.StreamR
