import UvModel.Lemmas.InetPton4
/-!
  `inet_pton6` against the grammar `Ipv6Text`, in this order: the groups read so far as ghost state of the loop;
  the by-hand `memmove` at the end of `inet_pton6` (`shiftLoop_memmove`); soundness (`pton6Loop_sound`, one statement
  for the part before and the part after "::"); the 45-character bound on accepted texts and with it the `%zone`
  lemmas for `uv_inet_pton`/`uv_ip6_addr`; completeness, replaying the grammar's derivation on the loop; the value.
-/
namespace UvModel.Inet

/-- nothing, or a sequence of the grammar `S` with its bytes: the two optional parts of `Ipv6Text.compressed` -/
abbrev Opt (S : List Nat → List Nat → Prop) (s bs : List Nat) : Prop := s = [] ∧ bs = [] ∨ S s bs

theorem hexSeq_groupSeq {s bs : List Nat} (h : HexSeq s bs) : GroupSeq s bs := by
  induction h with
  | one h => exact GroupSeq.one h
  | cons h _ ih => exact GroupSeq.cons h ih

/-- group texts: 1..4 hex digits each -/
def AllH16 (gs : List (List Nat)) : Prop := ∀ g ∈ gs, IsH16 g (hexFold g)
/-- the digits of the group being read -/
def CurOk (cur : List Nat) : Prop := cur.length ≤ 4 ∧ ∀ c ∈ cur, (hexVal c).isSome
/-- consumed text of completed groups: each followed by ':' -/
def preG (gs : List (List Nat)) : List Nat := gs.flatMap fun g => g ++ [58]
def bytesG (gs : List (List Nat)) : List Nat := gs.flatMap fun g => wbytes (hexFold g)

theorem wbytes_len (w : Nat) : (wbytes w).length = 2 := rfl

theorem isH16_ne_nil {t : List Nat} {w : Nat} (h : IsH16 t w) : t ≠ [] := h.1

theorem bytesG_nil_of_len (gs : List (List Nat)) (h : AllH16 gs) (h0 : (bytesG gs).length = 0) : gs = [] := by
  cases gs with
  | nil => rfl
  | cons g gs => simp [bytesG, wbytes_len] at h0

theorem preG_snoc (gs : List (List Nat)) (g : List Nat) : preG (gs ++ [g]) = preG gs ++ g ++ [58] := by
  simp [preG]
theorem bytesG_snoc (gs : List (List Nat)) (g : List Nat) : bytesG (gs ++ [g]) = bytesG gs ++ wbytes (hexFold g) := by
  simp [bytesG]
theorem allH16_snoc (gs : List (List Nat)) (g : List Nat) (h : AllH16 gs) (hg : IsH16 g (hexFold g)) :
    AllH16 (gs ++ [g]) :=
  List.forall_mem_append.2 ⟨h, fun x hx => List.mem_singleton.1 hx ▸ hg⟩

theorem hexFold_snoc (cur : List Nat) (ch : Nat) : hexFold (cur ++ [ch]) = hexFold cur * 16 + (hexVal ch).getD 0 := by
  simp [hexFold, List.foldl_append]

theorem groupSeq_pre (gs : List (List Nat)) (s bs : List Nat) (h : AllH16 gs) (hs : GroupSeq s bs) :
    GroupSeq (preG gs ++ s) (bytesG gs ++ bs) := by
  induction gs with
  | nil => exact hs
  | cons g gs ih =>
    obtain ⟨hg, h⟩ := List.forall_mem_cons.1 h
    simpa [preG, bytesG] using GroupSeq.cons hg (ih h)

theorem hexSeq_preG (gs : List (List Nat)) (hne : gs ≠ []) (h : AllH16 gs) :
    ∃ l, preG gs = l ++ [58] ∧ HexSeq l (bytesG gs) := by
  induction gs with
  | nil => exact absurd rfl hne
  | cons g gs ih =>
    obtain ⟨hg, h⟩ := List.forall_mem_cons.1 h
    by_cases hgs : gs = []
    · subst hgs
      exact ⟨g, by simp [preG], by simpa [bytesG] using HexSeq.one hg⟩
    · obtain ⟨l, e, hl⟩ := ih hgs h
      refine ⟨g ++ 58 :: l, ?_, by simpa [bytesG] using HexSeq.cons hg hl⟩
      have : preG (g :: gs) = g ++ 58 :: preG gs := by simp [preG]
      rw [this, e]; simp

theorem set_at (A B : List Nat) (x y : Nat) (k : Nat) (hk : k = A.length) : (A ++ x :: B).set k y = A ++ y :: B := by
  subst hk
  induction A with
  | nil => simp
  | cons a A ih => simp [ih]

theorem getD_at (A B : List Nat) (x : Nat) (k : Nat) (hk : k = A.length) : (A ++ x :: B).getD k 0 = x := by
  subst hk
  induction A with
  | nil => simp
  | cons a A ih => simp

/-- One iteration: the byte before the gap of zeros goes to its end.  Stated for arbitrary lists, so that
    the `set`/`getD` rewrites act on small terms. -/
theorem shiftLoop_step (c n fuel i : Nat) (A Z T : List Nat) (x : Nat) (h1 : c + n = A.length + i)
    (h2 : 16 = (A ++ x :: Z).length + i) :
    shiftLoop c n (fuel + 1) i (A ++ x :: (Z ++ 0 :: T)) = shiftLoop c n fuel (i + 1) (A ++ 0 :: (Z ++ x :: T)) := by
  have e1 : A ++ x :: (Z ++ 0 :: T) = (A ++ x :: Z) ++ 0 :: T := by
    rw [List.append_assoc, List.cons_append]
  have e2 : A ++ x :: Z ++ x :: T = A ++ x :: (Z ++ x :: T) := by
    rw [List.append_assoc, List.cons_append]
  have h1 := Nat.sub_eq_of_eq_add h1
  rw [shiftLoop, getD_at _ _ _ _ h1, e1, set_at _ _ _ _ _ (Nat.sub_eq_of_eq_add h2), e2, set_at _ _ _ _ _ h1]

/-- `R` (reversed) is what is still to be moved, `T` what has been moved -/
theorem shiftLoop_move (lb : List Nat) (z n : Nat) : ∀ R T : List Nat, n = R.length + T.length →
    lb.length + n + (z + 1) = 16 →
    shiftLoop lb.length n R.length (T.length + 1) (lb ++ R.reverse ++ List.replicate (z + 1) 0 ++ T) =
      lb ++ List.replicate (z + 1) 0 ++ R.reverse ++ T := by
  intro R
  induction R with
  | nil => intros; simp [shiftLoop]
  | cons x R ih =>
    intro T hn h16
    rw [List.length_cons] at hn
    have e0 : lb ++ (x :: R).reverse ++ List.replicate (z + 1) 0 ++ T =
        (lb ++ R.reverse) ++ x :: (List.replicate z 0 ++ 0 :: T) := by
      rw [List.replicate_succ', List.reverse_cons]
      simp only [List.append_assoc, List.cons_append, List.nil_append]
    have := ih (x :: T) (by rw [List.length_cons]; omega) h16
    rw [List.replicate_succ] at this
    rw [List.length_cons, e0, shiftLoop_step _ _ _ _ _ _ _ _
      (by rw [List.length_append, List.length_reverse]; omega)
      (by rw [List.length_append, List.length_append, List.length_reverse, List.length_cons, List.length_replicate]; omega),
      List.reverse_cons, List.replicate_succ]
    simpa only [List.append_assoc, List.cons_append, List.nil_append, List.length_cons] using this

/-- the shift loop moves the bytes written after "::" to the end and zero-fills the gap -/
theorem shiftLoop_memmove (lb rb : List Nat) (hlen : lb.length + rb.length < 16) :
    shiftLoop lb.length rb.length rb.length 1 (lb ++ rb ++ List.replicate (16 - (lb.length + rb.length)) 0) =
    lb ++ List.replicate (16 - (lb.length + rb.length)) 0 ++ rb := by
  obtain ⟨z, hz⟩ : ∃ z, 16 - (lb.length + rb.length) = z + 1 := ⟨16 - (lb.length + rb.length) - 1, by omega⟩
  have := shiftLoop_move lb z rb.length rb.reverse [] (by rw [List.length_reverse]; rfl) (by omega)
  rw [List.reverse_reverse, List.length_reverse, List.append_nil, List.append_nil] at this
  rw [hz]
  exact this

theorem pton6Tail_some (lb rb : List Nat) (h : lb.length + rb.length < 16) :
    pton6Tail (lb ++ rb) (some lb.length) =
      some (lb ++ List.replicate (16 - (lb.length + rb.length)) 0 ++ rb) := by
  have := shiftLoop_memmove lb rb h
  simp only [pton6Tail, List.length_append]
  rw [if_neg (by omega), Nat.add_sub_cancel_left, this]

theorem pton6Tail_none (tp v : List Nat) (h : pton6Tail tp none = some v) : tp.length = 16 ∧ v = tp := by
  obtain ⟨h16, h⟩ := ite_none_eq_some (show (if tp.length ≠ 16 then none else some tp) = some v from h)
  exact ⟨Classical.not_not.1 h16, (Option.some.inj h).symm⟩

theorem dottedQuad_len (t v : List Nat) (h : DottedQuad t v) : t.length ≤ 15 ∧ v.length = 4 := by
  obtain ⟨a, b, c, d, _, _, _, _, rfl, rfl⟩ := (dottedQuad_iff t v).1 h
  exact ⟨(fmt4_len _).2, rfl⟩

/-- What `pton6Loop` returning `v` says of the text `txt` it starts on with `tp0` already in `tmp`:
    with `colonp` fixed the loop reads a group sequence up to the end of input and hands its bytes to
    `pton6Tail`; with `colonp = NULL` it may instead meet "::" after whole groups and start again with
    `colonp` set. -/
def LoopReads (tp0 : List Nat) (cp : Option Nat) (v txt : List Nat) : Prop :=
  (∃ bs, Opt GroupSeq txt bs ∧ (tp0 ++ bs).length ≤ 16 ∧ pton6Tail (tp0 ++ bs) cp = some v) ∨
  (cp = none ∧ ∃ gs r, AllH16 gs ∧ txt = preG gs ++ 58 :: r ∧ (tp0 ++ bytesG gs).length ≤ 16 ∧
    pton6Loop r r 0 0 (tp0 ++ bytesG gs) (some (tp0 ++ bytesG gs).length) = some v)

/-- Ghost state: `gs` the groups completed after `tp0`, `cur` the digits of the group being read. -/
theorem pton6Loop_sound (tp0 src : List Nat) :
    ∀ (gs : List (List Nat)) (cur curtok : List Nat) (seen val : Nat) (tp : List Nat) (cp : Option Nat) (v : List Nat),
    curtok = cur ++ src → seen = cur.length → val = hexFold cur → tp = tp0 ++ bytesG gs →
    AllH16 gs → CurOk cur → tp.length ≤ 16 → (cur = [] → gs ≠ [] → src ≠ []) →
    pton6Loop src curtok seen val tp cp = some v → LoopReads tp0 cp v (preG gs ++ cur ++ src) := by
  induction src with
  | nil =>
    intro gs cur curtok seen val tp cp v hct hseen hval htp hgs hcur htl hne h
    subst hct hseen hval htp
    rw [pton6Loop, pton6Finish] at h
    left
    by_cases hc0 : cur = []
    · subst hc0
      have hg0 : gs = [] := Classical.byContradiction fun hg => hne rfl hg rfl
      subst hg0
      rw [if_neg (fun h => h rfl)] at h
      exact ⟨[], .inl ⟨rfl, rfl⟩, htl, h⟩
    · have hs0 : cur.length ≠ 0 := fun h0 => hc0 (List.eq_nil_of_length_eq_zero h0)
      rw [if_pos hs0] at h
      obtain ⟨hroom, h⟩ := ite_none_eq_some h
      rw [List.append_assoc] at h
      refine ⟨bytesG gs ++ wbytes (hexFold cur), .inr ?_, ?_, h⟩
      · rw [List.append_nil]
        exact groupSeq_pre gs _ _ hgs (.one ⟨hc0, hcur.1, hcur.2, rfl⟩)
      · simp only [List.length_append, wbytes_len] at hroom ⊢; omega
  | cons ch rest ih =>
    intro gs cur curtok seen val tp cp v hct hseen hval htp hgs hcur htl hne h
    subst hct hseen hval htp
    rw [pton6Loop] at h
    cases hd : hexVal ch with
    | some d =>
      simp only [hd] at h
      obtain ⟨h4, h⟩ := ite_none_eq_some h
      have := ih gs (cur ++ [ch]) _ _ _ _ cp v (List.append_cons cur ch rest) (List.length_append ..).symm
        (by rw [hexFold_snoc, hd]; rfl) rfl hgs
        ⟨by rw [List.length_append]; exact Nat.not_lt.1 h4,
          List.forall_mem_append.2 ⟨hcur.2, fun c hc => by rw [List.mem_singleton.1 hc, hd]; rfl⟩⟩
        htl (fun h0 => absurd h0 (List.append_ne_nil_of_right_ne_nil _ (List.cons_ne_nil _ _))) h
      rwa [show preG gs ++ (cur ++ [ch]) ++ rest = preG gs ++ cur ++ ch :: rest by
        simp only [List.append_assoc, List.cons_append, List.nil_append]] at this
    | none =>
      simp only [hd] at h
      by_cases h58 : ch = 58
      · subst h58
        rw [if_pos rfl] at h
        by_cases hs0 : cur.length = 0
        · have hc0 := List.eq_nil_of_length_eq_zero hs0
          subst hc0
          rw [if_pos hs0] at h
          cases cp with
          | some c => simp at h
          | none => exact .inr ⟨rfl, gs, rest, hgs, by rw [List.append_nil], htl, h⟩
        · have hc0 : cur ≠ [] := fun h0 => hs0 (by rw [h0]; rfl)
          rw [if_neg hs0] at h
          obtain ⟨hrest, h⟩ := ite_none_eq_some h
          obtain ⟨hroom, h⟩ := ite_none_eq_some h
          have := ih (gs ++ [cur]) [] rest 0 0 _ cp v rfl rfl rfl
            (by rw [bytesG_snoc, List.append_assoc]) (allH16_snoc gs cur hgs ⟨hc0, hcur.1, hcur.2, rfl⟩)
            ⟨Nat.zero_le _, fun _ hx => nomatch hx⟩ (by simp only [List.length_append, wbytes_len] at hroom ⊢; omega)
            (fun _ _ => hrest) h
          rwa [preG_snoc, show preG gs ++ cur ++ [58] ++ [] ++ rest = preG gs ++ cur ++ 58 :: rest by
            simp only [List.append_assoc, List.cons_append, List.nil_append]] at this
      · rw [if_neg h58] at h
        obtain ⟨⟨rfl, hroom⟩, h⟩ := ite_else_none_eq_some h
        · cases hv4 : pton4 (cur ++ 46 :: rest) with
          | none => simp only [hv4] at h; cases h
          | some v4 =>
            simp only [hv4, pton6Finish] at h
            rw [if_neg (fun h => h rfl), List.append_assoc] at h
            have hq := (pton4_iff _ _).1 hv4
            have hl4 := (dottedQuad_len _ _ hq).2
            refine .inl ⟨bytesG gs ++ v4, .inr ?_, ?_, h⟩
            · rw [List.append_assoc]
              exact groupSeq_pre gs _ _ hgs (.quad hq)
            · simp only [List.length_append] at hroom ⊢; omega

theorem pton6Loop_sound_start (tp0 r : List Nat) (cp : Option Nat) (v : List Nat) (hl : tp0.length ≤ 16)
    (h : pton6Loop r r 0 0 tp0 cp = some v) : LoopReads tp0 cp v r :=
  pton6Loop_sound tp0 r [] [] r 0 0 tp0 cp v rfl rfl rfl (List.append_nil _).symm (fun _ hx => nomatch hx)
    ⟨Nat.zero_le _, fun _ hx => nomatch hx⟩ hl (fun _ h => absurd rfl h) h

theorem pton6Loop_after (lb r v : List Nat) (hl : lb.length ≤ 16)
    (h : pton6Loop r r 0 0 lb (some lb.length) = some v) :
    ∃ rb, Opt GroupSeq r rb ∧ lb.length + rb.length < 16 ∧
      v = lb ++ List.replicate (16 - (lb.length + rb.length)) 0 ++ rb := by
  rcases pton6Loop_sound_start lb r _ v hl h with ⟨rb, hr, hlen, ht⟩ | ⟨hcp, _⟩
  · have h16 : lb.length + rb.length < 16 := by
      by_cases h16 : (lb ++ rb).length = 16
      · simp [pton6Tail, h16] at ht
      · simp only [List.length_append] at hlen h16; omega
    rw [pton6Tail_some lb rb h16] at ht
    exact ⟨rb, hr, h16, (Option.some.inj ht).symm⟩
  · cases hcp

theorem pton6_sound (s v : List Nat) (h : pton6 s = some v) : Ipv6Text s v := by
  unfold pton6 at h
  split at h
  · rename_i rest
    split at h
    · rename_i rest'
      rw [pton6Loop] at h
      simp [hexVal] at h
      obtain ⟨rb, hr, hlen, rfl⟩ := pton6Loop_after [] rest' v (by simp) h
      exact Ipv6Text.compressed (l := []) (.inl ⟨rfl, rfl⟩) hr hlen
    · cases h
  · rename_i hne
    rcases pton6Loop_sound_start [] s none v (Nat.zero_le _) h with ⟨bs, hs, -, ht⟩ | ⟨-, gs, r, hgs, rfl, hlen, hr⟩
    · obtain ⟨h16, rfl⟩ := pton6Tail_none _ _ ht
      rcases hs with ⟨-, rfl⟩ | hs
      · cases h16
      · exact Ipv6Text.full hs h16
    · have hg : gs ≠ [] := by
        rintro rfl
        exact hne r rfl
      obtain ⟨l, hl, hseq⟩ := hexSeq_preG gs hg hgs
      obtain ⟨rb, hrb, hlen', rfl⟩ := pton6Loop_after (bytesG gs) r v (by simpa using hlen) (by simpa using hr)
      rw [hl, List.append_assoc]
      exact Ipv6Text.compressed (.inr hseq) hrb hlen'

theorem hexSeq_len (s bs : List Nat) (h : HexSeq s bs) : 2 * s.length + 2 ≤ 5 * bs.length := by
  induction h with
  | one h => have := h.2.1; simp only [wbytes_len]; omega
  | cons h _ ih => have := h.2.1; simp only [List.length_append, List.length_cons, wbytes_len] at ih ⊢; omega

theorem groupSeq_len (s bs : List Nat) (h : GroupSeq s bs) : 2 * s.length + 2 ≤ 5 * bs.length + 12 := by
  induction h with
  | one h => have := h.2.1; simp only [wbytes_len]; omega
  | quad h => have := dottedQuad_len _ _ h; omega
  | cons h _ ih => have := h.2.1; simp only [List.length_append, List.length_cons, wbytes_len] at ih ⊢; omega

/-- no IPv6 text is longer than 45 characters (INET6_ADDRSTRLEN - 1) -/
theorem ipv6Text_len (s v : List Nat) (h : Ipv6Text s v) : s.length ≤ 45 := by
  cases h with
  | full hg hl => have := groupSeq_len s v hg; omega
  | compressed hl hr hlen =>
    rename_i l lb r rb
    have h1 : 2 * l.length ≤ 5 * lb.length := by
      rcases hl with ⟨rfl, rfl⟩ | hl
      · exact Nat.le_refl _
      · have := hexSeq_len _ _ hl; omega
    have h2 : 2 * r.length ≤ 5 * rb.length + 10 := by
      rcases hr with ⟨rfl, rfl⟩ | hr
      · exact Nat.zero_le _
      · have := groupSeq_len _ _ hr; omega
    simp only [List.length_append, List.length_cons]; omega

theorem pton6_len (s v : List Nat) (h : pton6 s = some v) : s.length ≤ 45 :=
  ipv6Text_len s v (pton6_sound s v h)

theorem uvInetPton6_nopct (a : List Nat) (h : 37 ∉ a) : uvInetPton AF_INET6 a = ofOpt (pton6 a) := by
  simp [uvInetPton, AF_INET, AF_INET6, h]

/-- the length checks on the address part never reject what `inet_pton6` would accept -/
theorem ofOpt_pton6_long (a : List Nat) (hl : 45 < a.length) : (UV_EINVAL, []) = ofOpt (pton6 a) := by
  cases hp : pton6 a with
  | none => rfl
  | some v => have := pton6_len a v hp; omega

theorem uvInetPton6_zone (a z : List Nat) (h : 37 ∉ a) :
    uvInetPton AF_INET6 (a ++ 37 :: z) = ofOpt (pton6 a) := by
  unfold uvInetPton
  rw [if_neg (by decide : ¬ AF_INET6 = AF_INET), if_pos rfl, if_pos (by simp)]
  simp only []
  rw [takeWhile_ne_append 37 a z h]
  by_cases hl : a.length > 45
  · rw [if_pos hl, ofOpt_pton6_long a hl]
  · rw [if_neg hl]

theorem uvIp6Addr_zone (a z : List Nat) (h : 37 ∉ a) :
    uvIp6Addr (a ++ 37 :: z) = uvInetPton AF_INET6 a := by
  unfold uvIp6Addr
  rw [if_pos (by simp)]
  simp only []
  rw [takeWhile_ne_append 37 a z h, uvInetPton6_nopct a h]
  by_cases hl : a.length ≥ 46
  · rw [if_pos hl, ofOpt_pton6_long a hl]
  · rw [if_neg hl]

theorem hexVal_colon : hexVal 58 = none := by decide

theorem pton6Loop_digits (t : List Nat) : ∀ (rest ct : List Nat) (seen val : Nat) (tp : List Nat) (cp : Option Nat),
    (∀ c ∈ t, (hexVal c).isSome) → seen + t.length ≤ 4 →
    pton6Loop (t ++ rest) ct seen val tp cp =
      pton6Loop rest ct (seen + t.length) (t.foldl (fun a c => a * 16 + (hexVal c).getD 0) val) tp cp := by
  induction t with
  | nil => intros; rfl
  | cons c t ih =>
    intro rest ct seen val tp cp hh hl
    obtain ⟨d, hd⟩ := Option.isSome_iff_exists.1 (hh c (List.mem_cons_self ..))
    rw [List.length_cons] at hl
    rw [List.cons_append, pton6Loop]
    simp only [hd]
    rw [if_neg (by omega), ih rest ct (seen + 1) _ tp cp (fun x hx => hh x (List.mem_cons_of_mem _ hx)) (by omega),
      List.length_cons, List.foldl_cons, hd, Nat.add_assoc, Nat.add_comm 1]
    rfl

theorem pton6Loop_group (t : List Nat) (w : Nat) (h : IsH16 t w) (rest ct tp : List Nat) (cp : Option Nat) :
    pton6Loop (t ++ rest) ct 0 0 tp cp = pton6Loop rest ct t.length w tp cp := by
  obtain ⟨_, hl, hh, hw⟩ := h
  rw [pton6Loop_digits t rest ct 0 0 tp cp hh (by omega), Nat.zero_add, ← hw]
  rfl

theorem pton6Loop_group_colon {t : List Nat} {w : Nat} (h : IsH16 t w) (rest ct tp : List Nat) (cp : Option Nat)
    (hr : rest ≠ []) (hroom : tp.length + 2 ≤ 16) :
    pton6Loop (t ++ 58 :: rest) ct 0 0 tp cp = pton6Loop rest rest 0 0 (tp ++ wbytes w) cp := by
  rw [pton6Loop_group t w h, pton6Loop]
  simp only [hexVal_colon]
  rw [if_pos trivial, if_neg (fun h0 => h.1 (List.eq_nil_of_length_eq_zero h0)), if_neg hr, if_neg (by omega)]

theorem pton6Loop_dcolon (rest ct : List Nat) (val : Nat) (tp : List Nat) :
    pton6Loop (58 :: rest) ct 0 val tp none = pton6Loop rest rest 0 val tp (some tp.length) := by
  rw [pton6Loop]
  simp [hexVal_colon]

theorem pton6Loop_quad (q v tp : List Nat) (cp : Option Nat) (h : DottedQuad q v) (hroom : tp.length + 4 ≤ 16) :
    pton6Loop q q 0 0 tp cp = pton6Tail (tp ++ v) cp := by
  have hp := (pton4_iff q v).2 h
  obtain ⟨t1, t2, t3, t4, a, b, c, d, h1, -, -, -, hq, -⟩ := h
  have hhex : ∀ c ∈ t1, (hexVal c).isSome := fun c hc => by
    have := h1.2.2.1 c hc
    simp [hexVal, this]
  conv => lhs; arg 1; rw [hq]
  rw [pton6Loop_digits t1 _ q 0 0 tp cp hhex (by have := h1.2.1; omega), pton6Loop]
  simp only [show hexVal 46 = none by decide]
  rw [if_neg (by decide), if_pos ⟨trivial, hroom⟩]
  simp only [hp, pton6Finish]
  rfl

theorem isH16_head {t : List Nat} {w : Nat} (h : IsH16 t w) : ∃ c r, t = c :: r ∧ c ≠ 58 := by
  obtain ⟨hne, _, hh, _⟩ := h
  cases t with
  | nil => exact absurd rfl hne
  | cons c r =>
    refine ⟨c, r, rfl, fun hc => ?_⟩
    have := hh c (List.mem_cons_self ..)
    rw [hc, hexVal_colon] at this
    cases this

theorem groupSeq_head {s bs : List Nat} (h : GroupSeq s bs) : ∃ c r, s = c :: r ∧ c ≠ 58 := by
  cases h with
  | one h => exact isH16_head h
  | quad h =>
    obtain ⟨t1, t2, t3, t4, a, b, c, d, h1, -, -, -, rfl, -⟩ := h
    obtain ⟨x, t', rfl, hx, -⟩ := isOctet_cons h1
    exact ⟨x, _, rfl, by omega⟩
  | cons h _ =>
    obtain ⟨c, r, rfl, hc⟩ := isH16_head h
    exact ⟨c, _, rfl, hc⟩

theorem pton6Loop_groupSeq (s bs : List Nat) (h : GroupSeq s bs) :
    ∀ (tp : List Nat) (cp : Option Nat), tp.length + bs.length ≤ 16 →
    pton6Loop s s 0 0 tp cp = pton6Tail (tp ++ bs) cp := by
  induction h with
  | @one t w h =>
    intro tp cp hroom
    have := pton6Loop_group t w h [] t tp cp
    rw [List.append_nil] at this
    rw [this, pton6Loop, pton6Finish, if_pos (fun h0 => h.1 (List.eq_nil_of_length_eq_zero h0)),
      if_neg (by rw [wbytes_len] at hroom; omega)]
  | @quad t v h =>
    intro tp cp hroom
    exact pton6Loop_quad t v tp cp h (by have := (dottedQuad_len _ _ h).2; omega)
  | @cons t w s' bs' h hs ih =>
    intro tp cp hroom
    obtain ⟨c, r, hcr, -⟩ := groupSeq_head hs
    rw [List.length_append, wbytes_len] at hroom
    rw [pton6Loop_group_colon h s' _ tp cp (by rw [hcr]; exact List.cons_ne_nil _ _) (by omega),
      ih (tp ++ wbytes w) cp (by rw [List.length_append, wbytes_len]; omega), List.append_assoc]

theorem pton6Loop_hexSeq (l lb : List Nat) (h : HexSeq l lb) :
    ∀ (r tp : List Nat), tp.length + lb.length ≤ 16 →
    pton6Loop (l ++ 58 :: 58 :: r) (l ++ 58 :: 58 :: r) 0 0 tp none =
      pton6Loop r r 0 0 (tp ++ lb) (some (tp ++ lb).length) := by
  induction h with
  | @one t w h =>
    intro r tp hroom
    rw [wbytes_len] at hroom
    rw [pton6Loop_group_colon h _ _ tp none (List.cons_ne_nil _ _) (by omega), pton6Loop_dcolon]
  | @cons t w s' bs' h hs ih =>
    intro r tp hroom
    rw [List.length_append, wbytes_len] at hroom
    have e : t ++ 58 :: s' ++ 58 :: 58 :: r = t ++ 58 :: (s' ++ 58 :: 58 :: r) := by
      rw [List.append_assoc, List.cons_append]
    rw [e, pton6Loop_group_colon h _ _ tp none (List.append_ne_nil_of_right_ne_nil _ (List.cons_ne_nil _ _)) (by omega),
      ih r (tp ++ wbytes w) (by rw [List.length_append, wbytes_len]; omega), List.append_assoc]

theorem pton6_of_head (c : Nat) (r : List Nat) (hc : c ≠ 58) :
    pton6 (c :: r) = pton6Loop (c :: r) (c :: r) 0 0 [] none := by
  unfold pton6
  split
  · rename_i rest heq
    exact absurd (List.cons.inj heq).1 hc
  · rfl

theorem pton6Loop_rpart (lb r rb : List Nat) (hr : Opt GroupSeq r rb)
    (hlen : lb.length + rb.length < 16) :
    pton6Loop r r 0 0 lb (some lb.length) =
      some (lb ++ List.replicate (16 - (lb.length + rb.length)) 0 ++ rb) := by
  rw [← pton6Tail_some lb rb hlen]
  rcases hr with ⟨rfl, rfl⟩ | hr
  · rw [pton6Loop, pton6Finish, if_neg (fun h => h rfl), List.append_nil]
  · exact pton6Loop_groupSeq r rb hr lb _ (by omega)

theorem pton6_complete (s v : List Nat) (h : Ipv6Text s v) : pton6 s = some v := by
  cases h with
  | full hg hl =>
    obtain ⟨c, r, rfl, hc⟩ := groupSeq_head hg
    rw [pton6_of_head c r hc, pton6Loop_groupSeq _ _ hg [] none (by simp; omega)]
    simp [pton6Tail, hl]
  | @compressed l lb r rb hl hr hlen =>
    rcases hl with ⟨rfl, rfl⟩ | hl
    · have : pton6 ([] ++ 58 :: 58 :: r) = pton6Loop (58 :: r) (58 :: r) 0 0 [] none := by
        simp [pton6]
      rw [this, pton6Loop_dcolon]
      exact pton6Loop_rpart [] r rb hr hlen
    · obtain ⟨c, t, rfl, hc⟩ := groupSeq_head (hexSeq_groupSeq hl)
      rw [List.cons_append, pton6_of_head c _ hc, ← List.cons_append, pton6Loop_hexSeq _ _ hl r [] (by simp; omega)]
      exact pton6Loop_rpart ([] ++ lb) r rb hr (by simpa using hlen)

theorem pton6_iff (s v : List Nat) : pton6 s = some v ↔ Ipv6Text s v :=
  ⟨pton6_sound s v, pton6_complete s v⟩

theorem wbytes_lt (w : Nat) : ∀ b ∈ wbytes w, b < 256 := by
  intro b hb
  simp only [wbytes, List.mem_cons, List.not_mem_nil, or_false] at hb
  rcases hb with rfl | rfl <;> exact Nat.mod_lt _ (by decide)

theorem groupSeq_bytes {s bs : List Nat} (h : Opt GroupSeq s bs) : ∀ b ∈ bs, b < 256 := by
  rcases h with ⟨-, rfl⟩ | h
  · exact fun _ hb => nomatch hb
  induction h with
  | one h => exact wbytes_lt _
  | quad h =>
    obtain ⟨a, b, c, d, ha, hb, hc, hd, rfl, _⟩ := (dottedQuad_iff _ _).1 h
    simp only [List.forall_mem_cons]
    exact ⟨by omega, by omega, by omega, by omega, fun _ hx => nomatch hx⟩
  | cons h _ ih => exact List.forall_mem_append.2 ⟨wbytes_lt _, ih⟩

theorem ipv6Text_value (s v : List Nat) (h : Ipv6Text s v) : v.length = 16 ∧ ∀ b ∈ v, b < 256 := by
  cases h with
  | full hg hl => exact ⟨hl, groupSeq_bytes (.inr hg)⟩
  | @compressed l lb r rb hl hr hlen =>
    exact ⟨by simp; omega, List.forall_mem_append.2 ⟨List.forall_mem_append.2
      ⟨groupSeq_bytes (hl.imp id hexSeq_groupSeq), fun b hb => (List.mem_replicate.1 hb).2 ▸ by decide⟩,
      groupSeq_bytes hr⟩⟩

end UvModel.Inet
