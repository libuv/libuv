import UvModel.Lemmas.LoopApiSteps
/-!
  What callbacks and loop phases can do to the state, as far as any accounting invariant can see.

  `CbStep`: inside a callback there are only API calls (`stepOp`) and trace lines.  `Reach0 ph`: a phase adds the
  entry of a handle callback, the completion sites (a request leaves its slot, its record is dropped, its callback
  starts) and the window of `uv__stream_destroy` (the connect request is unregistered before, `connect_req`
  cleared after the callback); every callback line carries the phase `ph`.  `Reach` adds what only the poll loop
  does (an answer of the poller is consumed, the poll line, the halt marker), `ReachC` what only
  `uv__run_closing_handles` does.  Every phase function is decomposed into these once (`*_reach`); an invariant
  or a relation between states is then checked against the constructors.
-/
namespace UvModel.Loop
open UvModel.HandleKernels

namespace Reqs

def isReqK : CbKind → Bool
  | .work | .udpSend | .connect => true
  | _ => false

def rcbE : Event → Option Nat
  | .cb _ k id _ _ => if isReqK k then some id else none
  | _ => none

end Reqs
open Reqs (isReqK rcbE)

/-- entry of a callback: the callback counter and the callback's trace line -/
def cbEv (ph : Phase) (k : CbKind) (id : Nat) (a b : Int) (s : State) : State :=
  emit { s with ncbTotal := s.ncbTotal + 1 } (.cb ph k id a b)

/-- neither a callback line nor a poll line -/
def plain : Event → Prop
  | .cb .. => False
  | .poll .. => False
  | _ => True

theorem plain.ne_cb {ev : Event} (h : plain ev) (ph : Phase) (k : CbKind) (i : Nat) (a b : Int) : ev ≠ .cb ph k i a b := by
  rintro rfl; exact h

inductive CbStep : State → State → Prop
  | quiet {s s'} : OpStep false none s s' → CbStep s s'
  | call (s o) : CbStep s (stepOp s o)
  | emit (s ev) : plain ev → CbStep s (emit s ev)
  | trans {a b c} : CbStep a b → CbStep b c → CbStep a c

theorem foldl_stepOp_cb (ops : List Op) (s : State) : CbStep s (ops.foldl stepOp s) := by
  induction ops generalizing s with
  | nil => exact .quiet (.refl _)
  | cons o t ih => exact (CbStep.call s o).trans (ih _)

/-- the body of a callback, after its entry -/
theorem runCb_cb (sc : Script) (ph : Phase) (k : CbKind) (key : CbKey) (id : Nat) (a b : Int) (occ : Nat) (s : State) :
    CbStep (cbEv ph k id a b s) (runCb sc ph k key id a b occ s) :=
  (((CbStep.emit _ _ (by trivial)).trans (foldl_stepOp_cb _ _)).trans (.emit _ _ (by trivial))).trans (.emit _ _ (by trivial))

/-- callbacks and phase steps; every callback line carries the phase `ph` -/
inductive Reach0 : Phase → State → State → Prop
  | cb {ph s s'} : CbStep s s' → Reach0 ph s s'
  | trans {ph a b c} : Reach0 ph a b → Reach0 ph b c → Reach0 ph a c
  /-- uv__run_idle/prepare/check detach the watcher list and walk the detached queue -/
  | watchers (s l) : Reach0 ph s { s with watcherLocal := l }
  /-- a handle callback starts: the record exists -/
  | handleCb (s ph k i a b) : i ∈ hids s → isReqK k = false → k ≠ .close → Reach0 ph s (cbEv ph k i a b s)
  /-- uv__udp_run_completed takes the head of write_completed_queue -/
  | udpDone (s id h r st rest) (ph : Phase) (a b : Int) : getH s id = some h → h.wcq = (r, st) :: rest →
      Reach0 ph s (cbEv ph .udpSend r a b
        { modH s id (fun h => { h with wcq := rest, sqc := h.sqc - 1 }) with
          ar := reqUnregister s.ar, reqs := s.reqs.filter (·.id != r) })
  /-- uv__stream_io fails the pending connect request -/
  | connDone (s id h r) (ph : Phase) (a b : Int) : getH s id = some h → h.connReq = some r →
      Reach0 ph s (cbEv ph .connect r a b
        (ioStop { modH s id (fun h => { h with connReq := none }) with
          ar := reqUnregister s.ar, reqs := s.reqs.filter (·.id != r) } (.h id) POLLOUT))
  /-- uv__work_done / uv__poll_io_uring take the head of the detached queue -/
  | workDone (s r c rest) (ph : Phase) (a b : Int) : s.doneLocal = (r, c) :: rest →
      Reach0 ph s (cbEv ph .work r a b
        { s with doneLocal := rest, ar := reqUnregister s.ar, reqs := s.reqs.filter (·.id != r) })
  /-- uv__udp_finish_close: the queued sends of a closing handle are cancelled -/
  | drain (s id) : Reach0 ph s (modH s id fun h => { h with wcq := h.wcq ++ h.wq.map (fun r => (r, (-125 : Int))), wq := [] })
  /-- uv__stream_destroy: the connect request is unregistered, its callback runs, then `connect_req` is cleared -/
  | destroy (s id h r s2) : getH s id = some h → h.connReq = some r →
      CbStep (cbEv .closing .connect r (-125) 0 { s with ar := reqUnregister s.ar, reqs := s.reqs.filter (·.id != r) }) s2 →
      Reach0 .closing s (modH s2 id fun h => { h with connReq := none })

namespace Reach0
variable {ph : Phase}

theorem quiet {s s' : State} (h : OpStep false none s s') : Reach0 ph s s' := .cb (.quiet h)
theorem frame {s s' : State} (h : key s' = key s) : Reach0 ph s s' := quiet (.frame h)
theorem refl (s : State) : Reach0 ph s s := frame rfl
theorem then_frame {a b c : State} (h : Reach0 ph a b) (hk : key c = key b) : Reach0 ph a c := h.trans (frame hk)
theorem frame_then {a b c : State} (hk : key b = key a) (h : Reach0 ph b c) : Reach0 ph a c := (frame hk).trans h
theorem ite {c : Prop} [Decidable c] {s a b : State} (ha : Reach0 ph s a) (hb : Reach0 ph s b) : Reach0 ph s (if c then a else b) := by
  split <;> assumption

end Reach0

theorem runCb_reach {s t : State} (sc : Script) (ph : Phase) (k : CbKind) (key : CbKey) (id : Nat) (a b : Int) (occ : Nat)
    (h : Reach0 ph s (cbEv ph k id a b t)) : Reach0 ph s (runCb sc ph k key id a b occ t) :=
  h.trans (.cb (runCb_cb ..))

theorem runHandleCb_reach (sc : Script) (ph : Phase) (k : CbKind) (hk : isReqK k = false) (hc : k ≠ .close) (id : Nat) (a b : Int)
    (s : State) : Reach0 ph s (runHandleCb sc ph k id a b s) := by
  unfold runHandleCb
  split
  · exact .refl _
  · rename_i h hg
    refine .frame_then (b := modH s id fun h => { h with ncb := h.ncb + 1 }) (key_modH _ _ _ (fun _ => rfl))
      (runCb_reach _ _ _ _ _ _ _ _ (.handleCb _ ph k id a b ?_ hk hc))
    rw [hids_modH]
    · exact getH_some_mem hg
    · intro _; rfl

theorem udpRunCompletedLoop_reach (sc : Script) (ph : Phase) (id : Nat) (fuel : Nat) (s : State) :
    Reach0 ph s (udpRunCompletedLoop sc ph id fuel s) := by
  induction fuel generalizing s with
  | zero => exact .refl _
  | succ n ih =>
    unfold udpRunCompletedLoop
    split
    · exact .refl _
    · rename_i h hf
      split
      · exact .refl _
      · rename_i r st rest hw
        exact (runCb_reach _ _ _ _ _ _ _ _ (.udpDone s id h r st rest ph _ _ hf hw)).trans (ih _)

theorem udpRunCompleted_reach (sc : Script) (ph : Phase) (id : Nat) (s : State) : Reach0 ph s (udpRunCompleted sc ph id s) := by
  unfold udpRunCompleted
  split
  · exact .refl _
  · rename_i h _
    simp only
    have h1 : Reach0 ph s (udpRunCompletedLoop sc ph id (h.wcq.length + 1) (modH s id fun h => { h with processing := true })) :=
      .frame_then (b := modH s id fun h => { h with processing := true }) (key_modH _ _ _ (fun _ => rfl))
        (udpRunCompletedLoop_reach ..)
    split
    · exact h1
    · refine Reach0.then_frame ?_ (key_modH _ _ _ (fun _ => rfl))
      split
      · split
        · exact (h1.then_frame (key_ioStop ..)).trans (.quiet (.stop _ id))
        · exact h1.then_frame (key_ioStop ..)
      · exact h1

theorem udpIo_reach (sc : Script) (ph : Phase) (id ev : Nat) (s : State) : Reach0 ph s (udpIo sc ph id ev s) := by
  unfold udpIo
  split
  · exact .refl _
  · rename_i f hf
    split
    · rename_i hc
      have ho : Open s.c id := fun f' hf' => by
        have : f' = f := Option.some.inj (hf'.symm.trans hf)
        exact this ▸ (hClosing_false (by simp at hc; exact hc.2)).1
      exact (Reach0.quiet (udpSendmsg_step s id ho)).trans (udpRunCompleted_reach ..)
    · exact .refl _

theorem udpFinishClose_reach (sc : Script) (ph : Phase) (id : Nat) (s : State) : Reach0 ph s (udpFinishClose sc ph id s) :=
  (Reach0.drain s id).trans (udpRunCompleted_reach ..)

theorem streamIo_reach (sc : Script) (ph : Phase) (id : Nat) (s : State) : Reach0 ph s (streamIo sc ph id s) := by
  unfold streamIo
  split
  · exact .refl _
  · rename_i h hf
    split
    · exact .refl _
    · rename_i r hr
      exact runCb_reach _ _ _ _ _ _ _ _ (.connDone s id h r ph _ _ hf hr)

theorem streamDestroy_reach (sc : Script) (id : Nat) (s : State) : Reach0 .closing s (streamDestroy sc id s) := by
  unfold streamDestroy
  split
  · exact .refl _
  · rename_i h hf
    split
    · exact .refl _
    · rename_i r hr
      exact .destroy s id h r _ hf hr (runCb_cb ..)

theorem pendingIo_reach (sc : Script) (ph : Phase) (id : Nat) (s : State) : Reach0 ph s (pendingIo sc ph id s) := by
  unfold pendingIo
  split
  · exact .refl _
  · split
    · exact udpIo_reach ..
    · exact streamIo_reach ..

theorem runPendingLoop_reach (sc : Script) (ph : Phase) (fuel : Nat) (s : State) : Reach0 ph s (runPendingLoop sc ph fuel s) := by
  induction fuel generalizing s with
  | zero => exact .refl _
  | succ n ih =>
    unfold runPendingLoop
    split
    · exact .refl _
    · rename_i id rest _
      exact .frame_then (b := { s with pendingLocal := rest }) rfl ((pendingIo_reach ..).trans (ih _))

theorem runPending_reach (sc : Script) (ph : Phase) (s : State) : Reach0 ph s (runPending sc ph s) :=
  .frame_then (b := { s with pendingLocal := s.pending, pending := [] }) rfl (runPendingLoop_reach ..)

theorem wCb_notReq (k : WKind) : isReqK (wCb k) = false ∧ wCb k ≠ .close := by cases k <;> exact ⟨rfl, nofun⟩

theorem runWatchersLoop_reach (sc : Script) (k : WKind) (fuel : Nat) (s : State) : Reach0 (wPhase k) s (runWatchersLoop sc k fuel s) := by
  induction fuel generalizing s with
  | zero => exact .refl _
  | succ n ih =>
    unfold runWatchersLoop
    split
    · exact .refl _
    · rename_i id rest _
      exact ((Reach0.watchers s rest).then_frame (key_setWList _ k (wList { s with watcherLocal := rest } k ++ [id]))).trans
        ((runHandleCb_reach _ _ _ (wCb_notReq k).1 (wCb_notReq k).2 ..).trans (ih _))

theorem runWatchers_reach (sc : Script) (k : WKind) (s : State) : Reach0 (wPhase k) s (runWatchers sc k s) :=
  ((Reach0.watchers s (wList s k)).then_frame (key_setWList _ k [])).trans (runWatchersLoop_reach ..)

theorem workDoneLoop_reach (sc : Script) (fuel : Nat) (s : State) : Reach0 .poll s (workDoneLoop sc fuel s) := by
  induction fuel generalizing s with
  | zero => exact .refl _
  | succ n ih =>
    unfold workDoneLoop
    split
    · exact .refl _
    · rename_i r c rest hd
      exact (runCb_reach _ _ _ _ _ _ _ _ (.workDone s r c rest .poll _ _ hd)).trans (ih _)

theorem workDone_reach (sc : Script) (s : State) : Reach0 .poll s (workDone sc s) :=
  (Reach0.quiet (.req (.detach s))).trans (workDoneLoop_reach ..)

theorem ringDone_reach (sc : Script) (cq : List Nat) (s : State) : Reach0 .poll s (ringDone sc cq s) :=
  (Reach0.quiet (.req (.take s cq))).trans (workDoneLoop_reach ..)

theorem asyncIoLoop_reach (sc : Script) (fuel : Nat) (s : State) : Reach0 .poll s (asyncIoLoop sc fuel s) := by
  induction fuel generalizing s with
  | zero => exact .refl _
  | succ n ih =>
    unfold asyncIoLoop
    split
    · exact .refl _
    · rename_i id rest _
      have h0 : Reach0 .poll s { s with asyncLocal := rest, asyncs := s.asyncs ++ [id] } := .frame rfl
      simp only
      split
      · exact h0.trans (ih _)
      · split
        · exact h0.trans (ih _)
        · refine Reach0.trans ?_ (ih _)
          have h1 := h0.then_frame (key_modH _ id (fun h => { h with pending := false }) (fun _ => rfl))
          split
          · exact h1.trans (workDone_reach ..)
          · exact h1.trans (runHandleCb_reach sc .poll .async rfl nofun ..)

theorem asyncIo_reach (sc : Script) (s : State) : Reach0 .poll s (asyncIo sc s) :=
  .frame_then (b := { s with asyncLocal := s.asyncs, asyncs := [] }) rfl (asyncIoLoop_reach ..)

theorem pollIo_reach (sc : Script) (id ev : Nat) (s : State) : Reach0 .poll s (pollIo sc id ev s) := by
  unfold pollIo
  split
  · exact ((Reach0.frame (key_ioStop s (.h id) POLLALL)).trans (.quiet (.stop _ id))).trans (runHandleCb_reach sc .poll .poll rfl nofun ..)
  · exact runHandleCb_reach sc .poll .poll rfl nofun ..

theorem dispatchLoop_reach (sc : Script) (fuel : Nat) (s : State) (n : Nat) (sg : Bool) :
    Reach0 .poll s (dispatchLoop sc fuel s n sg).1 := by
  induction fuel generalizing s n sg with
  | zero => exact .refl _
  | succ m ih =>
    unfold dispatchLoop
    split
    · exact .refl _
    · rename_i o ev rest _
      have h0 : Reach0 .poll s { s with batch := rest } := .frame rfl
      simp only
      split
      · exact h0.trans (ih ..)
      · split
        · exact h0.trans (ih ..)
        · exact h0.trans (ih ..)
      · split
        · exact h0.trans (ih ..)
        · exact h0.trans (ih ..)
      · split
        · exact h0.trans (ih ..)
        · exact (h0.trans (asyncIo_reach ..)).trans (ih ..)
      · split
        · exact h0.trans (ih ..)
        · split
          · exact h0.trans (ih ..)
          · refine Reach0.trans ?_ (ih ..)
            split
            · exact h0.trans (pollIo_reach ..)
            · exact h0.trans (udpIo_reach ..)
            · exact h0
      · split
        · exact (h0.trans (ringDone_reach ..)).trans (ih ..)
        · exact h0.trans (ih ..)

theorem collectTimers_reach (ph : Phase) (fuel : Nat) (s : State) : Reach0 ph s (collectTimers fuel s) := by
  induction fuel generalizing s with
  | zero => exact .refl _
  | succ n ih =>
    unfold collectTimers
    split
    · exact .refl _
    · split
      · exact .refl _
      · rename_i e _ _
        refine Reach0.trans ?_ (ih _)
        exact (Reach0.quiet (timerStop_step s e.id)).then_frame rfl

theorem fireTimers_reach (sc : Script) (ph : Phase) (fuel : Nat) (s : State) : Reach0 ph s (fireTimers sc ph fuel s) := by
  induction fuel generalizing s with
  | zero => exact .refl _
  | succ n ih =>
    unfold fireTimers
    split
    · exact .refl _
    · rename_i id rest _
      exact .frame_then (b := { s with tm := { s.tm with ready := rest } }) rfl
        (((Reach0.quiet (timerAgain_step _ id)).trans (runHandleCb_reach sc ph .timer rfl nofun ..)).trans (ih _))

theorem runTimers_reach (sc : Script) (ph : Phase) (s : State) : Reach0 ph s (runTimers sc ph s) :=
  (collectTimers_reach ..).trans (fireTimers_reach ..)

theorem pendingRounds_reach (sc : Script) (n : Nat) (s : State) : Reach0 .pending2 s (pendingRounds sc n s) := by
  induction n generalizing s with
  | zero => exact .refl _
  | succ m ih =>
    unfold pendingRounds
    split
    · exact .refl _
    · exact (runPending_reach ..).trans (ih _)

/-- the request callbacks of `uv__finish_close` (uv__udp_finish_close / uv__stream_destroy) -/
def finishReqs (sc : Script) (k : Kind) (j : Nat) (s : State) : State :=
  if k == .udp then udpFinishClose sc .closing j s
  else if k == .pipe || k == .tcp then streamDestroy sc j s else s

theorem finishReqs_reach (sc : Script) (k : Kind) (j : Nat) (s : State) : Reach0 .closing s (finishReqs sc k j s) :=
  .ite (udpFinishClose_reach ..) (.ite (streamDestroy_reach ..) (.refl _))

inductive Reach : State → State → Prop
  | base {ph s s'} : Reach0 ph s s' → Reach s s'
  | trans {a b c} : Reach a b → Reach b c → Reach a c
  | halt (s) : Reach s { s with halted := true }
  /-- the poller is asked: one answer is consumed -/
  | ask (s rest) : Reach s { s with oracle := rest }
  | polled (s i t r) : Reach s (Loop.emit s (.poll i t r))

namespace Reach

theorem frame {s s' : State} (h : key s' = key s) : Reach s s' := .base (ph := .poll) (.frame h)
theorem refl (s : State) : Reach s s := frame rfl
theorem then_frame {a b c : State} (h : Reach a b) (hk : key c = key b) : Reach a c := h.trans (frame hk)
theorem frame_then {a b c : State} (hk : key b = key a) (h : Reach b c) : Reach a c := (frame hk).trans h
theorem emit (s : State) (ev : Event) (h : plain ev) : Reach s (Loop.emit s ev) :=
  .base (ph := .poll) (.cb (.emit s ev h))
theorem ite {c : Prop} [Decidable c] {s a b : State} (ha : Reach s a) (hb : Reach s b) : Reach s (if c then a else b) := by
  split <;> assumption

end Reach

theorem pollLoop_reach (sc : Script) (fuel : Nat) (s : State) (c : PollCtl) : Reach s (pollLoop sc fuel s c) := by
  induction fuel generalizing s c with
  | zero => exact .refl _
  | succ m ih =>
    unfold pollLoop
    split
    · exact .halt s
    · rename_i r rest _
      -- the intermediate states are named and made opaque: the case analysis below never looks into them
      extract_lets s1 s2 s3 s4 s5 d nevents sg d1 s6 c'
      have h4 : Reach s s4 := (Reach.ask s rest).trans
        (((Reach.base (ph := .poll) (.quiet (.req (.complete s1 r.done)))).then_frame (c := s3) rfl).trans (.polled s3 _ _ _))
      have h5 : Reach s s5 := h4.then_frame rfl
      have h6 : Reach s s6 :=
        ((h5.then_frame (c := { s5 with batch := r.batch }) rfl).trans (.base (dispatchLoop_reach ..))).then_frame rfl
      clear_value s4 s5 s6 c' sg nevents
      -- `update_timeout:` either leaves the loop or polls again
      have tl : ∀ {t : State}, Reach s t → ∀ o : Option PollCtl,
          Reach s (match o with | none => t | some c => pollLoop sc m t c) := by
        intro t h o; cases o
        · exact h
        · exact h.trans (ih ..)
      exact .ite (h4.trans (.halt _)) (.ite (.ite (tl h5 _) (.ite h5 (tl h5 _)))
        (.ite h6 (.ite (.ite (h6.trans (ih ..)) h6) (tl h6 _))))

theorem ioPoll_reach (sc : Script) (s : State) (t : Int) : Reach s (ioPoll sc s t) :=
  .frame_then (key_flushWatchers s) (pollLoop_reach ..)

/-- `uv__queue_remove(&handle->handle_queue)`: flags and record of `j` are deleted -/
def unlink (s : State) (j : Nat) : State := { s with c := s.c.remove j, handles := s.handles.filter (·.id != j) }

theorem finishClose_some {sc : Script} {j : Nat} {s : State} {h : Handle} (hg : getH s j = some h) :
    finishClose sc j s =
      match getF (withKernel (finishReqs sc h.kind j (withKernel s j setClosed)) j handleUnref) j with
      | none => withKernel (finishReqs sc h.kind j (withKernel s j setClosed)) j handleUnref
      | some f => runCb sc .closing .close (.c j) j (flagBits f) 0 0
          (unlink (withKernel (finishReqs sc h.kind j (withKernel s j setClosed)) j handleUnref) j) := by
  unfold finishClose
  simp only [hg]
  rfl

inductive ReachC : State → State → Prop
  | base {s s'} : Reach0 .closing s s' → ReachC s s'
  | trans {a b c} : ReachC a b → ReachC b c → ReachC a c
  | setClosed (s id) : ReachC s (withKernel s id setClosed)
  /-- after uv__handle_unref -/
  | unlink (s id) : (∀ f, getF s id = some f → f.ref = false) → ReachC s (unlink s id)
  /-- the close callback starts: the record is gone -/
  | closeCb (s j a b) : j ∉ hids s → ReachC s (cbEv .closing .close j a b s)
  | detach (s) : ReachC s { s with closingLocal := s.closing, closing := [] }
  | pop (s id rest) : s.closingLocal = id :: rest → ReachC s { s with closingLocal := rest }

theorem ref_after_unref {s : State} {id : Nat} :
    ∀ f, getF (withKernel s id handleUnref) id = some f → f.ref = false := by
  intro g hg
  obtain ⟨f, _, rfl⟩ := get_apply_same (c := s.c) (k := handleUnref) hg
  rcases f with ⟨a, r, c, d, i⟩
  cases r <;> cases c <;> cases a <;> rfl

theorem not_mem_hids_unlink (s : State) (j : Nat) : j ∉ hids (unlink s j) := by
  simp [unlink, hids]

theorem finishClose_reachC (sc : Script) (j : Nat) (s : State) : ReachC s (finishClose sc j s) := by
  cases hg : getH s j with
  | none => unfold finishClose; rw [hg]; exact .base (.refl _)
  | some h =>
    rw [finishClose_some hg]
    have h3 := (ReachC.setClosed s j).trans (.base ((finishReqs_reach sc h.kind j _).trans (.quiet (.kern (.unref _ j)))))
    split
    · exact h3
    · exact ((h3.trans (.unlink _ j ref_after_unref)).trans (.closeCb _ j _ 0 (not_mem_hids_unlink _ j))).trans
        (.base (.cb (runCb_cb ..)))

theorem runClosingLoop_reachC (sc : Script) (fuel : Nat) (s : State) : ReachC s (runClosingLoop sc fuel s) := by
  induction fuel generalizing s with
  | zero => exact .base (.refl _)
  | succ n ih =>
    unfold runClosingLoop
    split
    · exact .base (.refl _)
    · rename_i id rest hc
      exact ((ReachC.pop s id rest hc).trans (finishClose_reachC ..)).trans (ih _)

theorem runClosing_reachC (sc : Script) (s : State) : ReachC s (runClosing sc s) :=
  (ReachC.detach s).trans (runClosingLoop_reachC ..)

/-! ### uv_run and whole programs: a property kept by `Reach` and by the closing phase -/
section Run
variable {P : State → Prop} (hR : ∀ {s s'}, Reach s s' → P s → P s') (hC : ∀ sc s, P s → P (runClosing sc s))
include hR hC

theorem iteration_keeps (sc : Script) (mode : Mode) (s : State) (hp : P s) : P (iteration sc mode s) := by
  unfold iteration
  extract_lets s1 cs s2 s3 s4 timeout s5 s6 s7 s8 s9 s10
  have h8 : Reach s s8 :=
    (((((((Reach.emit s .iterBegin (by trivial)).trans (.base (runPending_reach sc .pending s1))).trans (.base (runWatchers_reach sc .idle s2))).trans
      (.base (runWatchers_reach sc .prepare s3))).then_frame (c := s5) rfl).trans (ioPoll_reach sc s5 timeout)).trans
      (.base (pendingRounds_reach sc 8 s6))).trans (.base (runWatchers_reach sc .check s7))
  exact hR ((Reach.frame (key_updateTime s9)).trans (.base (runTimers_reach sc .timers s10))) (hC sc s8 (hR h8 hp))

theorem runLoop_keeps (sc : Script) (mode : Mode) (fuel : Nat) (s : State) (r : Bool) (hp : P s) :
    ∀ s' r', runLoop sc mode fuel s r = some (s', r') → P s' := by
  induction fuel generalizing s r with
  | zero => intro s' r' h; simp [runLoop] at h
  | succ n ih =>
    intro s' r' h
    unfold runLoop at h
    split at h
    · cases h; exact hp
    · simp only at h
      split at h
      · cases h; exact iteration_keeps hR hC _ _ _ hp
      · exact ih _ _ (iteration_keeps hR hC _ _ _ hp) _ _ h

theorem uvRun_keeps (sc : Script) (mode : Mode) (fuel : Nat) (s : State) (hp : P s) :
    ∀ s' r, uvRun sc mode fuel s = some (s', r) → P s' := by
  intro s' r h
  unfold uvRun at h
  simp only at h
  have h0 : P (if !alive s then updateTime s else s) := by
    split
    · exact hR (.frame (key_updateTime s)) hp
    · exact hp
  generalize (if !alive s then updateTime s else s) = s0 at h h0
  have h1 : P (if initialTimers mode (alive s) s0.stop then runTimers sc .timers0 (updateTime s0) else s0) := by
    split
    · exact hR ((Reach.frame (key_updateTime s0)).trans (.base (runTimers_reach ..))) h0
    · exact h0
  generalize (if initialTimers mode (alive s) s0.stop then runTimers sc .timers0 (updateTime s0) else s0) = s1 at h h1
  cases hr : runLoop sc mode fuel s1 (alive s) with
  | none => simp [hr] at h
  | some p =>
    simp only [hr, Option.some.injEq, Prod.mk.injEq] at h
    have := runLoop_keeps hR hC sc mode fuel s1 (alive s) h1 p.1 p.2 (by simp [hr])
    rw [← h.1]
    exact hR (s := p.1) (.frame rfl) this

theorem stepMain_keeps (sc : Script) (fuel : Nat) (s : State) (m : MainOp) (hp : P s) : P (stepMain sc fuel s m) := by
  cases m with
  | op o =>
    simp only [stepMain]
    split
    · exact hp
    · exact hR (.base (ph := .poll) (.cb (.call s o))) hp
  | run md =>
    simp only [stepMain]
    split
    · exact hp
    · have h0 : P (emit s (.runBegin md)) := hR (.emit _ _ (by trivial)) hp
      split
      · exact hR (.halt _) h0
      · rename_i s' r heq
        exact hR ((Reach.emit _ _ (by trivial)).trans (.emit _ _ (by trivial))) (uvRun_keeps hR hC _ _ _ _ h0 _ _ heq)
  | loopClose =>
    simp only [stepMain]
    split
    · exact hp
    · have h1 : P (loopClose s).1 := by
        unfold loopClose; split
        · exact hp
        · exact hR (s := s) (.frame rfl) hp
      split
      · exact hR (.emit _ _ (by trivial)) h1
      · exact hR ((Reach.emit _ _ (by trivial)).trans (.emit _ _ (by trivial))) h1

theorem runMain_keeps (sc : Script) (fuel : Nat) (prog : List MainOp) (s : State) (hp : P s) : P (runMain sc fuel s prog) := by
  unfold runMain
  induction prog generalizing s with
  | nil => exact hp
  | cons m t ih => exact ih _ (stepMain_keeps hR hC _ _ _ _ hp)

end Run

end UvModel.Loop
