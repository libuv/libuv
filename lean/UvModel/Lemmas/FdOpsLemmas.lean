import UvModel.FdOps
/-!
# C15 — every catalogue operation keeps the ledger clean

`Clean s`: every open descriptor is held by the caller, by the once-per-process lock pipe, by a field of an
initialised loop, or by a slot of a *live* handle of a kind that has that slot; no local of a finished operation
(`temp`) and no orphan (`leaked`) is left behind.  `step` keeps it: each operation is followed along its control
flow with `CleanX X`, `X` being the owners that are open for the moment (locals `TX a b`, fields `LX fs` of a loop
under initialisation); the descriptor primitives have one rule each, the rest of an operation is covered by `Ext`.
-/
namespace UvModel.FdLedger

def Own (l : Ledger) (o : Owner) : Prop := ∃ e ∈ l.led, e.owner = o

def kindOf (hs : List H) (h : Nat) : Option HKind :=
  match hs[h]? with
  | some x => if x.st = .live then some x.kind else none
  | none => none

/-- which handle kinds have which descriptor slots (streams: io, accepted, queued; udp: io) -/
def slotOk (k : HKind) : Slot → Bool
  | .io => isStream k || k == .udp
  | _ => isStream k

def okO (s : St) : Owner → Prop
  | .user => True
  | .glob _ => s.lockDone = true
  | .loop _ => s.loopOk = true
  | .handle h sl => ∃ k, kindOf s.hs h = some k ∧ slotOk k sl = true
  | .temp _ => False
  | .leaked => False

/-- clean up to a set `X` of owners that are allowed temporarily (inside an operation) -/
def CleanX (X : Owner → Prop) (s : St) : Prop := ∀ o, Own s.l.1 o → okO s o ∨ X o

def Clean (s : St) : Prop := ∀ o, Own s.l.1 o → okO s o

variable {X : Owner → Prop} {s s' : St}

/-- no owner is open for the moment: `CleanX Z` is `Clean` in the form the rules below work on -/
abbrev Z : Owner → Prop := fun _ => False

theorem clean_iff (s : St) : Clean s ↔ CleanX Z s :=
  ⟨fun h o ho => Or.inl (h o ho), fun h o ho => (h o ho).elim id False.elim⟩

theorem CleanX.weaken {X Y : Owner → Prop} (h : CleanX X s) (hxy : ∀ o, X o → okO s o ∨ Y o) : CleanX Y s :=
  fun o ho => (h o ho).elim Or.inl (hxy o)

theorem CleanX.absent (h : CleanX X s) {o : Owner} (h1 : ¬ okO s o) (h2 : ¬ X o) :
    ¬ Own s.l.1 o := fun ho => (h o ho).elim h1 h2

/-- stores nothing into an owner of libuv's -/
def Prim.harmless : Prim → Bool
  | .createGive _ _ | .userCreate _ _ | .closeOwner _ _ | .closeUser _ | .userClose _ | .userCloseAll | .closeQ _ | .say _ => true
  | _ => false

attribute [simp] Prim.harmless

theorem own_harmless {l : Ledger} {p : Prim} (hp : p.harmless = true) {o : Owner} (h : Own (exec1 l p) o) :
    Own l o ∨ o = .user := by
  obtain ⟨e, he, rfl⟩ := h
  have old : ∀ {x : Entry}, x ∈ l.led → Own l x.owner ∨ x.owner = .user := fun hx => Or.inl ⟨_, hx, rfl⟩
  unfold exec1 at he
  split at he
  · cases p with
    | create _ _ _ => cases hp
    | transfer _ _ => cases hp
    | adopt _ _ => cases hp
    | createGive site kind =>
      simp only [exec1raw, List.mem_append, List.mem_singleton] at he
      rcases he with he | rfl
      · exact old he
      · exact Or.inr rfl
    | userCreate kind stdio =>
      simp only [exec1raw, List.mem_append, List.mem_singleton] at he
      rcases he with he | rfl
      · exact old he
      · exact Or.inr rfl
    | closeOwner o g =>
      simp only [exec1raw] at he
      split at he
      · exact old he
      · split at he
        · obtain ⟨e0, h0, ⟨_, rfl⟩ | ⟨_, rfl⟩⟩ := mem_setOwner he
          · exact old h0
          · exact Or.inr rfl
        · exact old (List.mem_filter.mp he).1
    | closeUser id =>
      simp only [exec1raw] at he
      split at he
      · exact old he
      · split at he
        · exact old (List.mem_filter.mp he).1
        · exact old he
    | userClose id =>
      simp only [exec1raw] at he
      split at he
      · exact old he
      · split at he
        · exact old (List.mem_filter.mp he).1
        · exact old he
    | userCloseAll => exact old (List.mem_filter.mp he).1
    | closeQ h => exact old (List.mem_filter.mp he).1
    | say line => exact old he
  · exact old he

/-- `p` stores a descriptor into `dst`: afterwards the owners are those before and `dst`, and `leaked` if the
    single-valued `dst` held a descriptor already -/
def Prim.Into (p : Prim) (dst : Owner) : Prop :=
  ∀ {l : Ledger} {o : Owner}, Own (exec1 l p) o → Own l o ∨ o = dst ∨ (o = .leaked ∧ Own l dst ∧ dst.unique = true)

theorem into_create {site : Site} {kind : Kind} {dst : Owner} : (Prim.create site kind dst).Into dst := by
  rintro l o ⟨e, he, rfl⟩
  simp only [exec1, Prim.ok, if_true, exec1raw, List.mem_append, List.mem_singleton] at he
  rcases he with he | rfl
  · obtain ⟨e0, h0, rfl | ⟨rfl, ho0, hu⟩⟩ := mem_displace he
    · exact Or.inl ⟨e0, h0, rfl⟩
    · exact Or.inr (Or.inr ⟨rfl, ⟨e0, h0, ho0⟩, hu⟩)
  · exact Or.inr (Or.inl rfl)

theorem own_move {l : Ledger} {id : Nat} {dst o : Owner} (h : ∃ e ∈ setOwner (displace l.led dst) id dst, e.owner = o) :
    Own l o ∨ o = dst ∨ (o = .leaked ∧ Own l dst ∧ dst.unique = true) := by
  obtain ⟨e, he, rfl⟩ := h
  obtain ⟨e1, h1, ⟨_, rfl⟩ | ⟨_, rfl⟩⟩ := mem_setOwner he
  · obtain ⟨e0, h0, rfl | ⟨rfl, ho0, hu⟩⟩ := mem_displace h1
    · exact Or.inl ⟨e0, h0, rfl⟩
    · exact Or.inr (Or.inr ⟨rfl, ⟨e0, h0, ho0⟩, hu⟩)
  · exact Or.inr (Or.inl rfl)

theorem into_transfer {src dst : Owner} : (Prim.transfer src dst).Into dst := by
  intro l o h
  unfold exec1 at h
  split at h
  · simp only [exec1raw] at h
    split at h
    · exact Or.inl h
    · exact own_move h
  · exact Or.inl h

theorem into_adopt {id : Nat} {dst : Owner} : (Prim.adopt id dst).Into dst := by
  intro l o h
  unfold exec1 at h
  split at h
  · simp only [exec1raw] at h
    split at h
    · exact Or.inl h
    · split at h
      · exact own_move h
      · exact Or.inl h
  · exact Or.inl h

theorem notown_closeOwner {l : Ledger} (hl : LInv l) {o : Owner} {g : Bool} (hok : (Prim.closeOwner o g).ok = true)
    (hu : o.unique = true) : ¬ Own (exec1 l (.closeOwner o g)) o := by
  rintro ⟨e, he, rfl⟩
  unfold exec1 at he
  rw [if_pos hok] at he
  simp only [exec1raw] at he
  split at he
  · rename_i hf
    simpa using List.find?_eq_none.mp hf e he
  · rename_i em hf
    obtain ⟨hem, hoe⟩ := find?_owner hf
    split at he
    · obtain ⟨e0, h0, ⟨hne, rfl⟩ | ⟨_, rfl⟩⟩ := mem_setOwner he
      · exact hne (hl.uniq e0 h0 em hem hoe.symm hu)
      · simp [Prim.ok, Owner.libuv] at hok
    · have hm := List.mem_filter.mp he
      exact absurd (hl.uniq e hm.1 em hem hoe.symm hu) (by simpa using hm.2)

theorem notown_transfer {l : Ledger} (hl : LInv l) {src dst : Owner} (hok : (Prim.transfer src dst).ok = true)
    (hu : src.unique = true) (hne : src ≠ dst) : ¬ Own (exec1 l (.transfer src dst)) src := by
  rintro ⟨e, he, ho⟩
  unfold exec1 at he
  rw [if_pos hok] at he
  simp only [exec1raw] at he
  split at he
  · rename_i hf
    simpa [ho] using List.find?_eq_none.mp hf e he
  · rename_i em hf
    obtain ⟨hem, hoe⟩ := find?_owner hf
    obtain ⟨e1, h1, ⟨hid, rfl⟩ | ⟨_, rfl⟩⟩ := mem_setOwner he
    · obtain ⟨e0, h0, rfl | ⟨rfl, _⟩⟩ := mem_displace h1
      · exact hid (hl.uniq e0 h0 em hem (ho.trans hoe.symm) (ho ▸ hu))
      · subst ho; cases hu
    · exact hne ho.symm

theorem notown_closeQ {l : Ledger} {h : Nat} : ¬ Own (exec1 l (.closeQ h)) (.handle h .q) := by
  rintro ⟨e, he, ho⟩
  simp only [exec1, Prim.ok, if_true, exec1raw] at he
  have := (List.mem_filter.mp he).2
  simp [ho] at this

theorem has_iff {o : Owner} : s.has o = true ↔ Own s.l.1 o := by
  unfold St.has find? Own
  rw [List.find?_isSome]
  simp

theorem not_has_iff {o : Owner} : s.has o = false ↔ ¬ Own s.l.1 o := by
  rw [← has_iff]; simp

theorem run_cons (s : St) (p : Prim) (ps : List Prim) : s.run (p :: ps) = (s.run [p]).run ps := rfl
theorem run_pair (s : St) (p q : Prim) : s.run [p, q] = (s.run [p]).run [q] := rfl
theorem run_append (s : St) (ps qs : List Prim) : s.run (ps ++ qs) = (s.run ps).run qs := by
  induction ps generalizing s with
  | nil => rfl
  | cons p ps ih => exact ih (s.run [p])

@[simp] theorem run_hs (s : St) (ps : List Prim) : (s.run ps).hs = s.hs := rfl
@[simp] theorem run_loopOk (s : St) (ps : List Prim) : (s.run ps).loopOk = s.loopOk := rfl
@[simp] theorem run_lockDone (s : St) (ps : List Prim) : (s.run ps).lockDone = s.lockDone := rfl
@[simp] theorem run_cnt (s : St) (ps : List Prim) : (s.run ps).cnt = s.cnt := rfl
@[simp] theorem run1_l (s : St) (p : Prim) : (s.run [p]).l.1 = exec1 s.l.1 p := rfl
theorem run_l (s : St) (ps : List Prim) : (s.run ps).l.1 = exec s.l.1 ps := rfl
@[simp] theorem say_led (s : St) (x : String) : (s.say x).l.1.led = s.l.1.led := by
  simp [St.say, exec1, Prim.ok, exec1raw]
@[simp] theorem say_hs (s : St) (x : String) : (s.say x).hs = s.hs := rfl
@[simp] theorem say_loopOk (s : St) (x : String) : (s.say x).loopOk = s.loopOk := rfl
@[simp] theorem say_lockDone (s : St) (x : String) : (s.say x).lockDone = s.lockDone := rfl
@[simp] theorem tick_led (s : St) (inj : Inj) (n : String) : (s.tick inj n).l.1.led = s.l.1.led := by
  unfold St.tick; split <;> simp
@[simp] theorem tick_hs (s : St) (inj : Inj) (n : String) : (s.tick inj n).hs = s.hs := by
  unfold St.tick; split <;> rfl
@[simp] theorem tick_loopOk (s : St) (inj : Inj) (n : String) : (s.tick inj n).loopOk = s.loopOk := by
  unfold St.tick; split <;> rfl
@[simp] theorem tick_lockDone (s : St) (inj : Inj) (n : String) : (s.tick inj n).lockDone = s.lockDone := by
  unfold St.tick; split <;> rfl
@[simp] theorem setH_hs (s : St) (i : Nat) (f : H → H) : (s.setH i f).hs = s.hs.modify i f := rfl
@[simp] theorem setH_l (s : St) (i : Nat) (f : H → H) : (s.setH i f).l = s.l := rfl
@[simp] theorem setH_loopOk (s : St) (i : Nat) (f : H → H) : (s.setH i f).loopOk = s.loopOk := rfl
@[simp] theorem setH_lockDone (s : St) (i : Nat) (f : H → H) : (s.setH i f).lockDone = s.lockDone := rfl
@[simp] theorem newH_l (s : St) (x : H) : (s.newH x).l = s.l := rfl
@[simp] theorem newH_loopOk (s : St) (x : H) : (s.newH x).loopOk = s.loopOk := rfl
@[simp] theorem newH_lockDone (s : St) (x : H) : (s.newH x).lockDone = s.lockDone := rfl
@[simp] theorem newH_hs (s : St) (x : H) : (s.newH x).hs = s.hs ++ [x] := rfl
@[simp] theorem ret_led (s : St) (b : Bool) : (ret s b).l.1.led = s.l.1.led := say_led ..
@[simp] theorem ret_hs (s : St) (b : Bool) : (ret s b).hs = s.hs := rfl
@[simp] theorem ret_loopOk (s : St) (b : Bool) : (ret s b).loopOk = s.loopOk := rfl
@[simp] theorem ret_lockDone (s : St) (b : Bool) : (ret s b).lockDone = s.lockDone := rfl
@[simp] theorem bad_led (s : St) : (bad s).l.1.led = s.l.1.led := by simp [bad]
@[simp] theorem bad_hs (s : St) : (bad s).hs = s.hs := rfl
@[simp] theorem bad_loopOk (s : St) : (bad s).loopOk = s.loopOk := rfl
@[simp] theorem bad_lockDone (s : St) : (bad s).lockDone = s.lockDone := rfl

theorem own_congr {l l' : Ledger} (h : l'.led = l.led) (o : Owner) : Own l' o ↔ Own l o := by
  unfold Own; rw [h]

@[simp] theorem has_say (s : St) (x : String) (o : Owner) : (s.say x).has o = s.has o := by simp [St.has]
@[simp] theorem has_tick (s : St) (inj : Inj) (n : String) (o : Owner) : (s.tick inj n).has o = s.has o := by simp [St.has]
@[simp] theorem has_setH (s : St) (i : Nat) (f : H → H) (o : Owner) : (s.setH i f).has o = s.has o := rfl
@[simp] theorem has_newH (s : St) (x : H) (o : Owner) : (s.newH x).has o = s.has o := rfl
@[simp] theorem liveH_say (s : St) (x : String) (i : Nat) : (s.say x).liveH i = s.liveH i := rfl
@[simp] theorem liveH_run (s : St) (ps : List Prim) (i : Nat) : (s.run ps).liveH i = s.liveH i := rfl
@[simp] theorem liveH_tick (s : St) (inj : Inj) (n : String) (i : Nat) : (s.tick inj n).liveH i = s.liveH i := by
  simp [St.liveH]

@[simp] theorem own_tick {inj : Inj} {n : String} {o : Owner} : Own (s.tick inj n).l.1 o ↔ Own s.l.1 o :=
  own_congr (tick_led ..) o
@[simp] theorem own_say {s : St} {x : String} {o : Owner} : Own (s.say x).l.1 o ↔ Own s.l.1 o := own_congr (say_led ..) o
@[simp] theorem own_ret {s : St} {b : Bool} {o : Owner} : Own (ret s b).l.1 o ↔ Own s.l.1 o := own_congr (ret_led ..) o
@[simp] theorem own_setH {i : Nat} {f : H → H} {o : Owner} : Own (s.setH i f).l.1 o ↔ Own s.l.1 o := Iff.rfl
@[simp] theorem own_newH {s : St} {x : H} {o : Owner} : Own (s.newH x).l.1 o ↔ Own s.l.1 o := Iff.rfl

theorem kindOf_modify {hs : List H} {i : Nat} {f : H → H} (hf : ∀ x, (f x).st = x.st ∧ (f x).kind = x.kind) (h : Nat) :
    kindOf (hs.modify i f) h = kindOf hs h := by
  unfold kindOf
  rw [List.getElem?_modify]
  by_cases hih : i = h
  · subst hih
    cases hg : hs[i]? with
    | none => simp
    | some x => simp [(hf x).1, (hf x).2]
  · simp [hih]

theorem kindOf_modify_ne {hs : List H} {i h : Nat} {f : H → H} (hne : i ≠ h) : kindOf (hs.modify i f) h = kindOf hs h := by
  unfold kindOf
  rw [List.getElem?_modify]
  simp [hne]

theorem kindOf_lt {hs : List H} {h : Nat} {k : HKind} (hk : kindOf hs h = some k) : h < hs.length := by
  unfold kindOf at hk
  split at hk
  · rename_i x hx
    exact (List.getElem?_eq_some_iff.mp hx).1
  · cases hk

theorem kindOf_append {hs : List H} {h : Nat} {k : HKind} (x : H) (hk : kindOf hs h = some k) :
    kindOf (hs ++ [x]) h = some k := by
  have hlt := kindOf_lt hk
  unfold kindOf at hk ⊢
  rw [List.getElem?_append_left hlt]
  exact hk

theorem kindOf_new (hs : List H) (x : H) : kindOf (hs ++ [x]) hs.length = if x.st = .live then some x.kind else none := by
  unfold kindOf
  simp

theorem liveH_kindOf {h : Nat} {hh : H} (hl : s.liveH h = some hh) : kindOf s.hs h = some hh.kind := by
  unfold St.liveH at hl
  unfold kindOf
  split at hl
  · rename_i x hx
    rw [hx]
    split at hl
    · rename_i hst
      cases hl
      simp [hst]
    · cases hl
  · cases hl

theorem liveH_h? {s : St} {i : Nat} {hh : H} (hl : s.liveH i = some hh) : s.h? i = some hh := by
  unfold St.liveH at hl
  unfold St.h?
  split at hl
  · rename_i x hx
    split at hl
    · cases hl; exact hx
    · cases hl
  · cases hl

/-- every live handle of `s` is a live handle of the same kind in `s'`, and the loop and the lock pipe are
    initialised in `s'` iff they are in `s`: what `okO` looks at, for everything except loop init and close -/
structure Ext (s s' : St) : Prop where
  kind : ∀ h k, kindOf s.hs h = some k → kindOf s'.hs h = some k
  loopOk : s'.loopOk = s.loopOk
  lockDone : s'.lockDone = s.lockDone

theorem Ext.of_hs (hhs : s'.hs = s.hs) (hlo : s'.loopOk = s.loopOk) (hld : s'.lockDone = s.lockDone) : Ext s s' :=
  ⟨fun _ _ hk => hhs ▸ hk, hlo, hld⟩

theorem Ext.refl (s : St) : Ext s s := .of_hs rfl rfl rfl

theorem Ext.trans {s s' s'' : St} (a : Ext s s') (b : Ext s' s'') : Ext s s'' :=
  ⟨fun h k hk => b.kind h k (a.kind h k hk), b.loopOk.trans a.loopOk, b.lockDone.trans a.lockDone⟩

theorem Ext.setH (a : Ext s s') (i : Nat) {f : H → H}
    (hf : ∀ x, (f x).st = x.st ∧ (f x).kind = x.kind := by intro x; exact ⟨rfl, rfl⟩) : Ext s (s'.setH i f) :=
  a.trans ⟨fun h _ hk => (kindOf_modify hf h).trans hk, rfl, rfl⟩

theorem Ext.newH (a : Ext s s') (x : H) : Ext s (s'.newH x) :=
  a.trans ⟨fun _ _ hk => kindOf_append x hk, rfl, rfl⟩

theorem Ext.run (a : Ext s s') (ps : List Prim) : Ext s (s'.run ps) := a.trans (.of_hs rfl rfl rfl)
theorem Ext.say (a : Ext s s') (x : String) : Ext s (s'.say x) := a.trans (.of_hs rfl rfl rfl)
theorem Ext.tick (a : Ext s s') (inj : Inj) (n : String) : Ext s (s'.tick inj n) :=
  a.trans (.of_hs (tick_hs ..) (tick_loopOk ..) (tick_lockDone ..))

theorem okO_mono (hk : ∀ h k, kindOf s.hs h = some k → kindOf s'.hs h = some k)
    (hlo : s.loopOk = true → s'.loopOk = true) (hld : s.lockDone = true → s'.lockDone = true) {o : Owner}
    (h : okO s o) : okO s' o := by
  cases o with
  | glob i => exact hld h
  | loop f => exact hlo h
  | handle hh sl => obtain ⟨k, hk1, hk2⟩ := h; exact ⟨k, hk hh k hk1, hk2⟩
  | _ => exact h

theorem Ext.okO (a : Ext s s') {o : Owner} (h : okO s o) : okO s' o :=
  okO_mono a.kind (a.loopOk ▸ id) (a.lockDone ▸ id) h

theorem CleanX.frame (h : CleanX X s) (hl : s'.l.1.led = s.l.1.led)
    (hk : ∀ h k, kindOf s.hs h = some k → kindOf s'.hs h = some k)
    (hlo : s.loopOk = true → s'.loopOk = true) (hld : s.lockDone = true → s'.lockDone = true) : CleanX X s' :=
  fun o ho => (h o ((own_congr hl o).mp ho)).imp (okO_mono hk hlo hld) id

theorem cleanX_congr (hl : s'.l.1.led = s.l.1.led) (hhs : s'.hs = s.hs)
    (hlo : s'.loopOk = s.loopOk) (hld : s'.lockDone = s.lockDone) : CleanX X s' ↔ CleanX X s :=
  ⟨fun h => h.frame hl.symm (fun _ _ hk => hhs ▸ hk) (hlo ▸ id) (hld ▸ id),
   fun h => h.frame hl (fun _ _ hk => hhs ▸ hk) (hlo ▸ id) (hld ▸ id)⟩

@[simp] theorem cleanX_say {x : String} : CleanX X (s.say x) ↔ CleanX X s :=
  cleanX_congr (say_led ..) rfl rfl rfl
@[simp] theorem cleanX_ret {b : Bool} : CleanX X (ret s b) ↔ CleanX X s := cleanX_say
@[simp] theorem cleanX_bad : CleanX X (bad s) ↔ CleanX X s := cleanX_say
@[simp] theorem cleanX_tick {inj : Inj} {n : String} : CleanX X (s.tick inj n) ↔ CleanX X s :=
  cleanX_congr (tick_led ..) (tick_hs ..) (tick_loopOk ..) (tick_lockDone ..)
/-- `simp` proves `hf` for an update of fields other than `st` and `kind` -/
@[simp] theorem cleanX_setH {i : Nat} {f : H → H}
    (hf : ∀ x, (f x).st = x.st ∧ (f x).kind = x.kind) : CleanX X (s.setH i f) ↔ CleanX X s :=
  ⟨fun h => h.frame rfl (fun j _ hk => (kindOf_modify hf j).symm.trans hk) id id,
   fun h => h.frame rfl (fun j _ hk => (kindOf_modify hf j).trans hk) id id⟩
theorem CleanX.setH (h : CleanX X s) (i : Nat) {f : H → H}
    (hf : ∀ x, (f x).st = x.st ∧ (f x).kind = x.kind := by intro x; exact ⟨rfl, rfl⟩) : CleanX X (s.setH i f) :=
  (cleanX_setH hf).mpr h
theorem CleanX.newH (h : CleanX X s) (x : H) : CleanX X (s.newH x) :=
  h.frame rfl (fun _ _ hk => kindOf_append x hk) id id

theorem okO_of_frame (hhs : s'.hs = s.hs) (hlo : s'.loopOk = s.loopOk) (hld : s'.lockDone = s.lockDone)
    (o : Owner) : okO s' o ↔ okO s o := by
  cases o <;> simp [okO, hhs, hlo, hld]

@[simp] theorem okO_run {ps : List Prim} {o : Owner} : okO (s.run ps) o ↔ okO s o := okO_of_frame rfl rfl rfl o
@[simp] theorem okO_tick {inj : Inj} {n : String} {o : Owner} : okO (s.tick inj n) o ↔ okO s o :=
  okO_of_frame (by simp) (by simp) (by simp) o
@[simp] theorem okO_say {s : St} {x : String} {o : Owner} : okO (s.say x) o ↔ okO s o := okO_of_frame rfl rfl rfl o

theorem own_run_harmless {ps : List Prim} (hp : ∀ p ∈ ps, p.harmless = true) {o : Owner}
    (h : Own (s.run ps).l.1 o) : Own s.l.1 o ∨ o = .user := by
  induction ps generalizing s with
  | nil => exact Or.inl h
  | cons p ps ih =>
    rcases ih (s := s.run [p]) (fun q hq => hp q (List.mem_cons_of_mem _ hq)) h with h1 | h1
    · exact own_harmless (hp p (List.mem_cons_self ..)) h1
    · exact Or.inr h1

theorem CleanX.harmless {X : Owner → Prop} {s : St} (h : CleanX X s) {ps : List Prim}
    (hp : ∀ p ∈ ps, p.harmless = true) : CleanX X (s.run ps) :=
  fun o ho => (own_run_harmless hp ho).elim (fun h1 => (h o h1).imp_left okO_run.mpr) (fun h1 => h1 ▸ Or.inl trivial)

theorem free_harmless {ps : List Prim} (hp : ∀ p ∈ ps, p.harmless = true) {o : Owner} (hne : o ≠ .user)
    (h : ¬ Own s.l.1 o) : ¬ Own (s.run ps).l.1 o :=
  fun hc => (own_run_harmless hp hc).elim h hne

theorem free_closes {ps : List Prim} (hp : ∀ p ∈ ps, p.harmless = true) {o : Owner} {g : Bool}
    (hm : .closeOwner o g ∈ ps) (hok : (Prim.closeOwner o g).ok = true) (hu : o.unique = true) :
    ¬ Own (s.run ps).l.1 o := by
  induction ps generalizing s with
  | nil => cases hm
  | cons p ps ih =>
    rcases List.mem_cons.mp hm with rfl | hm
    · exact free_harmless (s := s.run [_]) (fun q hq => hp q (List.mem_cons_of_mem _ hq))
        (fun hc => by rw [hc] at hu; cases hu) (notown_closeOwner s.l.2 hok hu)
    · exact ih (s := s.run [p]) (fun q hq => hp q (List.mem_cons_of_mem _ hq)) hm

theorem CleanX.into (h : CleanX X s) {p : Prim} {dst : Owner} (hp : p.Into dst)
    (hfree : ¬ Own s.l.1 dst ∨ dst.unique = false) : CleanX (fun x => X x ∨ x = dst) (s.run [p]) := by
  intro o ho
  rcases hp ho with h1 | h1 | ⟨_, h1, h2⟩
  · exact (h o h1).imp_right Or.inl
  · exact Or.inr (Or.inr h1)
  · exact (hfree.elim (· h1) (by simp [h2])).elim

theorem CleanX.create {X : Owner → Prop} {s : St} (h : CleanX X s) {site : Site} {kind : Kind} {o : Owner}
    (hfree : ¬ Own s.l.1 o) : CleanX (fun x => X x ∨ x = o) (s.run [.create site kind o]) :=
  h.into into_create (.inl hfree)

/-- creating into a many-valued owner (a handle's descriptor queue) never displaces anything -/
theorem CleanX.createQ {X : Owner → Prop} {s : St} (h : CleanX X s) {site : Site} {kind : Kind} {hh : Nat} :
    CleanX (fun x => X x ∨ x = .handle hh .q) (s.run [.create site kind (.handle hh .q)]) :=
  h.into into_create (.inr rfl)

theorem CleanX.intoOk (h : CleanX X s) {p : Prim} {dst : Owner} (hp : p.Into dst)
    (hfree : ¬ Own s.l.1 dst ∨ dst.unique = false) (hok : okO s dst) : CleanX X (s.run [p]) :=
  (h.into hp hfree).weaken (fun _ ho => ho.imp_right (· ▸ okO_run.mpr hok) |>.symm)

theorem CleanX.createOk (h : CleanX X s) {site : Site} {kind : Kind} {o : Owner}
    (hfree : ¬ Own s.l.1 o) (hok : okO s o) : CleanX X (s.run [.create site kind o]) :=
  h.intoOk into_create (.inl hfree) hok

theorem CleanX.close (h : CleanX X s) {o : Owner} {g : Bool}
    (hok : (Prim.closeOwner o g).ok = true) (hu : o.unique = true) :
    CleanX (fun x => X x ∧ x ≠ o) (s.run [.closeOwner o g]) := by
  intro o' ho'
  have hne : o' ≠ o := fun hc => notown_closeOwner s.l.2 hok hu (hc ▸ ho')
  rcases own_harmless (p := .closeOwner o g) rfl ho' with h1 | h1
  · exact (h o' h1).imp_right (⟨·, hne⟩)
  · subst h1; exact Or.inl trivial

theorem CleanX.move (h : CleanX X s) {src dst : Owner}
    (hok : (Prim.transfer src dst).ok = true) (hu : src.unique = true) (hne : src ≠ dst)
    (hfree : ¬ Own s.l.1 dst ∨ dst.unique = false) :
    CleanX (fun x => (X x ∧ x ≠ src) ∨ x = dst) (s.run [.transfer src dst]) := by
  intro o ho
  have hns : o ≠ src := fun hc => notown_transfer s.l.2 hok hu hne (hc ▸ ho)
  exact (h.into into_transfer hfree o ho).imp_right (·.imp_left (⟨·, hns⟩))

theorem CleanX.transfer {X : Owner → Prop} {s : St} (h : CleanX X s) {src dst : Owner}
    (hok : (Prim.transfer src dst).ok = true) (hu : src.unique = true) (hne : src ≠ dst) (hfree : ¬ Own s.l.1 dst) :
    CleanX (fun x => (X x ∧ x ≠ src) ∨ x = dst) (s.run [.transfer src dst]) :=
  h.move hok hu hne (.inl hfree)

/-- locals `temp k` with a ≤ k < b -/
def TX (a b : Nat) : Owner → Prop := fun x => ∃ k, x = .temp k ∧ a ≤ k ∧ k < b

theorem CleanX.ofZ (h : CleanX Z s) {a b : Nat} : CleanX (TX a b) s := h.weaken (fun _ => False.elim)

theorem CleanX.toZ {a b : Nat} (h : CleanX (TX a b) s) (hab : b ≤ a := by omega) : CleanX Z s :=
  h.weaken (by rintro o ⟨k, _, h1, h2⟩; omega)

theorem CleanX.monoT {a b a' b' : Nat} (h : CleanX (TX a b) s)
    (hab : ∀ j, a ≤ j → j < b → a' ≤ j ∧ j < b' := by omega) :
    CleanX (TX a' b') s :=
  h.weaken (by rintro _ ⟨j, rfl, h1, h2⟩; exact Or.inr ⟨j, rfl, hab j h1 h2⟩)

theorem TX_free {a b k : Nat} (h : CleanX (TX a b) s) (hk : ¬ (a ≤ k ∧ k < b)) : ¬ Own s.l.1 (.temp k) :=
  h.absent id (by rintro ⟨k', hk', h1, h2⟩; cases hk'; exact hk ⟨h1, h2⟩)

theorem CleanX.createT {b : Nat} (h : CleanX (TX 0 b) s) {site : Site} {kind : Kind} :
    CleanX (TX 0 (b + 1)) (s.run [.create site kind (.temp b)]) :=
  (h.create (TX_free h (by omega))).weaken (by
    rintro o (⟨k, hk, h1, h2⟩ | rfl)
    · exact Or.inr ⟨k, hk, h1, by omega⟩
    · exact Or.inr ⟨b, rfl, Nat.zero_le b, by omega⟩)

theorem CleanX.closeT {a b : Nat} (h : CleanX (TX a b) s) (k a' b' : Nat)
    (hk : ∀ j, a ≤ j → j < b → j ≠ k → a' ≤ j ∧ j < b' := by omega) :
    CleanX (TX a' b') (s.run [.closeOwner (.temp k) false]) :=
  (h.close (o := .temp k) rfl rfl).weaken (by
    rintro _ ⟨⟨j, rfl, h1, h2⟩, hne⟩
    exact Or.inr ⟨j, rfl, hk j h1 h2 (fun hc => hne (hc ▸ rfl))⟩)

theorem CleanX.moveT {a b : Nat} (h : CleanX (TX a b) s) (k a' b' : Nat) {dst : Owner}
    (hok : (Prim.transfer (.temp k) dst).ok = true) (hfree : ¬ Own s.l.1 dst ∨ dst.unique = false) (hdst : okO s dst)
    (hk : ∀ j, a ≤ j → j < b → j ≠ k → a' ≤ j ∧ j < b' := by omega) :
    CleanX (TX a' b') (s.run [.transfer (.temp k) dst]) :=
  (h.move hok rfl (fun hc => by rw [← hc] at hdst; exact hdst) hfree).weaken (by
    rintro _ (⟨⟨j, rfl, h1, h2⟩, hne⟩ | rfl)
    · exact Or.inr ⟨j, rfl, hk j h1 h2 (fun hc => hne (hc ▸ rfl))⟩
    · exact Or.inl (okO_run.mpr hdst))

theorem CleanX.createClose (h : CleanX Z s) {site : Site} {kind : Kind} :
    CleanX Z (s.run [.create site kind (.temp 0), .closeOwner (.temp 0) false]) :=
  ((h.ofZ.createT (b := 0)).closeT 0 0 0).toZ

/-- the `error:` label of uv_spawn closes every local that is still open -/
theorem CleanX.sweep {a b : Nat} (h : CleanX (TX a b) s) : CleanX Z (s.run (sweepPrims a b)) := by
  unfold sweepPrims
  generalize hn : b - a = n
  induction n generalizing a s with
  | zero => exact h.toZ
  | succ n ih =>
    rw [List.range'_succ, List.map_cons, run_cons]
    exact ih (h.closeT a (a + 1) b) (by omega)

theorem CleanX.quiet (h : CleanX X s) (hmono : ∀ {o}, okO s o → okO s' o)
    (hown : ∀ o, Own s'.l.1 o → Own s.l.1 o ∨ okO s' o) : CleanX X s' :=
  fun o ho => (hown o ho).elim (fun h1 => (h o h1).imp_left hmono) Or.inl

theorem CleanX.tick (h : CleanX X s) (inj : Inj) (n : String) : CleanX X (s.tick inj n) :=
  cleanX_tick.mpr h
theorem CleanX.say (h : CleanX X s) (x : String) : CleanX X (s.say x) := cleanX_say.mpr h
theorem CleanX.ret (h : CleanX X s) (b : Bool) : CleanX X (ret s b) := cleanX_ret.mpr h
theorem CleanX.bad (h : CleanX X s) : CleanX X (bad s) := cleanX_bad.mpr h

theorem own_create_free {site : Site} {kind : Kind} {dst o : Owner} (hfree : ¬ Own s.l.1 dst)
    (h : Own (s.run [.create site kind dst]).l.1 o) : Own s.l.1 o ∨ o = dst :=
  (into_create h).imp_right (·.elim id (fun hc => absurd hc.2.1 hfree))

theorem free_into {p : Prim} {dst o : Owner} (hp : p.Into dst) (h : ¬ Own s.l.1 o) (hne : o ≠ dst)
    (hl : o ≠ .leaked) : ¬ Own (s.run [p]).l.1 o :=
  fun hc => (hp hc).elim h (·.elim hne (fun h3 => hl h3.1))

theorem fresh_free (h : CleanX Z s) (sl : Slot) : ¬ Own s.l.1 (.handle s.hs.length sl) :=
  h.absent (fun ⟨_, hk, _⟩ => absurd (kindOf_lt hk) (Nat.lt_irrefl _)) id

theorem CleanX.setH_free (h : CleanX X s) {i : Nat} (f : H → H)
    (hfree : ∀ sl, ¬ Own s.l.1 (.handle i sl)) : CleanX X (s.setH i f) := by
  intro o ho
  have ho' : Own s.l.1 o := ho
  refine (h o ho').imp_left (fun h1 => ?_)
  cases o with
  | handle hh sl =>
    by_cases hc : i = hh
    · subst hc; exact absurd ho' (hfree sl)
    · obtain ⟨k, hk1, hk2⟩ := h1
      exact ⟨k, by simpa [kindOf_modify_ne hc] using hk1, hk2⟩
  | _ => exact h1

theorem emfileInit_spec (s : St) (inj : Inj) :
    Ext s (emfileInit s inj) ∧ ∀ o, Own (emfileInit s inj).l.1 o → Own s.l.1 o ∨ o = .loop .emfile := by
  unfold emfileInit
  split
  · exact ⟨.refl s, fun _ => Or.inl⟩
  · rename_i hh
    have hfree : ¬ Own s.l.1 (.loop .emfile) := not_has_iff.mp (by simpa using hh)
    split
    · exact ⟨((Ext.refl s).tick _ _).run _, fun o ho => by
        simpa using own_create_free (s := s.tick inj "open") (by simpa using hfree) ho⟩
    · dsimp only
      split
      · exact ⟨(((Ext.refl s).tick _ _).tick _ _).run _, fun o ho => by
          simpa using own_create_free (s := (s.tick inj "open").tick inj "open") (by simpa using hfree) ho⟩
      · exact ⟨((Ext.refl s).tick _ _).tick _ _, fun o ho => Or.inl (by simpa using ho)⟩

@[simp] theorem emfile_lockDone (s : St) (inj : Inj) : (emfileInit s inj).lockDone = s.lockDone :=
  (emfileInit_spec s inj).1.lockDone

theorem CleanX.emfileInit (h : CleanX X s) (hlo : s.loopOk = true) (inj : Inj) :
    CleanX X (emfileInit s inj) :=
  h.quiet (emfileInit_spec s inj).1.okO (fun o ho => ((emfileInit_spec s inj).2 o ho).imp_right
    (fun hc => by rw [hc]; exact (emfileInit_spec s inj).1.loopOk.trans hlo))

attribute [local irreducible] St.say ret bad St.tick St.setH St.newH St.run

theorem clean_opUfd (h : CleanX Z s) (kind : String) (at_ : Option Nat) : CleanX Z (opUfd s kind at_) := by
  unfold opUfd
  -- `cases … with` and `iteInduction` look at the head of the goal only; `split` re-simplifies the whole unfolded body,
  -- which is slow for the long operations (`opOpen`, `opBind`, `opConnect`, …), so it is kept for small terms
  cases userKind kind with
  | none => exact h.bad
  | some ks => exact iteInduction (fun _ => h.bad) (fun _ => h.harmless (by simp))

theorem clean_opUclose (h : CleanX Z s) (f : Nat) : CleanX Z (opUclose s f) := by
  unfold opUclose
  cases userEntry s f with
  | none => exact h.bad
  | some _ => exact h.harmless (by simp)

theorem clean_opUvPipe (h : CleanX Z s) (inj : Inj) : CleanX Z (opUvPipe s inj) := by
  unfold opUvPipe
  cases s.fails inj "pipe2" with
  | some _ => exact (h.tick _ _).ret _
  | none => exact ((h.tick _ _).harmless (by simp)).ret _

theorem clean_opUvSocketpair (h : CleanX Z s) (inj : Inj) : CleanX Z (opUvSocketpair s inj) := by
  unfold opUvSocketpair
  cases s.fails inj "socketpair" with
  | some _ => exact (h.tick _ _).ret _
  | none => exact ((h.tick _ _).harmless (by simp)).ret _

theorem clean_opPollInit (h : CleanX Z s) (f : Nat) : CleanX Z (opPollInit s f) := by
  unfold opPollInit
  cases findId? s.l.1.led f with
  | none => exact h.bad
  | some e => exact iteInduction (fun _ => (h.newH _).ret _) (fun _ => (h.newH _).ret _)

theorem clean_opFsOpen (h : CleanX Z s) (inj : Inj) (v : String) : CleanX Z (opFsOpen s inj v) := by
  unfold opFsOpen
  refine iteInduction (fun _ => h.bad) (fun _ => ?_)
  cases s.fails inj "open" with
  | some _ => exact (h.tick _ _).ret _
  | none => exact iteInduction (fun _ => (h.tick _ _).ret _) (fun _ => ((h.tick _ _).harmless (by simp)).say _)

theorem clean_opFsClose (h : CleanX Z s) (f : Nat) : CleanX Z (opFsClose s f) := by
  unfold opFsClose
  cases userEntry s f with
  | none => exact h.bad
  | some e => exact iteInduction (fun _ => h.bad) (fun _ => (h.harmless (by simp)).ret _)

theorem clean_opFsCopyfile (h : CleanX Z s) (inj : Inj) (v : String) : CleanX Z (opFsCopyfile s inj v) := by
  unfold opFsCopyfile
  refine iteInduction (fun _ => h.bad) (fun _ => ?_)
  cases s.fails inj "open" with
  | some _ => exact (h.tick _ _).ret _
  | none =>
    refine iteInduction (fun _ => (h.tick _ _).ret _) (fun _ => ?_)
    have h1 := ((h.tick inj "open").ofZ.createT (b := 0) (site := .fsOpen) (kind := .file)).tick inj "open"
    have hclose := ((h1.closeT 0 0 0).toZ).ret false
    dsimp only
    split
    · exact hclose
    · refine iteInduction (fun _ => hclose) (fun _ => ?_)
      rw [run_cons, run_cons]
      exact ((((h1.createT).closeT 0 1 2).closeT 1 2 2).toZ).ret _

theorem clean_opFlood (h : CleanX Z s) (hh n : Nat) : CleanX Z (opFlood s hh n) := by
  unfold opFlood
  cases s.liveH hh with
  | none => exact h.bad
  | some x => exact iteInduction (fun _ => h.bad) (fun _ => iteInduction (fun _ => (h.setH _).ret _) (fun _ => h.ret _))

theorem clean_opIpcSend (h : CleanX Z s) (f hh : Nat) (ks : List HKind) : CleanX Z (opIpcSend s f hh ks) := by
  unfold opIpcSend
  cases userEntry s f with
  | none => exact h.bad
  | some _ => exact (iteInduction (fun _ => h.setH _) (fun _ => h)).ret _

theorem clean_opFsEventStart (h : CleanX Z s) (hlo : s.loopOk = true) (inj : Inj) (ok : Bool) :
    CleanX Z (opFsEventStart s inj ok) := by
  unfold opFsEventStart
  refine iteInduction (fun _ => (h.newH _).ret _) (fun hh => ?_)
  cases (s.newH _).fails inj "inotify_init1" with
  | some _ => exact ((h.newH _).tick _ _).ret _
  | none => exact (((h.newH _).tick _ _).createOk (by simpa using not_has_iff.mp (by simpa using hh)) (by simpa [okO] using hlo)).ret _

/-- loop fields that hold a descriptor while the loop does not count as initialised -/
def LX (fs : List LField) : Owner → Prop := fun o => ∃ f ∈ fs, o = .loop f

theorem CleanX.createL {fs : List LField} (h : CleanX (LX fs) s) (hlo : s.loopOk = false) {f : LField}
    (hf : f ∉ fs) {site : Site} {kind : Kind} : CleanX (LX (f :: fs)) (s.run [.create site kind (.loop f)]) :=
  (h.create (h.absent (by simp [okO, hlo]) (by rintro ⟨f', hf', hc⟩; cases hc; exact hf hf'))).weaken (by
    rintro o (⟨f', hf', rfl⟩ | rfl)
    · exact Or.inr ⟨f', List.mem_cons_of_mem _ hf', rfl⟩
    · exact Or.inr ⟨f, List.mem_cons_self .., rfl⟩)

theorem CleanX.closeL {fs : List LField} (h : CleanX (LX fs) s) (f : LField) :
    CleanX (LX (fs.filter (· != f))) (s.run [.closeOwner (.loop f) false]) :=
  (h.close (o := .loop f) rfl rfl).weaken (by
    rintro _ ⟨⟨f', hf', rfl⟩, hne⟩
    exact Or.inr ⟨f', List.mem_filter.mpr ⟨hf', by simp; rintro rfl; exact hne rfl⟩, rfl⟩)

theorem CleanX.noL (h : CleanX (LX []) s) : CleanX Z s := h.weaken (by rintro o ⟨f, hf, _⟩; cases hf)

/-- an initialised loop makes every loop field a legitimate owner -/
theorem CleanX.loopUp {fs : List LField} (h : CleanX (LX fs) s) (hl : s'.l.1.led = s.l.1.led)
    (hhs : s'.hs = s.hs) (hld : s'.lockDone = s.lockDone) (hlo : s'.loopOk = true) : CleanX Z s' :=
  (h.frame hl (fun _ _ hk => hhs ▸ hk) (fun _ => hlo) (hld ▸ id)).weaken (by rintro _ ⟨f, _, rfl⟩; exact Or.inl hlo)

@[simp] theorem ring_loopOk (s : St) (inj : Inj) : (loopInitRing s inj).loopOk = s.loopOk := by
  unfold loopInitRing; split <;> simp
@[simp] theorem lock_loopOk (s : St) (inj : Inj) : (loopInitLock s inj).loopOk = s.loopOk := by
  unfold loopInitLock; split <;> simp
@[simp] theorem ring_hs (s : St) (inj : Inj) : (loopInitRing s inj).hs = s.hs := by
  unfold loopInitRing; split <;> simp

theorem clean_ring {fs : List LField} (h : CleanX (LX fs) s) (hlo : s.loopOk = false) (hf : .ring ∉ fs) (inj : Inj) :
    CleanX (LX (.ring :: fs)) (loopInitRing s inj) := by
  unfold loopInitRing
  split
  · exact (h.tick _ _).weaken (fun o ⟨f, hf, ho⟩ => Or.inr ⟨f, List.mem_cons_of_mem _ hf, ho⟩)
  · exact (h.tick _ _).createL (by simpa using hlo) hf

theorem clean_lock (h : CleanX X s) (hX : ∀ i, ¬ X (.glob i)) (inj : Inj) :
    CleanX X (loopInitLock s inj) := by
  unfold loopInitLock
  split
  · exact h
  · rename_i hld
    have hfree : ∀ i, ¬ Own (s.tick inj "pipe2").l.1 (.glob i) := fun i =>
      (h.tick _ _).absent (by simpa [okO] using hld) (hX i)
    refine (h.tick inj "pipe2").quiet (fun ho => okO_mono (fun _ _ hk => by simpa using hk) (fun hl => by simpa using hl) (fun _ => rfl) ho) (fun o ho => ?_)
    rw [run_cons] at ho
    rcases own_create_free (fun hc => (own_create_free (hfree 0) hc).elim (hfree 1) nofun) ho with h1 | rfl
    · exact (own_create_free (hfree 0) h1).imp_right (fun hc => by rw [hc]; rfl)
    · exact Or.inr rfl

theorem clean_tail (h : CleanX (LX [.ring, .backend]) s) (hlo : s.loopOk = false) (inj : Inj) :
    CleanX Z (loopInitTail s inj) := by
  unfold loopInitTail
  cases s.fails inj "pipe2" with
  | some _ =>
    rw [run_cons]
    exact ((((h.tick _ _).closeL .ring).closeL .backend).noL).ret _
  | none =>
    dsimp only
    have h2 := ((h.tick inj "pipe2").createL (f := .sig0) (site := .pipe2) (kind := .pipe) (by simpa using hlo) (by decide)).createL
      (f := .sig1) (site := .pipe2) (kind := .pipe) (by simpa using hlo) (by decide)
    rw [run_cons]
    split
    · rw [run_cons, run_cons, run_cons]
      exact ((((((h2.tick _ _).closeL .sig0).closeL .sig1).closeL .ring).closeL .backend).noL).ret _
    · apply CleanX.ret
      exact ((h2.tick inj "eventfd").createL (f := .async) (by simpa using hlo) (by decide)).loopUp rfl rfl rfl rfl

theorem clean_opLoopInit (h : CleanX Z s) (inj : Inj) : CleanX Z (opLoopInit s inj) := by
  unfold opLoopInit
  refine iteInduction (fun _ => h.bad) (fun hlo => ?_)
  have hlo' : s.loopOk = false := by simpa using hlo
  cases s.fails inj "epoll_create1" with
  | some _ => exact (h.tick _ _).ret _
  | none =>
    have h1 := ((h.tick inj "epoll_create1").weaken (Y := LX []) (fun _ => False.elim)).createL (f := .backend)
      (site := .epollCreate) (kind := .epoll) (by simpa using hlo') (by decide)
    exact clean_tail (clean_lock (clean_ring h1 (by simpa using hlo') (by decide) inj)
      (by rintro i ⟨_, _, hc⟩; cases hc) inj) (by simpa using hlo') inj

theorem clean_opLoopClose (h : CleanX Z s) : CleanX Z (opLoopClose s) := by
  unfold opLoopClose
  refine iteInduction (fun _ => h.ret _) (fun _ => iteInduction (fun _ => h.ret _) (fun _ => CleanX.ret (fun o ho => ?_) _))
  have ho' : Own (s.run loopClosePrims).l.1 o := ho
  refine (h.harmless (by simp [loopClosePrims]) o ho').imp_left (fun h2 => ?_)
  cases o with
  | loop f =>
    obtain ⟨e, he, ho⟩ := ho'
    exact absurd ho ((loopClose_led s.l.1 s.l.2 e (run_l s _ ▸ he)).2 f)
  | _ => exact h2

theorem clean_sockInto (h : CleanX Z s) {hh : Nat} {k : HKind} (hk : kindOf s.hs hh = some k)
    (hsl : slotOk k .io = true) (hfree : ¬ Own s.l.1 (.handle hh .io)) (inj : Inj) (site : Site) (kind : Kind) :
    CleanX Z ((s.tick inj "socket").run [.create site kind (.handle hh .io)]) :=
  (h.tick _ _).createOk (by simpa using hfree) (okO_tick.mpr ⟨k, hk, hsl⟩)

theorem clean_opTcpInit (h : CleanX Z s) (hlo : s.loopOk = true) (inj : Inj) (af : Bool) :
    CleanX Z (opTcpInit s inj af) := by
  unfold opTcpInit
  have sp := emfileInit_spec (s.newH { kind := .tcp }) inj
  have h1 : CleanX Z (emfileInit (s.newH { kind := .tcp }) inj) := (h.newH _).emfileInit (by simpa using hlo) inj
  have hfree : ∀ sl, ¬ Own (emfileInit (s.newH { kind := .tcp }) inj).l.1 (.handle s.hs.length sl) := fun sl hc =>
    (sp.2 _ hc).elim (by simpa using fresh_free h sl) nofun
  refine iteInduction (fun _ => ?_) (fun _ => h1.ret _)
  cases (emfileInit (s.newH { kind := .tcp }) inj).fails inj "socket" with
  | some _ => exact ((h1.tick _ _).setH_free _ (by simpa using hfree)).ret _
  | none => exact (clean_sockInto h1 (sp.1.kind _ .tcp (by simp [kindOf_new])) rfl (hfree .io) inj _ _).ret _

theorem clean_opUdpInit (h : CleanX Z s) (inj : Inj) (af : Bool) : CleanX Z (opUdpInit s inj af) := by
  unfold opUdpInit
  refine iteInduction (fun _ => ?_) (fun _ => (h.newH _).ret _)
  cases (s.newH { kind := .udp }).fails inj "socket" with
  | some _ => exact (((h.newH _).tick _ _).setH_free _ (by simpa using fresh_free h)).ret _
  | none => exact (clean_sockInto (h.newH _) (k := .udp) (by simp [kindOf_new]) rfl (by simpa using fresh_free h .io) inj _ _).ret _

theorem clean_opTtyInit (h : CleanX Z s) (hlo : s.loopOk = true) (inj : Inj) (f : Nat) :
    CleanX Z (opTtyInit s inj f) := by
  unfold opTtyInit
  cases userEntry s f with
  | none => exact h.bad
  | some e =>
    refine iteInduction (fun _ => (h.newH _).ret _) (fun _ => ?_)
    have sp := emfileInit_spec (s.newH { kind := .tty, readable := true }) inj
    exact (((h.newH _).emfileInit (by simpa using hlo) inj).intoOk (dst := .handle s.hs.length .io) into_adopt
      (.inl fun hc => (sp.2 _ hc).elim (by simpa using fresh_free h .io) nofun)
      ⟨.tty, sp.1.kind _ _ (by simp [kindOf_new]), rfl⟩).ret _

theorem clean_opOpen (h : CleanX Z s) (inj : Inj) (hh f : Nat) : CleanX Z (opOpen s inj hh f) := by
  unfold opOpen
  cases hl : s.liveH hh with
  | none => exact h.bad
  | some x =>
    cases userEntry s f with
    | none => exact h.bad
    | some e =>
      refine iteInduction (fun _ => h.bad) (fun hkind => iteInduction (fun _ => h.ret _) (fun hhas => iteInduction (fun _ => h.ret _) (fun _ => ?_)))
      have hok : okO s (.handle hh .io) := by
        refine ⟨x.kind, liveH_kindOf hl, ?_⟩
        revert hkind
        cases x.kind <;> simp [slotOk, isStream]
      dsimp only
      generalize hs0 : (if cliNodelay s hh = true then s.tick inj "nodelay" else s) = s0
      have h0 : CleanX Z s0 ∧ ¬ Own s0.l.1 (.handle hh .io) ∧ okO s0 (.handle hh .io) := by
        subst hs0
        split <;> simpa using ⟨h, not_has_iff.mp (by simpa using hhas), hok⟩
      exact iteInduction (fun _ => h0.1.ret _) (fun _ => ((h0.1.intoOk into_adopt (.inl h0.2.1) h0.2.2).setH _).ret _)

theorem clean_opSockopt (h : CleanX Z s) (inj : Inj) (hh : Nat) (ka : Bool) : CleanX Z (opSockopt s inj hh ka) := by
  unfold opSockopt
  cases s.liveH hh with
  | none => exact h.bad
  | some x =>
    refine iteInduction (fun _ => h.bad) (fun _ => iteInduction (fun _ => iteInduction (fun _ => ?_) (fun _ => ?_)) (fun _ => ?_))
    · exact iteInduction (fun _ => (h.setH _).ret _) (fun _ => h.ret _)
    · exact iteInduction (fun _ => (((h.tick _ _).setH _).ret _)) (fun _ => (h.tick _ _).ret _)
    · exact (h.setH _ (fun x => by split <;> exact ⟨rfl, rfl⟩)).ret _

theorem clean_ensureSock (h : CleanX Z s) {hh : Nat} {k : HKind} (hk : kindOf s.hs hh = some k)
    (hsl : slotOk k .io = true) {inj : Inj} (he : ensureSock s inj hh = some s') : CleanX Z s' := by
  unfold ensureSock at he
  split at he
  · cases he; exact h
  · rename_i hhas
    have hfree : ¬ Own s.l.1 (.handle hh .io) := not_has_iff.mp (by simpa using hhas)
    split at he
    · cases he
    · dsimp only at he
      split at he
      · split at he
        · cases he
        · cases he; exact (clean_sockInto h hk hsl hfree inj _ _).tick _ _
      · cases he; exact clean_sockInto h hk hsl hfree inj _ _

theorem clean_ensureSockFail (h : CleanX Z s) (inj : Inj) (hh : Nat) : CleanX Z (ensureSockFail s inj hh) := by
  unfold ensureSockFail
  split
  · simpa using h
  · exact ((((h.tick inj "socket").ofZ.createT (b := 0)).tick inj "nodelay").closeT 0 0 0).toZ

theorem clean_opBind (h : CleanX Z s) (inj : Inj) (hh : Nat) (v : String) : CleanX Z (opBind s inj hh v) := by
  unfold opBind
  cases hl : s.liveH hh with
  | none => exact h.bad
  | some x =>
    have hk := liveH_kindOf hl
    refine iteInduction (fun _ => h.bad) (fun _ => iteInduction (fun hkind => ?_) (fun _ => iteInduction (fun hkind => ?_) (fun _ => h.bad)))
    · cases he : ensureSock s inj hh with
      | none => exact (clean_ensureSockFail h inj hh).ret _
      | some s' =>
        have hs' := clean_ensureSock h hk (by revert hkind; cases x.kind <;> simp [slotOk, isStream]) he
        exact iteInduction (fun _ => hs'.ret _) (fun _ => iteInduction (fun _ => hs'.ret _) (fun _ =>
          iteInduction (fun _ => iteInduction (fun _ => (hs'.setH _).ret _) (fun _ => hs'.ret _)) (fun _ => (hs'.setH _).ret _)))
    · refine iteInduction (fun _ => h.ret _) (fun hhas => ?_)
      cases s.fails inj "socket" with
      | some _ => exact (h.tick _ _).ret _
      | none =>
        refine iteInduction (fun _ => ?_) (fun _ => (h.tick _ _).createClose.ret _)
        exact (((h.tick inj "socket").createOk (o := .handle hh .io) (by simpa using not_has_iff.mp (by simpa using hhas))
          (okO_tick.mpr ⟨x.kind, hk, by rw [hkind]; rfl⟩)).setH _).ret _

theorem clean_opListen (h : CleanX Z s) (inj : Inj) (hh : Nat) : CleanX Z (opListen s inj hh) := by
  unfold opListen
  cases hl : s.liveH hh with
  | none => exact h.bad
  | some x =>
    refine iteInduction (fun hkind => iteInduction (fun _ => h.ret _) (fun _ => ?_)) (fun _ => iteInduction (fun _ => ?_) (fun _ => h.bad))
    · cases he : ensureSock s inj hh with
      | none => exact (clean_ensureSockFail h inj hh).ret _
      | some s' =>
        have hs' := clean_ensureSock h (liveH_kindOf hl) (by rw [hkind]; rfl) he
        exact iteInduction (fun _ => hs'.ret _) (fun _ => (hs'.setH _).ret _)
    · exact iteInduction (fun _ => h.ret _) (fun _ => (h.setH _).ret _)

/-- the connection lands in the target's backlog: a counter of the target handle changes, or nothing -/
theorem CleanX.bump (h : CleanX X s) (t : Option Nat) {c : Prop} [Decidable c] {g : H → H}
    (hg : ∀ x, (g x).st = x.st ∧ (g x).kind = x.kind := by intro x; exact ⟨rfl, rfl⟩) :
    CleanX X (match t with | some t => if c then s.setH t g else s | none => s) := by
  cases t with
  | none => exact h
  | some t => exact iteInduction (fun _ => h.setH _ hg) (fun _ => h)

theorem clean_opConnect (h : CleanX Z s) (inj : Inj) (hh : Nat) (t : Option Nat) :
    CleanX Z (opConnect s inj hh t) := by
  unfold opConnect
  cases hl : s.liveH hh with
  | none => exact h.bad
  | some x =>
    have hk := liveH_kindOf hl
    have hfail := (clean_ensureSockFail h inj hh).ret
    dsimp only
    refine iteInduction (fun hkind => ?_) (fun _ => iteInduction (fun hkind => ?_) (fun _ => h.bad))
    · refine iteInduction (fun _ => h.bad) (fun _ => iteInduction (fun _ => h.ret _) (fun _ => ?_))
      cases he : connSock s inj hh x.delayed with
      | none => exact hfail _
      | some s' =>
        have hs' : CleanX Z s' := by
          unfold connSock at he
          split at he
          · cases he; exact h
          · exact clean_ensureSock h hk (by rw [hkind]; rfl) he
        exact (iteInduction (fun _ => hs'.setH _) (fun _ => (hs'.setH _).bump t)).ret _
    · cases he : ensureSock s inj hh with
      | none => exact hfail _
      | some s' =>
        have hs' := clean_ensureSock h hk (by rw [hkind]; rfl) he
        exact iteInduction (fun _ => hs'.ret _) (fun _ => ((hs'.setH _).bump t).ret _)

theorem acceptMove_ext (s : St) (inj : Inj) (a b : Nat) (k : HKind) : Ext s (acceptMove s inj a b k) := by
  unfold acceptMove
  dsimp only
  repeat' split
  all_goals exact Ext.setH (.of_hs (by simp) (by simp) (by simp)) _

theorem acceptShift_ext (s : St) (a : Nat) : Ext s (acceptShift s a) := by
  unfold acceptShift
  dsimp only
  split
  · exact ((Ext.refl s).run _).setH _
  · exact (Ext.refl s).run _

theorem acceptInto_ext (s : St) (inj : Inj) (a b : Nat) (k : HKind) : Ext s (acceptInto s inj a b k) :=
  (acceptMove_ext ..).trans (acceptShift_ext ..)

@[simp] theorem acceptInto_lockDone (s : St) (inj : Inj) (a b : Nat) (k : HKind) : (acceptInto s inj a b k).lockDone = s.lockDone :=
  (acceptInto_ext ..).lockDone

/-- uv_accept's first half empties the server's pending slot: the descriptor goes to the client or is closed -/
theorem acceptMove_spec (h : CleanX Z s) {inj : Inj} {srv cli : Nat} {ck : HKind}
    (hcli : kindOf s.hs cli = some ck) :
    CleanX Z (acceptMove s inj srv cli ck) ∧ ¬ Own (acceptMove s inj srv cli ck).l.1 (.handle srv .acc) := by
  unfold acceptMove
  dsimp only
  generalize hs0 : (if (acceptPre s cli ck && cliNodelay s cli) = true then s.tick inj "nodelay" else s) = s0
  have h0 : CleanX Z s0 ∧ (Own s0.l.1 (.handle cli .io) → Own s.l.1 (.handle cli .io)) ∧ Ext s s0 := by
    subst hs0
    split
    · exact ⟨h.tick _ _, own_tick.mp, (Ext.refl s).tick _ _⟩
    · exact ⟨h, id, .refl s⟩
  split
  · rename_i hok
    simp only [acceptOk, acceptPre, Bool.and_eq_true, Bool.not_eq_true'] at hok
    constructor
    · simpa using h0.1.intoOk into_transfer (.inl fun hc => not_has_iff.mp hok.1.1 (h0.2.1 hc))
        (h0.2.2.okO ⟨ck, hcli, by revert hok; cases ck <;> simp [slotOk, isStream]⟩)
    · simpa using notown_transfer s0.l.2 (src := .handle srv .acc) (dst := .handle cli .io) rfl rfl nofun
  · exact ⟨by simpa using h0.1.harmless (ps := [.closeOwner (.handle srv .acc) false]) (by simp),
      by simpa using notown_closeOwner s0.l.2 (o := .handle srv .acc) (g := false) rfl rfl⟩

theorem clean_acceptInto (h : CleanX Z s) {inj : Inj} {srv cli : Nat} {ck : HKind} (hcli : kindOf s.hs cli = some ck)
    (hsrv : okO s (.handle srv .acc)) : CleanX Z (acceptInto s inj srv cli ck) := by
  obtain ⟨h1, hfree⟩ := acceptMove_spec h (inj := inj) (srv := srv) hcli
  unfold acceptInto acceptShift
  dsimp only
  split <;> simpa using h1.intoOk into_transfer (.inl hfree) ((acceptMove_ext ..).okO hsrv)

theorem clean_opAccept (h : CleanX Z s) (inj : Inj) (sv c : Nat) : CleanX Z (opAccept s inj sv c) := by
  unfold opAccept
  cases s.liveH sv with
  | none => exact h.bad
  | some x =>
    cases hlc : s.liveH c with
    | none => exact h.bad
    | some ch =>
      refine iteInduction (fun _ => h.ret _) (fun hhas => iteInduction (fun _ => h.ret _) (fun _ => ?_))
      exact (clean_acceptInto h (liveH_kindOf hlc) ((h _ (has_iff.mp (by simpa using hhas))).elim id False.elim)).ret _

theorem streamClose_harmless (h : Nat) : ∀ p ∈ streamClosePrims h, p.harmless = true := by simp [streamClosePrims]

theorem slot_absent (h : CleanX Z s) {hh : Nat} {k : HKind} (hk : kindOf s.hs hh = some k) {sl : Slot}
    (hsl : slotOk k sl = false) : ¬ Own s.l.1 (.handle hh sl) := by
  apply h.absent _ id
  rintro ⟨k', hk', hs'⟩
  rw [hk] at hk'
  cases hk'
  rw [hsl] at hs'
  cases hs'

theorem clean_opClose (h : CleanX Z s) (hh : Nat) : CleanX Z (opClose s hh) := by
  unfold opClose
  cases hl : s.liveH hh with
  | none => exact h.bad
  | some x =>
    have hk := liveH_kindOf hl
    refine CleanX.ret ?_ _
    by_cases hst : isStream x.kind = true
    · -- streams: uv__stream_close empties all three slots
      rw [if_pos hst]
      have hp := streamClose_harmless hh
      refine (h.harmless hp).setH_free _ (fun sl => ?_)
      cases sl with
      | io => exact free_closes hp (g := true) (by simp [streamClosePrims]) rfl rfl
      | acc => exact free_closes hp (g := false) (by simp [streamClosePrims]) rfl rfl
      | q =>
        unfold streamClosePrims
        rw [run_cons, run_cons]
        simpa using notown_closeQ
    · rw [if_neg hst]
      have hst : isStream x.kind = false := by simpa using hst
      by_cases hudp : x.kind = .udp
      · rw [if_pos hudp]
        have hp : ∀ p ∈ [Prim.closeOwner (.handle hh .io) true], p.harmless = true := by simp
        refine (h.harmless hp).setH_free _ (fun sl => ?_)
        cases sl with
        | io => exact free_closes hp (g := true) (by simp) rfl rfl
        | acc => exact free_harmless hp nofun (slot_absent h hk (by simp [slotOk, hst]))
        | q => exact free_harmless hp nofun (slot_absent h hk (by simp [slotOk, hst]))
      · rw [if_neg hudp]
        refine h.setH_free _ (fun sl => slot_absent h hk ?_)
        cases sl <;> simp [slotOk, hst, hudp]

theorem cbAccept_ext (s : St) (inj : Inj) (i : Nat) (k : HKind) (b : Bool) : Ext s (cbAccept s inj i k b) := by
  unfold cbAccept
  dsimp only
  refine (Ext.trans ?_ (acceptInto_ext ..)).say _
  split
  · exact ((Ext.refl s).newH _).trans (emfileInit_spec ..).1
  · exact (Ext.refl s).newH _

theorem clean_cbAccept (h : CleanX Z s) (hlo : s.loopOk = true) {inj : Inj} {i : Nat} {k : HKind} {b : Bool}
    (hsrv : okO s (.handle i .acc)) : CleanX Z (cbAccept s inj i k b) := by
  unfold cbAccept
  dsimp only
  rw [cleanX_say]
  have e0 : Ext s (s.newH { kind := k }) := (Ext.refl s).newH _
  split
  · have sp := emfileInit_spec (s.newH { kind := k }) inj
    exact clean_acceptInto ((h.newH _).emfileInit (by simpa using hlo) inj) (sp.1.kind _ k (by simp [kindOf_new]))
      ((e0.trans sp.1).okO hsrv)
  · exact clean_acceptInto (h.newH _) (by simp [kindOf_new]) (e0.okO hsrv)

theorem own_createClose {site : Site} {kind : Kind} {k : Nat} {o : Owner} (hfree : ¬ Own s.l.1 (.temp k))
    (h : Own (s.run [.create site kind (.temp k), .closeOwner (.temp k) false]).l.1 o) : Own s.l.1 o ∨ o = .user := by
  rw [run_cons] at h
  rcases own_run_harmless (by simp) h with h1 | h1
  · rcases own_create_free hfree h1 with h2 | rfl
    · exact Or.inl h2
    · exact absurd (by simpa using h) (notown_closeOwner (s.run [.create site kind (.temp k)]).l.2 (g := false) rfl rfl)
  · exact Or.inr h1

/-- the accept-and-close loop opens nothing that it does not close -/
theorem shed_spec (inj : Inj) (i : Nat) (n : Nat) (s : St) (h : CleanX Z s) :
    CleanX Z (shed inj i n s) ∧ (∀ o, Own (shed inj i n s).l.1 o → Own s.l.1 o ∨ o = .user) ∧ Ext s (shed inj i n s) := by
  induction n generalizing s with
  | zero => exact ⟨h.tick _ _, fun _ ho => Or.inl (own_tick.mp ho), (Ext.refl s).tick _ _⟩
  | succ n ih =>
    unfold shed
    split
    · exact ⟨h.tick _ _, fun _ ho => Or.inl (own_tick.mp ho), (Ext.refl s).tick _ _⟩
    · have h1 : CleanX Z (((s.tick inj "accept4").run [.create .uvAccept .sock (.temp 0), .closeOwner (.temp 0) false]).setH i
          (fun h => { h with pending := h.pending - 1 })) := by simpa using (h.tick inj "accept4").createClose
      obtain ⟨a, b, c⟩ := ih _ h1
      refine ⟨a, fun o ho => ?_, (Ext.setH (((Ext.refl s).tick _ _).run _) _).trans c⟩
      rcases b o ho with h1 | h1
      · exact (own_createClose ((h.tick inj "accept4").absent id id) (own_setH.mp h1)).imp_left own_tick.mp
      · exact Or.inr h1

theorem serverReady_spec {i : Nat} (h : serverReady s = some i) :
    ∃ hh, s.liveH i = some hh ∧ isStream hh.kind = true ∧ s.has (.handle i .acc) = false := by
  unfold serverReady at h
  have := List.find?_some h
  cases hl : s.liveH i with
  | none => simp [hl] at this
  | some hh =>
    simp only [hl, Bool.and_eq_true, Bool.not_eq_true'] at this
    exact ⟨hh, rfl, this.1.1.1.1, this.2⟩

theorem ipcReady_spec {i : Nat} (h : ipcReady s = some i) : ∃ hh, s.liveH i = some hh ∧ hh.kind = .pipe := by
  unfold ipcReady at h
  have := List.find?_some h
  cases hl : s.liveH i with
  | none => simp [hl] at this
  | some hh =>
    simp only [hl, Bool.and_eq_true, decide_eq_true_eq] at this
    exact ⟨hh, rfl, this.1.1.1⟩

theorem clean_serverEvent (h : CleanX Z s) (hlo : s.loopOk = true) (inj : Inj) {i : Nat}
    (hr : serverReady s = some i) : CleanX Z (serverEvent s inj i) ∧ Ext s (serverEvent s inj i) := by
  obtain ⟨hh, hl, hst, hacc⟩ := serverReady_spec hr
  unfold serverEvent
  dsimp only
  have e0 := (Ext.refl s).tick inj "accept4"
  split
  · split
    · split
      · exact ⟨h.tick _ _, e0⟩
      · -- uv__emfile_trick: the spare descriptor is closed, so its slot is free when it is re-opened
        obtain ⟨a, b, c⟩ := shed_spec inj i ((s.h? i).getD { kind := .tcp }).pending _
          ((h.tick inj "accept4").harmless (ps := [.closeOwner (.loop .emfile) false]) (by simp))
        have e1 := (e0.run _).trans c
        split
        · exact ⟨(a.tick _ _).createOk (fun hc => (b _ (own_tick.mp hc)).elim
              (free_closes (by simp) (g := false) (List.mem_singleton.mpr rfl) rfl rfl) nofun)
            (okO_tick.mpr (e1.loopOk.trans hlo)), (e1.tick _ _).run _⟩
        · exact ⟨a.tick _ _, e1.tick _ _⟩
    · exact ⟨h.tick _ _, e0⟩
  · have hok : okO s (.handle i .acc) := ⟨hh.kind, liveH_kindOf hl, hst⟩
    have e1 := (Ext.setH (e0.run [.create .uvAccept (sockKind ((s.h? i).getD { kind := .tcp }).kind) (.handle i .acc)]) i
      (f := fun h => { h with pending := h.pending - 1 })).say s!"cb conn h{i} 0"
    have h1 := h.quiet e1.okO (fun o ho => (own_create_free (s := s.tick inj "accept4")
      (by simpa using not_has_iff.mp hacc) (by simpa using ho)).imp own_tick.mp (by rintro rfl; exact e1.okO hok))
    split
    · exact ⟨clean_cbAccept h1 (e1.loopOk.trans hlo) (e1.okO hok), e1.trans (cbAccept_ext ..)⟩
    · exact ⟨h1, e1⟩

theorem recvCreate_spec (ks : List HKind) (j : Nat) (s : St) (h : CleanX (TX 0 j) s) :
    CleanX (TX 0 (j + ks.length)) (recvCreate j ks s) ∧ Ext s (recvCreate j ks s) := by
  induction ks generalizing j s with
  | nil => exact ⟨h, .refl s⟩
  | cons k ks ih =>
    simp only [recvCreate]
    obtain ⟨a, b⟩ := ih (j + 1) _ (h.createT (site := .recvCmsg) (kind := ipcKind k))
    exact ⟨by simpa [Nat.add_assoc, Nat.add_comm 1] using a, ((Ext.refl s).run _).trans b⟩

/-- every local `temp j`, …, `temp (j + n - 1)` of the message ends up in the pending slot, in the queue, or closed -/
theorem recvQueue_spec (inj : Inj) (i : Nat) (n : Nat) (j : Nat) (s : St) (err : Bool) {b : Nat}
    (h : CleanX (TX j b) s) (hb : b ≤ j + n) (hk : kindOf s.hs i = some .pipe) :
    CleanX Z (recvQueue inj i j n s err).1 ∧ Ext s (recvQueue inj i j n s err).1 := by
  induction n generalizing j s err with
  | zero => exact ⟨h.toZ hb, .refl s⟩
  | succ n ih =>
    let P := fun r : St × Bool => CleanX Z r.1 ∧ Ext s r.1
    have step : ∀ {s1 : St} {err' : Bool}, CleanX (TX (j + 1) b) s1 → Ext s s1 → P (recvQueue inj i (j + 1) n s1 err') :=
      fun h1 e1 => (ih (j + 1) _ _ h1 (by omega) (e1.kind _ _ hk)).imp_right e1.trans
    have hclose : ∀ {t : St}, CleanX (TX j b) t → CleanX (TX (j + 1) b) (t.run [.closeOwner (.temp j) false]) :=
      fun ht => ht.closeT j (j + 1) b
    have hq : ∀ {t : St}, CleanX (TX j b) t → Ext s t → CleanX (TX (j + 1) b) (t.run [.transfer (.temp j) (.handle i .q)]) :=
      fun ht et => ht.moveT j (j + 1) b rfl (.inr rfl) (et.okO ⟨.pipe, hk, rfl⟩)
    have e0 := Ext.refl s
    show P _
    unfold recvQueue
    refine iteInduction (fun _ => step (hclose h) (e0.run _)) (fun _ => iteInduction (fun hhas => ?_) (fun _ => ?_))
    · exact step (h.moveT j (j + 1) b rfl (.inl (not_has_iff.mp (by simpa using hhas))) ⟨.pipe, hk, rfl⟩) (e0.run _)
    · refine iteInduction (fun _ => ?_) (fun _ => iteInduction (fun _ => ?_) (fun _ => step (hq h e0) (e0.run _)))
      · cases s.fails inj "malloc" with
        | some _ => exact step (hclose (h.tick _ _)) ((e0.tick _ _).run _)
        | none => exact step ((hq (h.tick _ _) (e0.tick _ _)).setH _) (((e0.tick _ _).run _).setH _)
      · cases s.fails inj "realloc" with
        | some _ => exact step (hclose (h.tick _ _)) ((e0.tick _ _).run _)
        | none => exact step ((hq (h.tick _ _) (e0.tick _ _)).setH _) (((e0.tick _ _).run _).setH _)

theorem ipcAcceptAll_spec (inj : Inj) (i : Nat) (n : Nat) (s : St) (h : CleanX Z s)
    (hk : kindOf s.hs i = some .pipe) (hlo : s.loopOk = true) :
    CleanX Z (ipcAcceptAll inj i n s) ∧ Ext s (ipcAcceptAll inj i n s) := by
  induction n generalizing s with
  | zero => exact ⟨h, .refl s⟩
  | succ n ih =>
    simp only [ipcAcceptAll]
    split
    · exact ⟨h, .refl s⟩
    · have e := cbAccept_ext s inj i (hkindOfIpc ‹Entry›.kind) (isStream (hkindOfIpc ‹Entry›.kind))
      exact (ih _ (clean_cbAccept h hlo ⟨.pipe, hk, rfl⟩) (e.kind _ _ hk) (e.loopOk.trans hlo)).imp_right e.trans

theorem clean_ipcEvent (h : CleanX Z s) (hlo : s.loopOk = true) (inj : Inj) {i : Nat}
    (hr : ipcReady s = some i) : CleanX Z (ipcEvent s inj i) ∧ Ext s (ipcEvent s inj i) := by
  obtain ⟨hh, hl, hkp⟩ := ipcReady_spec hr
  have hk : kindOf s.hs i = some .pipe := hkp ▸ liveH_kindOf hl
  unfold ipcEvent
  dsimp only
  generalize ((s.h? i).getD { kind := .pipe }).inflight.headD [] = batch
  generalize hs1 : s.setH i (fun h => { h with inflight := h.inflight.tail }) = s1
  have h1 : CleanX Z s1 := by subst hs1; simpa using h
  have e0 : Ext s s1 := hs1 ▸ (Ext.refl s).setH _
  obtain ⟨c1, c2⟩ := recvCreate_spec batch 0 _ h1.ofZ
  obtain ⟨q1, q2⟩ := recvQueue_spec inj i batch.length 0 _ false c1 (Nat.le_refl _) ((e0.trans c2).kind _ _ hk)
  have e2 := (e0.trans c2).trans q2
  split
  · exact ⟨by simpa using q1, e2.setH _⟩
  · have e3 := e2.say s!"cb read h{i} 1"
    split
    · exact (ipcAcceptAll_spec inj i _ _ (cleanX_say.mpr q1) (e3.kind _ _ hk) (e3.loopOk.trans hlo)).imp_right e3.trans
    · exact ⟨cleanX_say.mpr q1, e3⟩

theorem clean_runLoop (inj : Inj) (n : Nat) (s : St) (h : CleanX Z s) (hlo : s.loopOk = true) :
    CleanX Z (runLoop inj n s) := by
  induction n generalizing s with
  | zero => exact h
  | succ n ih =>
    unfold runLoop
    split
    · exact h
    · rename_i s' hs'
      unfold runStep at hs'
      split at hs'
      · rename_i i hi
        cases hs'
        obtain ⟨a, b⟩ := clean_serverEvent h hlo inj hi
        exact ih _ a (b.loopOk.trans hlo)
      · split at hs'
        · rename_i i hi
          cases hs'
          obtain ⟨a, b⟩ := clean_ipcEvent h hlo inj hi
          exact ih _ a (b.loopOk.trans hlo)
        · cases hs'

theorem clean_opRun (h : CleanX Z s) (hlo : s.loopOk = true) (inj : Inj) : CleanX Z (opRun s inj) := by
  unfold opRun
  dsimp only
  apply CleanX.ret
  intro o ho
  refine (clean_runLoop inj (runFuel s) s h hlo o ho).imp_left (fun h1 => ?_)
  cases o with
  | handle hh sl =>
    -- a handle that owns a descriptor is live and not a process handle: the sweep over `hs` leaves it alone
    obtain ⟨k, hk1, hk2⟩ := h1
    refine ⟨k, ?_, hk2⟩
    unfold kindOf at hk1 ⊢
    simp only [List.getElem?_map]
    cases hx : (runLoop inj (runFuel s) s).hs[hh]? with
    | none => simp [hx] at hk1
    | some x =>
      simp only [hx] at hk1
      split at hk1
      · rename_i hst
        cases hk1
        have hnp : x.kind ≠ .proc := by
          intro hc; rw [hc] at hk2; cases sl <;> simp [slotOk, isStream] at hk2
        simp [hst, hnp]
      · cases hk1
  | _ => exact h1

theorem foldl_pres {α β : Type} (P : α → Prop) (f : α → β → α) (l : List β) (a : α) (h0 : P a)
    (hstep : ∀ a b, P a → P (f a b)) : P (l.foldl f a) := by
  induction l generalizing a with
  | nil => exact h0
  | cons b l ih => exact ih _ (hstep a b h0)

theorem initStdio_spec (inj : Inj) (cs : List Cont) (s : St) (m : Nat) (h : CleanX (TX 0 (2 * m)) s) :
    Ext s (initStdio inj s m cs).1 ∧ ((initStdio inj s m cs).2 = none → CleanX Z (initStdio inj s m cs).1) ∧
    (∀ M, (initStdio inj s m cs).2 = some M →
      CleanX (TX 0 (2 * M)) (initStdio inj s m cs).1 ∧ M = m + (pipeHandles cs).length) := by
  induction cs generalizing s m with
  | nil => exact ⟨.refl s, nofun, fun M hM => by cases hM; exact ⟨h, rfl⟩⟩
  | cons c cs ih =>
    cases c with
    | pipe hp =>
      simp only [initStdio]
      cases s.fails inj "socketpair" with
      | some _ => exact ⟨((Ext.refl s).tick _ _).run _, fun _ => (h.tick _ _).sweep, nofun⟩
      | none =>
        dsimp only
        rw [run_cons]
        obtain ⟨a, b, c⟩ := ih _ (m + 1) ((((h.tick inj "socketpair").createT).createT).monoT)
        exact ⟨((((Ext.refl s).tick _ _).run _).run _).trans a, b, fun M hM => (c M hM).imp_right (by simp [pipeHandles]; omega)⟩
    | stream hp =>
      simp only [initStdio]
      cases s.has (.handle hp .io) with
      | true => exact ih s m h
      | false => exact ⟨(Ext.refl s).run _, fun _ => h.sweep, nofun⟩
    | ignore => exact ih s m h
    | fd f => exact ih s m h

theorem openStreams_spec (M : Nat) (rest : List Nat) (s : St) (m : Nat) (done : List Nat)
    (h : CleanX (TX (2 * m) (2 * M)) s) (hp : ∀ x ∈ rest, kindOf s.hs x = some .pipe) :
    Ext s (openStreams M s m done rest).1 ∧ ((openStreams M s m done rest).2 = false → CleanX Z (openStreams M s m done rest).1) ∧
    ((openStreams M s m done rest).2 = true → CleanX (TX (2 * (m + rest.length)) (2 * M)) (openStreams M s m done rest).1) := by
  induction rest generalizing s m done with
  | nil => exact ⟨.refl s, nofun, fun _ => h⟩
  | cons hd rest ih =>
    simp only [openStreams]
    have h1 := h.close (o := .temp (2 * m + 1)) (g := false) rfl rfl
    have e1 := (Ext.refl s).run [.closeOwner (.temp (2 * m + 1)) false]
    cases hhas : (s.run [.closeOwner (.temp (2 * m + 1)) false]).has (.handle hd .io) with
    | true =>
      simp only [↓reduceIte]
      refine ⟨?_, fun _ => CleanX.sweep ?_, nofun⟩
      · exact (foldl_pres (Ext s) _ done _ e1 (fun _ _ e => e.run _)).run _
      · exact foldl_pres (CleanX (TX (2 * m) (2 * M))) _ done _ (h1.weaken (fun _ ho => Or.inr ho.1))
          (fun _ hj ha => ha.harmless (streamClose_harmless hj))
    | false =>
      simp only [Bool.false_eq_true, ↓reduceIte]
      have e2 := Ext.setH (e1.run [.transfer (.temp (2 * m)) (.handle hd .io)]) hd (f := fun x => { x with readable := true })
      have h2 : CleanX (TX (2 * (m + 1)) (2 * M)) (((s.run [.closeOwner (.temp (2 * m + 1)) false]).run
          [.transfer (.temp (2 * m)) (.handle hd .io)]).setH hd (fun x => { x with readable := true })) := by
        refine CleanX.setH ((h1.move (src := .temp (2 * m)) (dst := .handle hd .io) rfl rfl nofun (.inl (not_has_iff.mp hhas))).weaken ?_) _
        rintro _ (⟨⟨⟨k, rfl, ha, hb⟩, hne1⟩, hne0⟩ | rfl)
        · exact Or.inr ⟨k, rfl, by have : k ≠ 2 * m + 1 := fun hc => hne1 (hc ▸ rfl)
                                   have : k ≠ 2 * m := fun hc => hne0 (hc ▸ rfl)
                                   omega, hb⟩
        · exact Or.inl ⟨.pipe, by simpa using hp hd (List.mem_cons_self ..), rfl⟩
      obtain ⟨a, b, c⟩ := ih _ (m + 1) (hd :: done) h2 (fun x hx => e2.kind _ _ (hp x (List.mem_cons_of_mem _ hx)))
      exact ⟨e2.trans a, b, fun ht => (c ht).monoT (by simp only [List.length_cons]; omega)⟩

theorem spawnExecPipe_spec {M : Nat} (h : CleanX (TX 0 (2 * M)) s) (inj : Inj) :
    CleanX (TX 0 (2 * M)) (spawnExecPipe s inj M) ∧ Ext s (spawnExecPipe s inj M) := by
  unfold spawnExecPipe
  split
  · exact ⟨h.tick _ _, (Ext.refl s).tick _ _⟩
  · rw [run_pair, run_pair]
    exact ⟨(((((h.tick _ _).createT).createT).tick _ _).closeT (2 * M + 1) 0 (2 * M + 1)).closeT (2 * M) 0 (2 * M), ((((((Ext.refl s).tick _ _).run _).run _).tick _ _).run _).run _⟩

theorem clean_spawnOp (h : CleanX Z s) (inj : Inj) (ok : Bool) (cs : List Cont)
    (hp : ∀ x ∈ pipeHandles cs, kindOf s.hs x = some .pipe) : CleanX Z (spawnOp s inj ok cs) := by
  unfold spawnOp
  dsimp only
  have e0 := (Ext.refl s).newH { kind := .proc }
  obtain ⟨e1, specN, specS⟩ := initStdio_spec inj cs _ 0 (h.newH { kind := .proc }).ofZ
  -- the process handle never owns a descriptor
  have pfree : ∀ t : St, CleanX Z t → Ext (s.newH { kind := .proc }) t → ∀ sl, ¬ Own t.l.1 (.handle s.hs.length sl) :=
    fun t ht et sl => slot_absent ht (et.kind _ .proc (by simp [kindOf_new])) (by cases sl <;> rfl)
  split
  · rename_i s1 heq
    rw [heq] at specN e1
    exact ((specN rfl).setH_free _ (pfree _ (specN rfl) e1)).ret _
  · rename_i s1 M heq
    rw [heq] at specS e1
    obtain ⟨spec1, hM⟩ := specS M rfl
    obtain ⟨h2, e2⟩ := spawnExecPipe_spec spec1 inj
    obtain ⟨e3, a, b⟩ := openStreams_spec M (pipeHandles cs) _ 0 [] (h2.monoT)
      (fun x hx => (e0.trans (e1.trans e2)).kind _ _ (hp x hx))
    have e := (e1.trans e2).trans e3
    split
    · rename_i s3 heq3
      rw [heq3] at a e
      exact ((a rfl).setH_free _ (pfree _ (a rfl) e)).ret _
    · rename_i s3 heq3
      rw [heq3] at b e
      have hz : CleanX Z s3 := (b rfl).toZ
      split
      · exact hz.ret _
      · exact (hz.setH_free _ (pfree _ hz e)).ret _

theorem clean_opSpawn (h : CleanX Z s) (inj : Inj) (ok : Bool) (cs : List Cont) : CleanX Z (opSpawn s inj ok cs) := by
  unfold opSpawn
  split
  · simpa using h
  · rename_i hany
    apply clean_spawnOp h
    intro x hx
    unfold pipeHandles at hx
    obtain ⟨c, hc, hcx⟩ := List.mem_filterMap.mp hx
    cases c with
    | pipe hh =>
      simp only [Option.some.injEq] at hcx
      subst hcx
      rw [Bool.not_eq_true] at hany
      have := List.any_eq_false.mp hany _ hc
      simp only [ne_eq, decide_not, Bool.not_eq_true', decide_eq_false_iff_not, Decidable.not_not] at this
      cases hl : s.liveH hh with
      | none => simp [hl] at this
      | some y =>
        simp only [hl, Option.map_some, Option.some.injEq] at this
        rw [← this]
        exact liveH_kindOf hl
    | _ => simp at hcx

theorem ring_spec (s : St) (inj : Inj) (hfree : ¬ Own s.l.1 (.loop .ring)) :
    Ext s (loopInitRing s inj) ∧ ∀ o, Own (loopInitRing s inj).l.1 o → Own s.l.1 o ∨ o = .loop .ring := by
  unfold loopInitRing
  split
  · exact ⟨(Ext.refl s).tick _ _, fun _ ho => Or.inl (own_tick.mp ho)⟩
  · exact ⟨((Ext.refl s).tick _ _).run _, fun _ ho => (own_create_free (by simpa using hfree) ho).imp_left own_tick.mp⟩

theorem closes_spec (h : CleanX X s) (ps : List Prim) (hp : ∀ p ∈ ps, p.harmless = true) :
    CleanX X (s.run ps) ∧ Ext s (s.run ps) ∧
      ∀ o, .closeOwner o false ∈ ps → (Prim.closeOwner o false).ok = true → o.unique = true → ¬ Own (s.run ps).l.1 o :=
  ⟨h.harmless hp, (Ext.refl s).run _, fun _ hm hok hu => free_closes hp hm hok hu⟩

theorem clean_forkSignal (h : CleanX Z s) (hlo : s.loopOk = true) (inj : Inj) : CleanX Z (forkSignal s inj) := by
  unfold forkSignal
  dsimp only
  obtain ⟨h1, -, free⟩ := closes_spec h [.closeOwner (.loop .sig0) false, .closeOwner (.loop .sig1) false] (by simp)
  split
  · exact (h1.tick _ _).ret _
  · rw [run_cons]
    exact (((h1.tick _ _).createOk (o := .loop .sig0) (by simpa using free (.loop .sig0) (by simp) rfl rfl) (by simpa [okO] using hlo)).createOk (o := .loop .sig1)
      (free_into into_create (by simpa using free (.loop .sig1) (by simp) rfl rfl) nofun nofun) (by simpa [okO] using hlo)).ret _

theorem clean_forkAsync (h : CleanX Z s) (hlo : s.loopOk = true) (inj : Inj) : CleanX Z (forkAsync s inj) := by
  unfold forkAsync
  dsimp only
  obtain ⟨h1, -, free⟩ := closes_spec h [.closeOwner (.loop .async) false] (by simp)
  split
  · exact (h1.tick _ _).ret _
  · exact clean_forkSignal ((h1.tick _ _).createOk (o := .loop .async) (by simpa using free (.loop .async) (by simp) rfl rfl)
      (by simpa [okO] using hlo)) (by simpa using hlo) inj

theorem clean_forkIo (h : CleanX Z s) (hlo : s.loopOk = true) (inj : Inj) : CleanX Z (forkIo s inj) := by
  unfold forkIo
  dsimp only
  obtain ⟨h0, e0, free⟩ := closes_spec h [.closeOwner (.loop .backend) false, .closeOwner (.loop .ring) false,
    .closeOwner (.loop .inotify) false] (by simp)
  generalize s.run [.closeOwner (.loop .backend) false, .closeOwner (.loop .ring) false, .closeOwner (.loop .inotify) false] = s0
    at h0 e0 free ⊢
  split
  · exact (h0.tick _ _).ret _
  · have e2 := (e0.tick inj "epoll_create1").run [.create .epollCreate .epoll (.loop .backend)]
    have h2 := (h0.tick inj "epoll_create1").createOk (o := .loop .backend) (site := .epollCreate) (kind := .epoll)
      (by simpa using free (.loop .backend) (by simp) rfl rfl) (by simpa [okO] using e0.loopOk.trans hlo)
    have free2 : ∀ f, f ≠ .backend → Prim.closeOwner (.loop f) false ∈ _ → ¬ Own ((s0.tick inj "epoll_create1").run
        [.create .epollCreate .epoll (.loop .backend)]).l.1 (.loop f) := fun f hne hm =>
      free_into into_create (by simpa using free (.loop f) hm rfl rfl) (by simpa using hne) nofun
    obtain ⟨e3, own3⟩ := ring_spec _ inj (free2 .ring nofun (by simp))
    have hlo3 := (e2.trans e3).loopOk.trans hlo
    have h3 := h2.quiet e3.okO (fun o ho => (own3 o ho).imp_right (by rintro rfl; exact hlo3))
    split
    · split
      · exact (h3.tick _ _).ret _
      · exact clean_forkAsync ((h3.tick _ _).createOk (o := .loop .inotify)
          (fun hc => (own3 _ (own_tick.mp hc)).elim (free2 .inotify nofun (by simp)) nofun) (by simpa [okO] using hlo3))
          (by simpa using hlo3) inj
    · exact clean_forkAsync h3 hlo3 inj

theorem clean_forkLock (h : CleanX Z s) (inj : Inj) : CleanX Z (forkLock s inj) ∧ (forkLock s inj).loopOk = s.loopOk := by
  unfold forkLock
  split
  · rename_i hld
    obtain ⟨h1, -, free⟩ := closes_spec h [.closeOwner (.glob 0) false, .closeOwner (.glob 1) false] (by simp)
    rw [run_cons]
    exact ⟨((h1.tick _ _).createOk (o := .glob 0) (by simpa using free (.glob 0) (by simp) rfl rfl) (by simpa [okO] using hld)).createOk (o := .glob 1)
      (free_into into_create (by simpa using free (.glob 1) (by simp) rfl rfl) nofun nofun) (by simpa [okO] using hld), by simp⟩
  · exact ⟨h, rfl⟩

theorem clean_opFork (h : CleanX Z s) (inj : Inj) : CleanX Z (opFork s inj) := by
  unfold opFork
  dsimp only
  obtain ⟨a, b⟩ := clean_forkLock h inj
  split
  · exact clean_forkIo a ‹_› inj
  · exact a.ret _

theorem clean_step (h : Clean s) (inj : Inj) (op : Op) : Clean (step s inj op) := by
  rw [clean_iff] at h ⊢
  have h0 : CleanX Z ({ s with cnt := [] } : St) := h.frame rfl (fun _ _ hk => hk) id id
  unfold step
  dsimp only
  -- the bullets follow the alternatives of `step`: first the eight operations that need no loop (the seventh is `end_`),
  -- then, once `loopOk` is known, `tcpInit` … `spawn`; those without a lemma of their own are `pipeInit`, `asyncInit`,
  -- `signalStart`, `policy`, `readStart`, `fsMkstemp`, `util`, and the last is the unreachable default
  split
  · exact clean_opLoopInit h0 inj
  · exact clean_opLoopClose h0
  · exact clean_opUfd h0 _ _
  · exact clean_opUclose h0 _
  · exact clean_opUvPipe h0 inj
  · exact clean_opUvSocketpair h0 inj
  · exact (h0.harmless (by simp)).ret _
  · exact clean_opFork h0 inj
  · split
    · simpa using h0
    · rename_i hlo
      have hlo : ({ s with cnt := [] } : St).loopOk = true := by simpa using hlo
      split
      · exact clean_opTcpInit h0 hlo inj _
      · exact ((h0.newH _).emfileInit (by simpa using hlo) inj).ret _
      · exact clean_opUdpInit h0 inj _
      · exact clean_opTtyInit h0 hlo inj _
      · exact clean_opPollInit h0 _
      · exact (h0.newH _).ret _
      · exact (h0.newH _).ret _
      · exact clean_opFsEventStart h0 hlo inj _
      · exact clean_opOpen h0 inj _ _
      · exact clean_opBind h0 inj _ _
      · exact clean_opListen h0 inj _
      · split <;> simpa using h0
      · split
        · simpa using h0
        · split <;> simpa using h0
      · exact clean_opConnect h0 inj _ _
      · exact clean_opAccept h0 inj _ _
      · exact clean_opClose h0 _
      · exact clean_opRun h0 hlo inj
      · exact clean_opFsOpen h0 inj _
      · exact cleanX_say.mpr (h0.harmless (by simp))
      · exact clean_opFsClose h0 _
      · exact clean_opFsCopyfile h0 inj _
      · exact clean_opFlood h0 _ _
      · exact h0.ret _
      · exact clean_opSockopt h0 inj _ _
      · exact clean_opIpcSend h0 _ _ _
      · exact clean_opSpawn h0 inj _ _
      · simpa using h0

theorem clean_init : Clean ({} : St) := fun _ ⟨_, he, _⟩ => nomatch he
end UvModel.FdLedger
