import UvModel.ThreadArith
/-! for C20: the `& ~(pagesize-1)` mask on 64-bit words; the EINTR retry loop of thread.c over a script of
answers (`ThreadArith.retryEintr`, for any final decision; `Fault.retryEintr` models the same idiom for
fd calls, over an oracle with fuel) -/
namespace UvModel.ThreadArith

/-- `x & ~(2^k - 1)` on a 64-bit word clears the low `k` bits: it is `x - x % 2^k` -/
theorem and_mask (x k : Nat) (hk : k ≤ 64) (hx : x < 2 ^ 64) :
    x &&& (2 ^ 64 - 2 ^ k) = x - x % 2 ^ k := by
  have hmask : 2 ^ 64 - 2 ^ k = 2 ^ k * (2 ^ (64 - k) - 1) := by
    rw [Nat.mul_sub_one, ← Nat.pow_add, Nat.add_sub_cancel' hk]
  have hdiv : x / 2 ^ k < 2 ^ (64 - k) :=
    Nat.div_lt_of_lt_mul (by rwa [← Nat.pow_add, Nat.add_sub_cancel' hk])
  -- remainder and quotient by `2^k` of the left side: `&&&` commutes with both, the mask has remainder 0
  -- and quotient `2^(64-k) - 1`, which is all ones above `x / 2^k`
  rw [← Nat.mul_div_self_eq_mod_sub_self, ← Nat.div_add_mod (x &&& _) (2 ^ k), Nat.and_mod_two_pow,
    Nat.and_div_two_pow, hmask, Nat.mul_mod_right, Nat.and_zero, Nat.add_zero,
    Nat.mul_div_cancel_left _ (Nat.two_pow_pos k), Nat.and_two_pow_sub_one_eq_mod,
    Nat.mod_eq_of_lt hdiv]

theorem not64_mask (k : Nat) : not64 (2 ^ k - 1) = 2 ^ 64 - 2 ^ k := by
  rw [not64, Nat.sub_sub, Nat.add_sub_cancel' (Nat.two_pow_pos k)]

theorem ite_lt_eq_max (s m : Nat) : (if s < m then m else s) = max s m := by
  simp only [Nat.max_comm s, Nat.max_def, ← Nat.not_lt, ite_not]

theorem retryEintr_eintrs_then (final : Int → Int → Out) (n : Nat) (r e : Int) (rest : List (Int × Int))
    (h : ¬(r = -1 ∧ e = EINTR)) :
    retryEintr final (List.replicate n (-1, EINTR) ++ (r, e) :: rest) = some (final r e, n + 1) := by
  induction n with
  | zero => simp [retryEintr, h]
  | succ n ih => simp [List.replicate_succ, retryEintr, ih]

theorem retryEintr_only_eintrs (final : Int → Int → Out) (n : Nat) :
    retryEintr final (List.replicate n (-1, EINTR)) = none := by
  induction n with
  | zero => rfl
  | succ n ih => simp [List.replicate_succ, retryEintr, ih]

theorem retryEintr_eq_some (final : Int → Int → Out) (script : List (Int × Int)) (o : Out) (k : Nat)
    (h : retryEintr final script = some (o, k)) :
    ∃ n r e rest, script = List.replicate n (-1, EINTR) ++ (r, e) :: rest ∧ k = n + 1 ∧
      ¬(r = -1 ∧ e = EINTR) ∧ o = final r e := by
  fun_induction retryEintr final script generalizing o k with
  | case1 => cases h
  | case2 r e rest hc ih =>
    rw [Option.map_eq_some_iff] at h
    obtain ⟨⟨o', k'⟩, h1, h2⟩ := h
    cases h2
    obtain ⟨n, r', e', rest, rfl, rfl, hne, ho⟩ := ih _ _ h1
    exact ⟨n + 1, r', e', rest, by rw [hc.1, hc.2]; rfl, rfl, hne, ho⟩
  | case3 r e rest hc =>
    cases h
    exact ⟨0, r, e, rest, rfl, rfl, hc, rfl⟩

end UvModel.ThreadArith
