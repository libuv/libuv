import UvModel.Lemmas.LoopReqCount
/-!
  A request's callback is delivered at most once over the whole trace.
  `reqCbs r t`: number of request-kind callback events (`work`, `udpSend`, `connect`) for request `r` in `t`.
  `TInv s`: for every `r`, callbacks delivered so far + records still owed ≤ 1, and no callback for ids not yet
  handed out.  `J e s = RInv e s ∧ TInv s` is preserved by every step: a completion site takes `r` out of a
  queue slot, so (`RInv`) `r` is owed exactly once, hence (`TInv`) has had no callback; the record is dropped
  right before the callback event; ids are never reused (`nextReq` only grows).
-/
namespace UvModel.Loop
open UvModel.HandleKernels
namespace Reqs

def reqCbs (r : Nat) (t : List Event) : Nat := t.countP (fun e => rcbE e == some r)

def TInv (s : State) : Prop :=
  (∀ r, reqCbs r s.trace + idc r s ≤ 1) ∧ (∀ r, s.nextReq ≤ r → reqCbs r s.trace = 0)

def J (e : Option Nat) (s : State) : Prop := RInv e s ∧ TInv s

/-- `J` is preserved -/
def JS (e : Option Nat) (s s' : State) : Prop := J e s → J e s'
theorem JS.refl {e : Option Nat} (s : State) : JS e s s := id
theorem JS.trans {e : Option Nat} {a b c : State} (h1 : JS e a b) (h2 : JS e b c) : JS e a c := fun h => h2 (h1 h)

theorem JS.of_rle {e : Option Nat} {s s' : State} (h : RLe s s') (ht : s'.trace = s.trace) : JS e s s' := by
  rintro ⟨hr, h1, h2⟩
  refine ⟨h.inv hr, ?_, ?_⟩
  · intro r; have := h1 r; simp only [idc, h.2.1, ht] at this ⊢; exact this
  · intro r hr'; rw [h.2.2.1] at hr'; rw [ht]; exact h2 r hr'

theorem JS.of_rview {e : Option Nat} {s s' : State} (h : rview s' = rview s) : JS e s s' :=
  JS.of_rle (RLe.of_rq (rq_of_rview h)) (congrArg (·.2.2.2.2.2.2.2.2.2.1) h)

theorem reqCbs_cons (r : Nat) (ev : Event) (t : List Event) :
    reqCbs r (ev :: t) = reqCbs r t + (if rcbE ev = some r then 1 else 0) := by
  simp [reqCbs, List.countP_cons]

/-- an event that is not a request callback -/
theorem JS.emit {e : Option Nat} (s : State) (ev : Event) (hev : rcbE ev = none) : JS e s (Loop.emit s ev) := by
  rintro ⟨hr, h1, h2⟩
  refine ⟨RInv.of_rq (rq_emit _ _) hr, ?_⟩
  unfold Loop.emit
  split
  · exact ⟨h1, h2⟩
  · refine ⟨?_, ?_⟩
    · intro r; have := h1 r
      simp only [reqCbs_cons, hev, reduceCtorEq, if_false, Nat.add_zero]
      exact this
    · intro r hr'
      simp only [reqCbs_cons, hev, reduceCtorEq, if_false, Nat.add_zero]
      exact h2 r hr'

theorem JS.emitObs {e : Option Nat} (s : State) : JS e s (Loop.emitObs s) := JS.emit s _ rfl

/-! ### API calls: the trace is untouched, at most one fresh record is added -/
def Reg (s s' : State) : Prop :=
  (s'.reqs = s.reqs ∧ s'.nextReq = s.nextReq) ∨
  (∃ k, s'.reqs = s.reqs ++ [({ id := s.nextReq, kind := k } : Req)] ∧ s'.nextReq = s.nextReq + 1)

theorem rn_of_rq {s s' : State} (h : rq s' = rq s) : s'.reqs = s.reqs ∧ s'.nextReq = s.nextReq := by
  simp only [rq, Prod.mk.injEq] at h; exact ⟨h.2.1, h.2.2.1⟩
theorem Reg.of_rq {s s' : State} (h : rq s' = rq s) : Reg s s' := Or.inl (rn_of_rq h)
theorem Reg.of_rle {s s' : State} (h : RLe s s') : Reg s s' := Or.inl ⟨h.2.1, h.2.2.1⟩

theorem TInv.reg {s s' : State} (h : Reg s s') (ht : s'.trace = s.trace) (hf : idc s.nextReq s = 0) (hi : TInv s) : TInv s' := by
  obtain ⟨h1, h2⟩ := hi
  rcases h with ⟨hr, hn⟩ | ⟨k, hr, hn⟩
  · refine ⟨?_, ?_⟩
    · intro r; have := h1 r; simp only [idc, hr, ht] at this ⊢; exact this
    · intro r hr'; rw [hn] at hr'; rw [ht]; exact h2 r hr'
  · refine ⟨?_, ?_⟩
    · intro r
      have := h1 r
      simp only [idc, hr, ht, List.countP_append, List.countP_cons, List.countP_nil] at this ⊢
      by_cases hx : r = s.nextReq
      · rw [hx] at this ⊢
        have hz := h2 s.nextReq (Nat.le_refl _)
        simp only [idc] at hf
        simp [hz, hf]
      · have : (s.nextReq == r) = false := by simp; omega
        simp [this]; omega
    · intro r hr'; rw [hn] at hr'; rw [ht]; exact h2 r (by omega)

/-- a completion site: `r` leaves its queue slot, the record is dropped, then the request callback starts -/
theorem J.cb_entry {e e' : Option Nat} {s s' : State} (r : Nat) (hi : J e s)
    (har : s'.ar = reqUnregister s.ar) (hr : s'.reqs = s.reqs.filter (·.id != r)) (hn : s'.nextReq = s.nextReq)
    (hc : ∀ x, cnt e' x s' + (if x = r then 1 else 0) ≤ cnt e x s) (ht : s'.trace = s.trace)
    (ph : Phase) (k : CbKind) (hk : isReqK k = true) (a b : Int) : J e' (cbEv ph k r a b s') := by
  obtain ⟨hri, h1, h2⟩ := hi
  have hri' : RInv e' s' := RInv.complete r hri har hr hn hc
  have howed : idc r s = 1 := RInv.owed_of_held (e := e) hri (by have := hc r; simp at this; omega)
  have hz : reqCbs r s.trace = 0 := by have := h1 r; omega
  have hlt : r < s.nextReq := by
    apply Nat.lt_of_not_le; intro hle; have := hri.2.2.2 r hle; omega
  have hid : ∀ x, idc x s' = if x = r then 0 else idc x s := by
    intro x; simp only [idc, hr]; exact countP_id_filter _ _ _
  refine ⟨RInv.of_rq (rq_cbEv ..) hri', ?_⟩
  unfold cbEv Loop.emit
  split
  · refine ⟨?_, ?_⟩
    · intro x; show reqCbs x s'.trace + idc x s' ≤ 1
      rw [ht, hid]; have := h1 x; split <;> omega
    · intro x hx; show reqCbs x s'.trace = 0
      rw [ht]; exact h2 x (hn ▸ hx)
  · refine ⟨?_, ?_⟩
    · intro x
      show reqCbs x (Event.cb ph k r a b :: s'.trace) + idc x s' ≤ 1
      rw [reqCbs_cons, ht, hid]
      simp only [rcbE, hk, if_true, Option.some.injEq]
      have := h1 x
      by_cases hx : x = r
      · subst hx; simp; omega
      · have : ¬ (r = x) := by omega
        simp [hx, this]; omega
    · intro x hx
      show reqCbs x (Event.cb ph k r a b :: s'.trace) = 0
      have hx' : s.nextReq ≤ x := hn ▸ hx
      rw [reqCbs_cons, ht, h2 x hx']
      simp only [rcbE, hk, if_true, Option.some.injEq]
      have : ¬ (r = x) := by omega
      simp [this]

end Reqs
open Reqs

theorem ReqStep.reg : ∀ {s s' : State}, ReqStep s s' → Reg s s'
  | _, _, .move s id st _ => .of_rle (modH_move_rle s id st)
  | _, _, .enqueue s id _ => .inr ⟨.udpSend id, rfl, rfl⟩
  | _, _, .connect s id _ _ => .inr ⟨.connect id, rfl, rfl⟩
  | _, _, .work s api => .inr ⟨.work api, (workSubmit_reg s api).2⟩
  | _, _, .ring s api => .inr ⟨.ring api, rfl, rfl⟩
  | _, _, .cancel s r => .of_rle (workCancel_rle s r)
  | _, _, .complete s k => .of_rle (completeWorks_rle s k)
  | _, _, .detach _ => .inl ⟨rfl, rfl⟩
  | _, _, .take s cq => .of_rle (ringTake_rle s cq)

/-- the trace is untouched and at most one fresh record is added -/
theorem ReqStep.js {e : Option Nat} {s s' : State} (h : ReqStep s s') : JS e s s' := fun hj =>
  ⟨h.rinv hj.1, TInv.reg h.reg (trace_of_hview h.hview) (hj.1.2.2.2 _ (Nat.le_refl _)) hj.2⟩

theorem OpStep.js {e : Option Nat} {q : Bool} {u : Option Nat} {s s' : State} (h : OpStep q u s s') : JS e s s' := by
  induction h with
  | frame h => exact .of_rview (rview_of_key h)
  | trans _ _ ih1 ih2 => exact ih1.trans ih2
  | kern h => exact .of_rview h.rview
  | req h => exact h.js
  | unwatch => exact .of_rview rfl
  | init s k => exact .of_rle (initH_rle s k) (by cases k <;> rfl)
  | close => exact .of_rview rfl

theorem Reqs.stepOp_js {e : Option Nat} (s : State) (o : Op) : JS e s (stepOp s o) :=
  ((applyOp_step s o).js.trans (JS.emit _ _ rfl)).trans (JS.emitObs _)

theorem Reqs.rcbE_of_plain {ev : Event} (h : plain ev) : rcbE ev = none := by
  cases ev with
  | cb => exact h.elim
  | _ => rfl

/-- the entry of a handle or close callback -/
theorem Reqs.JS.cbEv {e : Option Nat} (ph : Phase) (k : CbKind) (i : Nat) (a b : Int) (s : State) (hk : isReqK k = false) :
    JS e s (cbEv ph k i a b s) :=
  JS.trans (b := { s with ncbTotal := s.ncbTotal + 1 }) (JS.of_rle (RLe.of_rq rfl) rfl)
    (JS.emit _ (.cb ph k i a b) (by simp [rcbE, hk]))

theorem CbStep.js {e : Option Nat} {s s' : State} (h : CbStep s s') : JS e s s' := by
  induction h with
  | quiet h => exact h.js
  | call s o => exact stepOp_js s o
  | emit s ev hev => exact JS.emit s ev (rcbE_of_plain hev)
  | trans _ _ ih1 ih2 => exact ih1.trans ih2

namespace Reqs

/-- a completion site with its callback -/
theorem J.complete {e e' : Option Nat} {s s' : State} (r : Nat) (hi : J e s)
    (har : s'.ar = reqUnregister s.ar) (hr : s'.reqs = s.reqs.filter (·.id != r)) (hn : s'.nextReq = s.nextReq)
    (hc : ∀ x, cnt e' x s' + (if x = r then 1 else 0) ≤ cnt e x s) (ht : s'.trace = s.trace)
    (sc : Script) (ph : Phase) (k : CbKind) (hk : isReqK k = true) (key : CbKey) (a b : Int) (occ : Nat) :
    J e' (runCb sc ph k key r a b occ s') :=
  (runCb_cb sc ph k key r a b occ s').js (J.cb_entry r hi har hr hn hc ht ph k hk a b)

end Reqs
open Reqs

theorem Reach0.js {ph : Phase} {s s' : State} (h : Reach0 ph s s') : JS none s s' := by
  induction h with
  | cb h => exact h.js
  | trans _ _ ih1 ih2 => exact ih1.trans ih2
  | handleCb s ph k i a b _ hk _ => exact JS.cbEv ph k i a b s hk
  | drain s id => exact .of_rle (modH_move_rle s id (-125)) rfl
  | watchers => exact .of_rview rfl
  | udpDone s id h r st rest ph a b hf hw =>
    exact fun hj => J.cb_entry r hj (by rfl) (by rfl) (by rfl) (cnt_udpDone hf hw _ _) (by rfl) ph .udpSend rfl a b
  | connDone s id h r ph a b hf hr =>
    intro hj
    have hk := key_ioStop { (modH s id fun h => { h with connReq := none }) with
      ar := reqUnregister s.ar, reqs := s.reqs.filter (·.id != r) } (.h id) POLLOUT
    have hq := rq_of_key hk
    have hq' := hq
    simp only [rq, Prod.mk.injEq] at hq'
    exact J.cb_entry r hj (by exact hq'.1) (by exact hq'.2.1) (by exact hq'.2.2.1)
      (fun x => by rw [cnt_of_rq hq]; exact cnt_connDone hf hr _ _ x)
      (by exact (trace_of_hview (hview_of_key hk)).trans rfl) ph .connect rfl a b
  | workDone s r c rest ph a b hd =>
    exact fun hj => J.cb_entry r hj (by rfl) (by rfl) (by rfl) (cnt_workDone hd _ _) (by rfl) ph .work rfl a b
  | destroy s id h r s2 hf hr hcb =>
    intro hj
    have h1 : J (some id) s2 :=
      hcb.js (J.cb_entry (e' := some id) r hj (by rfl) (by rfl) (by rfl) (cnt_destroy hf hr _ _) (by rfl) .closing .connect rfl (-125) 0)
    exact ⟨RInv.clear_conn h1.1, h1.2⟩

theorem Reach.js {s s' : State} (h : Reach s s') : JS none s s' := by
  induction h with
  | base h => exact h.js
  | trans _ _ ih1 ih2 => exact ih1.trans ih2
  | halt s => exact .of_rle (RLe.of_rq rfl) rfl
  | ask s => exact .of_rle (RLe.of_rq rfl) rfl
  | polled s => exact JS.emit _ _ rfl

theorem ReachC.js {s s' : State} (h : ReachC s s') : JS none s s' := by
  induction h with
  | base h => exact h.js
  | trans _ _ ih1 ih2 => exact ih1.trans ih2
  | setClosed s id => exact .of_rview rfl
  | unlink s id _ => exact .of_rle (unlink_rle s id) rfl
  | closeCb s j a b _ => exact JS.cbEv .closing .close j a b s rfl
  | detach s => exact .of_rview rfl
  | pop s => exact .of_rview rfl

namespace Reqs

theorem runClosing_js (sc : Script) (s : State) : JS none s (runClosing sc s) := (runClosing_reachC sc s).js

theorem iteration_js (sc : Script) (mode : Mode) (s : State) : JS none s (iteration sc mode s) :=
  iteration_keeps Reach.js runClosing_js sc mode s

theorem runMain_js (sc : Script) (fuel : Nat) (prog : List MainOp) (s : State) (hj : J none s) :
    J none (runMain sc fuel s prog) :=
  runMain_keeps Reach.js runClosing_js sc fuel prog s hj

theorem initLoop_j (clock0 : Nat) (metrics : Bool) (oracle : List PollRes) : J none (initLoop clock0 metrics oracle) :=
  (initLoop_step clock0 metrics oracle).js
    ⟨⟨rfl, fun _ => Nat.le_refl _, fun _ => Nat.zero_le _, fun _ _ => rfl⟩, fun _ => Nat.zero_le 1, fun _ _ => rfl⟩

end Reqs
end UvModel.Loop
