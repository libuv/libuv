import UvModel.Lemmas.IoWatchReg
import UvModel.Lemmas.IoWatchKernel
/-! C14: the kernel-side invariant `KCore`, its form `RCore` with ctl submissions in flight (one lemma,
`RCore.update`, for replacing a watcher's record serves both), and the full invariant `FInv = SInv ∧ KCore` through
user operations, callbacks and event dispatch -/
namespace UvModel.IoWatch

/-- kernel-side invariant (with the registry facts it needs) -/
structure KCore (s : St) : Prop where
  sq : s.sq = []
  /-- the user discipline is in force -/
  multi : s.multi = false
  /-- a watcher whose `events` is non-zero has its (description, fd) entry, with exactly that mask -/
  armed : ∀ id, id < s.ws.length → (getW s id).events ≠ Mask.none →
    ∃ o, s.k.ofdAt (getW s id).fd = some o ∧ s.k.maskAt o (getW s id).fd = some (getW s id).events
  /-- every kernel entry sits on a descriptor that still refers to the same description and belongs to
  the live (not closed) handle of that descriptor, which has been started since its last uv_poll_stop -/
  owned : ∀ o fd, s.k.maskAt o fd ≠ none → s.k.ofdAt fd = some o ∧
    ∃ id, id < s.ws.length ∧ (getW s id).fd = fd ∧ (getW s id).closing = false ∧
      ¬((getW s id).clean = true ∧ (getW s id).pevents = Mask.none)
  /-- one live handle per descriptor -/
  uniq : ∀ i j, i < s.ws.length → j < s.ws.length → (getW s i).fd = (getW s j).fd →
    (getW s i).closing = false → (getW s j).closing = false → i = j
  /-- nothing requested, nothing told to the kernel -/
  quiet : ∀ id, (getW s id).pevents = Mask.none → (getW s id).events = Mask.none
  /-- a handle with something requested is open, started, on an open descriptor, and registered (the converse of
  `SInv.regReq`) -/
  live : ∀ id, id < s.ws.length → (getW s id).pevents ≠ Mask.none →
    (getW s id).closing = false ∧ (getW s id).clean = false ∧ (s.k.ofdAt (getW s id).fd).isSome = true ∧
    watcherAt s (getW s id).fd = some id
  /-- only started handles are queued -/
  queued : ∀ id, id ∈ s.wq → id < s.ws.length ∧ (getW s id).pevents ≠ Mask.none

theorem KCore.congr {s t : St} (c : KCore s) (h1 : t.ws = s.ws) (h2 : t.watchers = s.watchers) (h3 : t.wq = s.wq)
    (h4 : KFrame s.k t.k []) (h5 : t.sq = s.sq) (h6 : t.multi = s.multi) : KCore t := by
  have hm : ∀ o fd, t.k.maskAt o fd = s.k.maskAt o fd := fun o fd => h4.2 o fd List.not_mem_nil
  have hg : ∀ id, getW t id = getW s id := by intro id; simp [getW, h1]
  have hw : ∀ fd, watcherAt t fd = watcherAt s fd := by intro fd; simp [watcherAt, h2]
  refine ⟨by rw [h5]; exact c.sq, by rw [h6]; exact c.multi, ?_, ?_, ?_, ?_, ?_, ?_⟩
  · intro id hl; rw [hg, h4.1]; simp only [hm]; exact c.armed id (by rw [← h1]; exact hl)
  · intro o fd; rw [hm, h4.1]; intro h
    obtain ⟨a, id, b⟩ := c.owned o fd h
    exact ⟨a, id, by rw [h1, hg]; exact b⟩
  · intro i j hi hj; rw [hg, hg]; exact c.uniq i j (by rw [← h1]; exact hi) (by rw [← h1]; exact hj)
  · intro id; rw [hg]; exact c.quiet id
  · intro id hl; rw [hg, h4.1, hw]; exact c.live id (by rw [← h1]; exact hl)
  · intro id; rw [h3, h1, hg]; exact c.queued id

theorem KCore.frame {s t : St} (c : KCore s) (h1 : t.ws = s.ws) (h2 : t.watchers = s.watchers) (h3 : t.wq = s.wq)
    (h4 : t.k = s.k) (h5 : t.sq = s.sq) (h6 : t.multi = s.multi) : KCore t :=
  c.congr h1 h2 h3 (h4 ▸ KFrame.refl _ _) h5 h6

/-- a pending submission is consistent with the registry: it carries the watcher's descriptor and its
requested mask (already copied to `events`), and a MOD refers to an existing entry -/
def PendOk (t : St) (k : Kernel) (c : Ctl) : Prop :=
  c.2.2.2 < t.ws.length ∧ c.2.1 = (getW t c.2.2.2).fd ∧ c.2.2.1 = (getW t c.2.2.2).pevents ∧
  (getW t c.2.2.2).events = (getW t c.2.2.2).pevents ∧ (getW t c.2.2.2).pevents ≠ Mask.none ∧
  c.1 ≠ .del ∧ (c.1 = .mod → ∃ o, k.ofdAt c.2.1 = some o ∧ k.maskAt o c.2.1 ≠ none)

/-- `KCore` with the submissions `sq` still in flight against the kernel `k`: a watcher with a pending submission
need not have its entry yet (`armed`), and every pending submission is consistent with the registry (`pend`) -/
structure RCore (t : St) (k : Kernel) (sq : List Ctl) : Prop where
  multi : t.multi = false
  pend : ∀ c ∈ sq, PendOk t k c
  armed : ∀ id, id < t.ws.length → (getW t id).events ≠ Mask.none → (∀ c ∈ sq, c.2.2.2 ≠ id) →
    ∃ o, k.ofdAt (getW t id).fd = some o ∧ k.maskAt o (getW t id).fd = some (getW t id).events
  owned : ∀ o fd, k.maskAt o fd ≠ none → k.ofdAt fd = some o ∧
    ∃ id, id < t.ws.length ∧ (getW t id).fd = fd ∧ (getW t id).closing = false ∧
      ¬((getW t id).clean = true ∧ (getW t id).pevents = Mask.none)
  uniq : ∀ i j, i < t.ws.length → j < t.ws.length → (getW t i).fd = (getW t j).fd →
    (getW t i).closing = false → (getW t j).closing = false → i = j
  quiet : ∀ id, (getW t id).pevents = Mask.none → (getW t id).events = Mask.none
  live : ∀ id, id < t.ws.length → (getW t id).pevents ≠ Mask.none →
    (getW t id).closing = false ∧ (getW t id).clean = false ∧ (k.ofdAt (getW t id).fd).isSome = true ∧
    watcherAt t (getW t id).fd = some id
  queued : ∀ id, id ∈ t.wq → id < t.ws.length ∧ (getW t id).pevents ≠ Mask.none

theorem RCore.frame {t t' : St} {k : Kernel} {L : List Ctl} (r : RCore t k L) (h1 : t'.ws = t.ws)
    (h2 : t'.watchers = t.watchers) (h3 : t'.wq = t.wq) (h4 : t'.multi = t.multi) : RCore t' k L := by
  have hg : ∀ id, getW t' id = getW t id := by intro id; simp [getW, h1]
  have hw : ∀ fd, watcherAt t' fd = watcherAt t fd := by intro fd; simp [watcherAt, h2]
  refine ⟨by rw [h4]; exact r.multi, ?_, ?_, ?_, ?_, ?_, ?_, ?_⟩
  · intro c hc; have := r.pend c hc; unfold PendOk at this ⊢; rw [h1, hg]; exact this
  · intro id; rw [h1, hg]; exact r.armed id
  · intro o fd h; obtain ⟨a, id, b⟩ := r.owned o fd h; exact ⟨a, id, by rw [h1, hg]; exact b⟩
  · intro i j; rw [h1, hg, hg]; exact r.uniq i j
  · intro id; rw [hg]; exact r.quiet id
  · intro id; rw [h1, hg, hw]; exact r.live id
  · intro id; rw [h3, h1, hg]; exact r.queued id

/-- ring state: the invariant with the state's own pending submissions -/
def RS (t : St) : Prop := RCore t t.k t.sq

theorem KCore.toRS {t : St} (c : KCore t) : RS t :=
  ⟨c.multi, (by rw [c.sq]; intro x h; cases h), fun id h1 h2 _ => c.armed id h1 h2, c.owned, c.uniq, c.quiet, c.live,
    c.queued⟩

theorem RS.toK {t : St} (r : RS t) (h : t.sq = []) : KCore t :=
  ⟨h, r.multi, fun id h1 h2 => r.armed id h1 h2 (by rw [h]; intro c hc; cases hc), r.owned, r.uniq, r.quiet, r.live,
    r.queued⟩

/-- what a record `w` replacing watcher `id`'s must satisfy for the kernel-side invariant, with `L'` the
submissions in flight afterwards, to survive -/
structure RCore.Upd (s : St) (k : Kernel) (L' : List Ctl) (id : Nat) (w : W) : Prop where
  fd : w.fd = (getW s id).fd
  events : w.events = (getW s id).events ∨ w.events = Mask.none ∨ ∃ c ∈ L', c.2.2.2 = id
  quiet : w.pevents = Mask.none → w.events = Mask.none
  closing : w.closing = false → (getW s id).closing = false
  owned : (getW s id).closing = false → ¬((getW s id).clean = true ∧ (getW s id).pevents = Mask.none) →
    (∃ o, k.maskAt o w.fd ≠ none) → w.closing = false ∧ ¬(w.clean = true ∧ w.pevents = Mask.none)
  live : w.pevents ≠ Mask.none →
    w.closing = false ∧ w.clean = false ∧ (k.ofdAt w.fd).isSome = true ∧ watcherAt s w.fd = some id
  queued : id ∈ s.wq → w.pevents ≠ Mask.none

theorem RCore.update {s : St} {k : Kernel} {L L' : List Ctl} (r : RCore s k L) (id : Nat) (w : W)
    (hid : id < s.ws.length) (u : RCore.Upd s k L' id w)
    (hL : ∀ c ∈ L', (c ∈ L ∧ c.2.2.2 ≠ id) ∨ PendOk (setW s id w) k c) (hcov : ∀ c ∈ L, c ∈ L') :
    RCore (setW s id w) k L' := by
  have hg : ∀ j, j ≠ id → getW (setW s id w) j = getW s j := fun j hj => by
    rw [getW_setW, if_neg fun e => hj e.1]
  have hw : getW (setW s id w) id = w := by rw [getW_setW, if_pos ⟨rfl, hid⟩]
  have gfd : ∀ j, (getW (setW s id w) j).fd = (getW s j).fd := getW_setW_of W.fd s id w u.fd
  have gcl : ∀ j, (getW (setW s id w) j).closing = false → (getW s j).closing = false := fun j => by
    by_cases e : j = id
    · rw [e, hw]; exact u.closing
    · rw [hg j e]; exact fun h => h
  refine ⟨r.multi, ?_, ?_, ?_, ?_, ?_, ?_, ?_⟩
  · intro c hc
    rcases hL c hc with ⟨h, hne⟩ | h
    · have := r.pend c h
      unfold PendOk at this ⊢
      rw [hg _ hne, setW_len]; exact this
    · exact h
  · intro j hl hne hno
    by_cases e : j = id
    · subst e; rw [hw] at hne ⊢
      rcases u.events with he | he | ⟨c, hc, hcid⟩
      · rw [u.fd, he]; exact r.armed j hid (he ▸ hne) fun c hc => hno c (hcov c hc)
      · exact absurd he hne
      · exact absurd hcid (hno c hc)
    · rw [hg j e] at hne ⊢; exact r.armed j (by simpa using hl) hne fun c hc => hno c (hcov c hc)
  · intro o fd hm
    obtain ⟨a, j, b1, b2, b3, b4⟩ := r.owned o fd hm
    refine ⟨a, j, by simpa using b1, (gfd j).trans b2, ?_⟩
    by_cases e : j = id
    · subst e; rw [hw]; exact u.owned b3 b4 ⟨o, by rw [u.fd, b2]; exact hm⟩
    · rw [hg j e]; exact ⟨b3, b4⟩
  · intro a b ha hb hfd h1 h2
    rw [gfd, gfd] at hfd
    exact r.uniq a b (by simpa using ha) (by simpa using hb) hfd (gcl a h1) (gcl b h2)
  · intro j
    by_cases e : j = id
    · subst e; rw [hw]; exact u.quiet
    · rw [hg j e]; exact r.quiet j
  · intro j hl hp
    by_cases e : j = id
    · subst e; rw [hw] at hp ⊢; exact u.live hp
    · rw [hg j e] at hp ⊢; exact r.live j (by simpa using hl) hp
  · intro j hj
    refine ⟨by simpa using (r.queued j hj).1, ?_⟩
    by_cases e : j = id
    · subst e; rw [hw]; exact u.queued hj
    · rw [hg j e]; exact (r.queued j hj).2

theorem KCore.update {s : St} (c : KCore s) (id : Nat) (w : W)
    (h : id < s.ws.length → RCore.Upd s s.k [] id w) : KCore (setW s id w) := by
  by_cases hid : s.ws.length ≤ id
  · exact c.frame (List.set_eq_of_length_le hid) rfl rfl rfl rfl rfl
  have r := c.toRS
  unfold RS at r
  rw [c.sq] at r
  refine RS.toK ?_ c.sq
  unfold RS
  rw [show (setW s id w).sq = [] from c.sq]
  exact r.update id w (Nat.lt_of_not_le hid) (h (Nat.lt_of_not_le hid)) (fun _ h => nomatch h) fun _ h => nomatch h

theorem KCore.setFlags {s : St} (c : KCore s) (id : Nat) (w : W) (hf : w.fd = (getW s id).fd)
    (hp : w.pevents = (getW s id).pevents) (he : w.events = (getW s id).events)
    (hc : w.closing = (getW s id).closing) (hcl : w.clean = (getW s id).clean) : KCore (setW s id w) :=
  c.update id w fun hid => ⟨hf, .inl he, fun h => he ▸ c.quiet id (hp ▸ h), fun h => hc ▸ h,
    fun h1 h2 _ => ⟨hc ▸ h1, by rw [hcl, hp]; exact h2⟩,
    fun h => by rw [hp] at h; rw [hc, hcl, hf]; exact c.live id hid h, fun h => hp ▸ (c.queued id h).2⟩

/-- a stopped handle whose descriptor has no kernel entry is marked closed and/or clean -/
theorem KCore.retire {s : St} (c : KCore s) (id : Nat) (w : W) (hf : w.fd = (getW s id).fd)
    (hp : w.pevents = Mask.none) (he : w.events = Mask.none) (hp0 : (getW s id).pevents = Mask.none)
    (hcl : w.closing = true ∨ w.closing = (getW s id).closing)
    (hno : ∀ o, s.k.maskAt o (getW s id).fd = none) : KCore (setW s id w) :=
  c.update id w fun _ => ⟨hf, .inr (.inl he), fun _ => he,
    fun h => hcl.elim (fun h' => by rw [h'] at h; cases h) fun h' => h' ▸ h,
    fun _ _ ⟨o, ho⟩ => absurd (hf ▸ hno o) ho, fun h => absurd hp h, fun h => absurd hp0 (c.queued id h).2⟩

theorem KCore.setWq {s : St} (c : KCore s) (q : List Nat)
    (h : ∀ id ∈ q, id < s.ws.length ∧ (getW s id).pevents ≠ Mask.none) : KCore { s with wq := q } :=
  ⟨c.sq, c.multi, c.armed, c.owned, c.uniq, c.quiet, c.live, h⟩

theorem KCore.setWatchers {s : St} (c : KCore s) (l : List (Option Nat)) (n : Int)
    (h : ∀ id, id < s.ws.length → (getW s id).pevents ≠ Mask.none → l.getD (getW s id).fd none = some id) :
    KCore { s with watchers := l, nfds := n } :=
  ⟨c.sq, c.multi, c.armed, c.owned, c.uniq, c.quiet,
    fun id hl hp => ⟨(c.live id hl hp).1, (c.live id hl hp).2.1, (c.live id hl hp).2.2.1, h id hl hp⟩, c.queued⟩

theorem Mask.diff_none (m : Mask) : Mask.none.diff m = Mask.none := by
  simp [Mask.diff, Mask.none]

theorem KCore.start {s : St} (c : KCore s) (id : Nat) (m : Mask) (hid : id < s.ws.length)
    (hm : m ≠ Mask.none) (hcl : (getW s id).closing = false)
    (hopen : (s.k.ofdAt (getW s id).fd).isSome = true)
    (hw : watcherAt s (getW s id).fd = none ∨ watcherAt s (getW s id).fd = some id) :
    KCore (ioStart s id m) := by
  have hpe := Mask.or_ne_none (getW s id).pevents m hm
  have hL : ∀ f, (maybeResize s ((getW s id).fd + 1)).watchers.getD f none = watcherAt s f := maybeResize_at s _
  -- the slot is filled first: a started watcher must be registered
  have build : ∀ (l : List (Option Nat)) (n : Int),
      (∀ j, j < s.ws.length → (getW s j).pevents ≠ Mask.none → l.getD (getW s j).fd none = some j) →
      l.getD (getW s id).fd none = some id →
      KCore (setW { s with watchers := l, nfds := n } id
        { getW s id with pevents := (getW s id).pevents.or m, clean := false }) := fun l n h1 h2 =>
    (c.setWatchers l n h1).update id _ fun _ => ⟨rfl, .inl rfl, fun h => absurd h hpe, fun h => h,
      fun h1 _ _ => ⟨h1, fun h => by cases h.1⟩, fun _ => ⟨hcl, rfl, hopen, h2⟩, fun _ => hpe⟩
  have hold : ∀ j, j < s.ws.length → (getW s j).pevents ≠ Mask.none →
      (maybeResize s ((getW s id).fd + 1)).watchers.getD (getW s j).fd none = some j :=
    fun j hj hp => (hL _).trans (c.live j hj hp).2.2.2
  have enq : ∀ (l : List (Option Nat)) (n : Int),
      KCore (setW { s with watchers := l, nfds := n } id
        { getW s id with pevents := (getW s id).pevents.or m, clean := false }) →
      KCore { setW { s with watchers := l, nfds := n } id
        { getW s id with pevents := (getW s id).pevents.or m, clean := false } with
        wq := if s.wq.contains id then s.wq else s.wq ++ [id] } := fun l n ct =>
    ct.setWq _ fun j hj => by
      have : j ∈ s.wq ∨ j = id := by
        split at hj
        · exact .inl hj
        · simpa using hj
      rcases this with h | h
      · exact ct.queued j h
      · rw [h, getW_setW, if_pos ⟨rfl, hid⟩]; exact ⟨by simpa using hid, hpe⟩
  have hlen := maybeResize_len s ((getW s id).fd + 1)
  rw [ioStart_eq]
  generalize (maybeResize s ((getW s id).fd + 1)).watchers = L at hL hold hlen
  refine iteInduction (motive := KCore) (fun hev => build L s.nfds hold ?_) fun _ =>
    iteInduction (motive := KCore)
      (fun hn => enq _ _ (build (L.set (getW s id).fd (some id)) (s.nfds + 1) (fun j hj hp => ?_) ?_))
      fun hn => enq _ _ (build L s.nfds hold ?_)
  · rw [hL]
    rcases hw with h | h
    · have := (c.live id hid fun h0 => hpe (hev.symm.trans (c.quiet id h0))).2.2.2
      rw [h] at this; cases this
    · exact h
  · refine (getD_set_eq ..).trans ((if_neg fun e => ?_).trans (hold j hj hp))
    have := hold j hj hp
    rw [← e.1, hn] at this; cases this
  · exact (getD_set_eq ..).trans (if_pos ⟨rfl, hlen⟩)
  · rw [hL] at hn ⊢
    exact hw.resolve_left hn

theorem KCore.stop {s : St} (c : KCore s) (i : SInv s) (id : Nat) (m : Mask) : KCore (ioStop s id m) := by
  rw [ioStop_eq]
  have hold : (getW s id).pevents.diff m ≠ Mask.none → (getW s id).pevents ≠ Mask.none :=
    fun h h' => h (by rw [h']; exact Mask.diff_none m)
  refine iteInduction (motive := KCore) (fun _ => c) fun _ => iteInduction (motive := KCore) (fun hpe => ?_) fun hpe => ?_
  · have c1 := (c.setWq (s.wq.erase id) fun j hj => c.queued j (List.mem_of_mem_erase hj)).update id
      { getW s id with pevents := (getW s id).pevents.diff m, events := Mask.none } fun hid =>
      ⟨rfl, .inr (.inl rfl), fun _ => rfl, fun h => h, fun h1 h2 _ => ⟨h1, fun h => ?_⟩, fun h => absurd hpe h,
        fun h => absurd rfl ((List.Nodup.mem_erase_iff i.nodup).mp h).1⟩
    · refine iteInduction (motive := KCore) (fun hreg => c1.setWatchers _ _ fun j hj hp => ?_) fun _ => c1
      have l4 := (c1.live j hj hp).2.2.2
      refine (getD_set_eq ..).trans ((if_neg fun e => ?_).trans l4)
      -- the slot being cleared is `id`'s, whose requested mask is empty after the call
      rw [← e.1] at l4
      rw [Option.some.inj (l4.symm.trans hreg), getW_setW, if_pos ⟨rfl, (i.reg _ _ hreg).1⟩] at hp
      exact hp hpe
    · by_cases hp : (getW s id).pevents = Mask.none
      · exact h2 ⟨h.1, hp⟩
      · have := (c.live id hid hp).2.1
        rw [this] at h; cases h.1
  · have hid : id < s.ws.length := Nat.lt_of_not_le fun h => hold hpe (by rw [getW_oob s id h]; rfl)
    have c2 := c.update id { getW s id with pevents := (getW s id).pevents.diff m } fun _ =>
      ⟨rfl, .inl rfl, fun h => absurd h hpe, fun h => h, fun h1 _ _ => ⟨h1, fun h => hpe h.2⟩,
        fun _ => c.live id hid (hold hpe), fun _ => hpe⟩
    refine c2.setWq _ fun j hj => ?_
    have hq : j ∈ s.wq ∨ j = id := by
      split at hj
      · exact .inl hj
      · simpa using hj
    rcases hq with h | h
    · exact c2.queued j h
    · rw [h, getW_setW, if_pos ⟨rfl, hid⟩]; exact ⟨by simpa using hid, hpe⟩

/-- EPOLL_CTL_DEL on a descriptor none of whose handles is armed -/
theorem KCore.ctlDel {s : St} (c : KCore s) (fd : Nat) (m : Mask) (ow : Option Nat)
    (hun : ∀ id, id < s.ws.length → (getW s id).fd = fd → (getW s id).events = Mask.none) :
    KCore (ctl s .del fd m ow).1 ∧
    ∀ o, (ctl s .del fd m ow).1.k.maskAt o fd = none := by
  have hof : ∀ f, (ctl s .del fd m ow).1.k.ofdAt f = s.k.ofdAt f := fun f => ctl_ofdAt ..
  have hm : ∀ o f, (ctl s .del fd m ow).1.k.maskAt o f =
      if s.k.ofdAt fd = some o ∧ f = fd then none else s.k.maskAt o f := by
    intro o f
    show (s.k.ctl .del fd m ow).1.maskAt o f = _
    cases ho : s.k.ofdAt fd with
    | none => rw [ctl_closed _ _ _ _ _ ho, if_neg fun h => nomatch h.1]
    | some o0 =>
      rw [ctl_del_maskAt _ _ _ _ _ ho]
      by_cases hc : o = o0 ∧ f = fd
      · rw [if_pos hc, if_pos ⟨hc.1 ▸ rfl, hc.2⟩]
      · rw [if_neg hc, if_neg fun h => hc ⟨(Option.some.inj h.1).symm, h.2⟩]
  constructor
  · refine ⟨c.sq, c.multi, ?_, ?_, c.uniq, c.quiet, ?_, c.queued⟩
    · intro id hl hne
      obtain ⟨o, h1, h2⟩ := c.armed id hl hne
      refine ⟨o, (hof _).trans h1, (hm ..).trans ((if_neg fun h => hne (hun id hl h.2)).trans h2)⟩
    · intro o f h
      rw [hm] at h
      split at h
      · exact absurd rfl h
      · rw [hof]; exact c.owned o f h
    · intro id hl hp
      have := c.live id hl hp
      exact ⟨this.1, this.2.1, (congrArg Option.isSome (hof _)).trans this.2.2.1, this.2.2.2⟩
  · intro o
    rw [hm]
    split
    · rfl
    · rename_i h
      cases hmm : s.k.maskAt o fd with
      | none => rfl
      | some x => exact absurd ⟨(c.owned o fd (by rw [hmm]; simp)).1, rfl⟩ h

theorem KCore.invalidate {s : St} (c : KCore s) (fd : Nat)
    (hun : ∀ id, id < s.ws.length → (getW s id).fd = fd → (getW s id).events = Mask.none) :
    KCore (invalidate s fd) ∧ ∀ o, (invalidate s fd).k.maskAt o fd = none := by
  unfold IoWatch.invalidate
  split
  · exact (c.frame (t := { s with batch := s.batch.map fun e => if e.1 = some fd then (none, e.2) else e })
      rfl rfl rfl rfl rfl rfl).ctlDel fd _ _ hun
  · exact c.ctlDel fd _ _ hun

theorem KCore.push {s : St} (c : KCore s) (w : W) (hp : w.pevents = Mask.none) (he : w.events = Mask.none)
    (hfree : ∀ j, j < s.ws.length → (getW s j).fd = w.fd → (getW s j).closing = true) :
    KCore { s with ws := s.ws ++ [w] } := by
  have hold : ∀ j, j < s.ws.length → getW { s with ws := s.ws ++ [w] } j = getW s j := by
    intro j hj; simp [getW, List.getD_eq_getElem?_getD, List.getElem?_append, hj]
  have hnew : getW { s with ws := s.ws ++ [w] } s.ws.length = w := by
    simp [getW, List.getD_eq_getElem?_getD]
  have hlen : ({ s with ws := s.ws ++ [w] } : St).ws.length = s.ws.length + 1 := by simp
  have hcase : ∀ j, j < s.ws.length + 1 → j < s.ws.length ∨ j = s.ws.length := by intro j h; omega
  have hany : ∀ j, getW { s with ws := s.ws ++ [w] } j = getW s j ∨
      ((getW { s with ws := s.ws ++ [w] } j).pevents = Mask.none ∧ (getW { s with ws := s.ws ++ [w] } j).events = Mask.none) := by
    intro j
    by_cases h1 : j < s.ws.length
    · left; exact hold j h1
    · right
      by_cases h2 : j = s.ws.length
      · rw [h2, hnew]; exact ⟨hp, he⟩
      · rw [getW_oob _ j (by rw [hlen]; omega)]; exact ⟨rfl, rfl⟩
  refine ⟨c.sq, c.multi, ?_, ?_, ?_, ?_, ?_, ?_⟩
  · intro j hj hne; rw [hlen] at hj
    rcases hcase j hj with h | h
    · rw [hold j h] at hne ⊢; exact c.armed j h hne
    · rw [h, hnew] at hne; exact absurd he hne
  · intro o fd h
    obtain ⟨a, j, b1, b⟩ := c.owned o fd h
    exact ⟨a, j, by rw [hlen]; omega, by rw [hold j b1]; exact b⟩
  · intro a b ha hb; rw [hlen] at ha hb
    rcases hcase a ha with h1 | h1 <;> rcases hcase b hb with h2 | h2
    · rw [hold a h1, hold b h2]; exact c.uniq a b h1 h2
    · rw [hold a h1, h2, hnew]; intro hfd hc _; have := hfree a h1 hfd; rw [this] at hc; cases hc
    · rw [h1, hnew, hold b h2]; intro hfd _ hc; have := hfree b h2 hfd.symm; rw [this] at hc; cases hc
    · intro _ _ _; rw [h1, h2]
  · intro j; rcases hany j with h | h
    · rw [h]; exact c.quiet j
    · intro _; exact h.2
  · intro j hj hpj; rw [hlen] at hj
    rcases hcase j hj with h | h
    · rw [hold j h] at hpj ⊢; exact c.live j h hpj
    · rw [h, hnew] at hpj; exact absurd hp hpj
  · intro j hj; have := c.queued j hj
    exact ⟨by rw [hlen]; omega, by rw [hold j this.1]; exact this.2⟩

theorem kcore_init (ring : Bool) (internal nw : Nat) : KCore (init ring internal nw) := by
  refine ⟨rfl, rfl, ?_, ?_, ?_, ?_, ?_, ?_⟩
  · intro id h; simp [init] at h
  · intro o fd h; simp [init, Kernel.maskAt, entMask] at h
  · intro i j h; simp [init] at h
  · intro id _; simp [init, getW]; rfl
  · intro id h; simp [init] at h
  · intro id h; simp [init] at h

structure FInv (s : St) : Prop where
  si : SInv s
  kc : KCore s

theorem KCore.emit {s : St} (c : KCore s) (e : Ev) : KCore (emit s e) := c.frame rfl rfl rfl rfl rfl rfl
theorem KCore.abort {s : St} (c : KCore s) : KCore (abort s) := c.frame rfl rfl rfl rfl rfl rfl

theorem FInv.same {s t : St} (f : FInv s) (h1 : t.ws = s.ws) (h2 : t.watchers = s.watchers) (h3 : t.nfds = s.nfds)
    (h4 : t.wq = s.wq) (h5 : t.k = s.k) (h6 : t.sq = s.sq) (h7 : t.multi = s.multi) : FInv t :=
  ⟨f.si.reach (Same4.reach ⟨h1, h2, h3, h4⟩), f.kc.frame h1 h2 h4 h5 h6 h7⟩

theorem FInv.emit {s : St} (f : FInv s) (e : Ev) : FInv (emit s e) := f.same rfl rfl rfl rfl rfl rfl rfl

theorem FInv.setFlags {s : St} (f : FInv s) (id : Nat) (w : W) (hf : w.fd = (getW s id).fd)
    (hp : w.pevents = (getW s id).pevents) (he : w.events = (getW s id).events)
    (hc : w.closing = (getW s id).closing) (hcl : w.clean = (getW s id).clean) : FInv (setW s id w) :=
  ⟨f.si.reach (reach_setFlags s id w hf hp he), f.kc.setFlags id w hf hp he hc hcl⟩

theorem FInv.stop {s : St} (f : FInv s) (id : Nat) (m : Mask) : FInv (ioStop s id m) :=
  ⟨f.si.stop id m, f.kc.stop f.si id m⟩

theorem ioStop_all_pevents {s : St} (i : SInv s) (c : KCore s) (id : Nat) :
    (getW (ioStop s id Mask.all4) id).pevents = Mask.none := by
  have hd := Mask.diff_all4 _ (i.mask4 id)
  rw [(ioStop_spec s id Mask.all4).1 id]
  by_cases hc : id = id ∧ id < s.ws.length ∧ (getW s id).fd < s.watchers.length
  · rw [if_pos hc, if_pos hd]; exact hd
  · rw [if_neg hc]
    by_cases hp : (getW s id).pevents = Mask.none
    · exact hp
    · exfalso
      have hl : id < s.ws.length := by
        by_cases h : id < s.ws.length
        · exact h
        · rw [getW_oob s id (by omega)] at hp; exact absurd rfl hp
      exact hc ⟨rfl, hl, watcherAt_lt (c.live id hl hp).2.2.2⟩

/-- a handle the kernel has been told about is live and registered -/
theorem KCore.armed_reg {s : St} (c : KCore s) {id : Nat} (hl : id < s.ws.length)
    (he : (getW s id).events ≠ Mask.none) :
    (getW s id).closing = false ∧ watcherAt s (getW s id).fd = some id :=
  have l := c.live id hl fun h0 => he (c.quiet id h0)
  ⟨l.1, l.2.2.2⟩

theorem unarmed_on_fd {s : St} (c : KCore s) (id : Nat) (hid : id < s.ws.length)
    (hcl : (getW s id).closing = false) (hp : (getW s id).pevents = Mask.none) :
    ∀ j, j < s.ws.length → (getW s j).fd = (getW s id).fd → (getW s j).events = Mask.none :=
  fun j hj hfd => Classical.byContradiction fun he => by
    have := c.uniq j id hj hid hfd (c.armed_reg hj he).1 hcl
    subst this; exact he (c.quiet j hp)

theorem invalidate_frame (s : St) (fd : Nat) :
    (invalidate s fd).ws = s.ws ∧ (invalidate s fd).watchers = s.watchers ∧ (invalidate s fd).wq = s.wq ∧
    (∀ f, (invalidate s fd).k.ofdAt f = s.k.ofdAt f) := by
  unfold invalidate; split
  · exact ⟨rfl, rfl, rfl, fun f => ctl_ofdAt _ _ _ _ _ _⟩
  · exact ⟨rfl, rfl, rfl, fun f => ctl_ofdAt _ _ _ _ _ _⟩

/-- `uv__platform_invalidate_fd` on the descriptor of a live handle with nothing requested, then a change of its
flags: the step `uv_poll_stop`, `uv__poll_close` and `uv__io_close` share -/
theorem KCore.dropEntry {s : St} (c : KCore s) (id : Nat) (hid : id < s.ws.length)
    (hcl : (getW s id).closing = false) (hp : (getW s id).pevents = Mask.none) (upd : W → W)
    (hu : ∀ w, (upd w).fd = w.fd ∧ (upd w).pevents = w.pevents ∧ (upd w).events = w.events ∧
      ((upd w).closing = true ∨ (upd w).closing = w.closing)) :
    KCore (setW (IoWatch.invalidate s (getW s id).fd) id (upd (getW (IoWatch.invalidate s (getW s id).fd) id))) ∧
    ∀ o, (IoWatch.invalidate s (getW s id).fd).k.maskAt o (getW s id).fd = none := by
  obtain ⟨c3, hno⟩ := c.invalidate _ (unarmed_on_fd c id hid hcl hp)
  have g : getW (IoWatch.invalidate s (getW s id).fd) id = getW s id :=
    congrArg (·.getD id default) (invalidate_frame ..).1
  have hpe := (congrArg W.pevents g).trans hp
  obtain ⟨u1, u2, u3, u4⟩ := hu (getW (IoWatch.invalidate s (getW s id).fd) id)
  exact ⟨c3.retire id _ u1 (u2.trans hpe) (u3.trans (c3.quiet id hpe)) hpe u4 (by rw [g]; exact hno), hno⟩

/-- poll.c:102-108 preserves the invariant and leaves the handle stopped with no kernel entry on its fd -/
theorem pollStop_spec {s : St} (f : FInv s) (id : Nat) (hid : id < s.ws.length)
    (hcl : (getW s id).closing = false) :
    KCore (pollStop s id) ∧ (getW (pollStop s id) id).pevents = Mask.none ∧
    (getW (pollStop s id) id).closing = false ∧ (getW (pollStop s id) id).fd = (getW s id).fd ∧
    (∀ o, (pollStop s id).k.maskAt o (getW s id).fd = none) ∧
    (pollStop s id).ws.length = s.ws.length ∧ (∀ g, (pollStop s id).k.ofdAt g = s.k.ofdAt g) ∧
    (pollStop s id).watchers = (ioStop s id Mask.all4).watchers := by
  generalize hs1 : ioStop s id Mask.all4 = s1
  have c1 : KCore s1 := by rw [← hs1]; exact f.kc.stop f.si id _
  have p1 : (getW s1 id).pevents = Mask.none := by rw [← hs1]; exact ioStop_all_pevents f.si f.kc id
  have f1 := ioStop_fields s id Mask.all4 id; rw [hs1] at f1
  have l1 : s1.ws.length = s.ws.length := by rw [← hs1]; exact (ioStop_spec s id _).2.1
  have k1 : s1.k = s.k := by rw [← hs1]; exact (blankReg_fields (blankReg_ioStop s id _)).1
  generalize hs2 : setW s1 id { getW s1 id with active := false } = s2
  have c2 : KCore s2 := by rw [← hs2]; exact c1.setFlags id _ rfl rfl rfl rfl rfl
  have g2 : getW s2 id = { getW s1 id with active := false } := by
    rw [← hs2, getW_setW]; simp [l1, hid]
  have l2 : s2.ws.length = s.ws.length := by rw [← hs2]; simp [l1]
  have k2 : s2.k = s.k := by rw [← hs2]; exact k1
  have w2 : s2.watchers = s1.watchers := by rw [← hs2]; rfl
  have fd2 : (getW s2 id).fd = (getW s id).fd := by rw [g2]; exact f1.1
  obtain ⟨c4, hno⟩ := c2.dropEntry id (by omega) (by rw [g2]; exact f1.2.1.trans hcl) (by rw [g2]; exact p1)
    (fun w => { w with clean := true }) fun _ => ⟨rfl, rfl, rfl, .inr rfl⟩
  obtain ⟨iw, iwa, _, iof⟩ := invalidate_frame s2 (getW s2 id).fd
  generalize hs3 : invalidate s2 (getW s2 id).fd = s3 at c4 hno iw iwa iof
  have g3 : getW s3 id = getW s2 id := by simp [getW, iw]
  have e : pollStop s id = setW s3 id { getW s3 id with clean := true } := by
    rw [← hs3, ← hs2, ← hs1]; rfl
  have g4 : getW (setW s3 id { getW s3 id with clean := true }) id = { getW s3 id with clean := true } := by
    rw [getW_setW]; simp [iw, l2, hid]
  rw [e]
  refine ⟨c4, by rw [g4, g3, g2]; exact p1, by rw [g4, g3, g2]; exact f1.2.1.trans hcl,
    by rw [g4, g3, g2]; exact f1.1, ?_, by simp [iw, l2], ?_, ?_⟩
  · intro o; rw [← fd2]; exact hno o
  · intro g; show s3.k.ofdAt g = _; rw [iof, k2]
  · show s3.watchers = _; rw [iwa, w2]

theorem ioClose_kcore {s : St} (f : FInv s) (id : Nat) (hid : id < s.ws.length)
    (hcl : (getW s id).closing = false) : KCore (ioClose s id) := by
  generalize hs1 : ioStop s id Mask.all4 = s1
  have c1 : KCore s1 := by rw [← hs1]; exact f.kc.stop f.si id _
  have p1 : (getW s1 id).pevents = Mask.none := by rw [← hs1]; exact ioStop_all_pevents f.si f.kc id
  have f1 := ioStop_fields s id Mask.all4 id; rw [hs1] at f1
  have l1 : s1.ws.length = s.ws.length := by rw [← hs1]; exact (ioStop_spec s id _).2.1
  generalize hs2 : ({ s1 with pending := s1.pending.erase id, pendingRun := s1.pendingRun.erase id } : St) = s2
  have c2 : KCore s2 := by rw [← hs2]; exact c1.frame rfl rfl rfl rfl rfl rfl
  have g2 : getW s2 id = getW s1 id := by rw [← hs2]; rfl
  have l2 : s2.ws.length = s.ws.length := by rw [← hs2]; exact l1
  have e : ioClose s id = setW (invalidate s2 (getW s2 id).fd) id
      ((fun w => { w with closing := true }) (getW (invalidate s2 (getW s2 id).fd) id)) := by
    rw [← hs2, ← hs1]; rfl
  rw [e]
  exact (c2.dropEntry id (by omega) (by rw [g2]; exact f1.2.1.trans hcl) (by rw [g2]; exact p1)
    (fun w => { w with closing := true }) fun _ => ⟨rfl, rfl, rfl, .inl rfl⟩).1

theorem pollClose_kcore {s : St} (f : FInv s) (id : Nat) (hid : id < s.ws.length)
    (hcl : (getW s id).closing = false) : KCore (pollClose s id) := by
  obtain ⟨c, p, _, hfd, hno, _⟩ := pollStop_spec f id hid hcl
  rw [← hfd] at hno
  unfold pollClose
  generalize pollStop s id = t at c p hno ⊢
  exact (c.retire id { getW t id with closing := true } rfl p (c.quiet id p) p (Or.inl rfl) hno).frame
    rfl rfl rfl rfl rfl rfl

theorem free_of_not_taken {s : St} (c : KCore s) (fd : Nat) (h : fdTaken s fd = false) :
    ∀ j, j < s.ws.length → (getW s j).fd = fd → (getW s j).closing = true := by
  intro j hj hfd
  simp [fdTaken, c.multi] at h
  have hm : s.ws[j] ∈ s.ws := List.getElem_mem hj
  have := h _ hm
  have hg : getW s j = s.ws[j] := by simp [getW, List.getD_eq_getElem?_getD, hj]
  rw [hg] at hfd ⊢
  exact this hfd

theorem pollInit_eq (s : St) (fd : Nat) :
    pollInit s fd =
      if fdExists s fd then (s, -17, none)
      else if (ctl s .add fd Mask.pollin none).2 ≠ 0 ∧ (ctl s .add fd Mask.pollin none).2 ≠ -17 then
        ((ctl s .add fd Mask.pollin none).1, (ctl s .add fd Mask.pollin none).2, none)
      else if (ctl (ctl s .add fd Mask.pollin none).1 .del fd Mask.none none).2 ≠ 0 then
        (abort (ctl (ctl s .add fd Mask.pollin none).1 .del fd Mask.none none).1, 0, none)
      else
        ({ (ctl (ctl s .add fd Mask.pollin none).1 .del fd Mask.none none).1 with
            ws := (ctl (ctl s .add fd Mask.pollin none).1 .del fd Mask.none none).1.ws ++ [{ fd := fd, poll := true }] },
          0, some (ctl (ctl s .add fd Mask.pollin none).1 .del fd Mask.none none).1.ws.length) := by
  unfold pollInit; rfl

theorem pollInit_kcore {s : St} (c : KCore s) (fd : Nat)
    (hg : fdTaken s fd = false ∨ fdExists s fd = true) : KCore (pollInit s fd).1 := by
  rw [pollInit_eq]
  by_cases hx : fdExists s fd = true
  · rw [if_pos hx]; exact c
  · rw [if_neg hx]
    have hfree := free_of_not_taken c fd (by rcases hg with h | h; exact h; exact absurd h hx)
    have hun : ∀ id, id < s.ws.length → (getW s id).fd = fd → (getW s id).events = Mask.none :=
      fun id hid hfd => Classical.byContradiction fun he => by
        have := (c.armed_reg hid he).1
        rw [hfree id hid hfd] at this; cases this
    -- the probe, ADD then DEL, leaves what a DEL alone leaves
    have key : KCore (ctl (ctl s .add fd Mask.pollin none).1 .del fd Mask.none none).1 :=
      (c.ctlDel fd Mask.none none hun).1.congr rfl rfl rfl (ctl_add_del s.k fd Mask.pollin Mask.none none none).1 rfl rfl
    refine iteInduction (motive := fun x : St × Int × Option Nat => KCore x.1) (fun hr => ?_) fun _ =>
      iteInduction (motive := fun x : St × Int × Option Nat => KCore x.1) (fun _ => key.abort) fun _ =>
        key.push { fd := fd, poll := true } rfl rfl hfree
    rcases ctl_add_ret s.k fd Mask.pollin none with h | h
    · exact c.frame rfl rfl rfl (congrArg Prod.fst h) rfl rfl
    · exact absurd h (fun h => h.elim hr.1 hr.2)

theorem pollStart_kcore {s : St} (f : FInv s) (id : Nat) (u : UvEv) (hid : id < s.ws.length)
    (hcl : (getW s id).closing = false) (hopen : (s.k.ofdAt (getW s id).fd).isSome = true) :
    KCore (pollStart s id u).1 := by
  unfold pollStart; simp only []
  split
  · exact f.kc
  · rename_i hg
    obtain ⟨c, p, hcl', hfd, _, hl, hof, hwat⟩ := pollStop_spec f id hid hcl
    split
    · exact c
    · rename_i hu
      have hw0 : watcherAt s (getW s id).fd = none ∨ watcherAt s (getW s id).fd = some id := by
        by_cases h1 : watcherAt s (getW s id).fd = some id
        · right; exact h1
        · left
          cases hh : watcherAt s (getW s id).fd with
          | none => rfl
          | some x =>
            exfalso; apply hg
            refine ⟨by simp [fdExists, hh], ?_⟩
            rw [hh] at h1 ⊢; exact h1
      have hw : watcherAt (pollStop s id) (getW (pollStop s id) id).fd = none ∨
          watcherAt (pollStop s id) (getW (pollStop s id) id).fd = some id := by
        rw [hfd]
        show (pollStop s id).watchers.getD _ none = none ∨ (pollStop s id).watchers.getD _ none = some id
        rw [hwat]
        show watcherAt (ioStop s id Mask.all4) _ = none ∨ watcherAt (ioStop s id Mask.all4) _ = some id
        rw [(ioStop_spec s id Mask.all4).2.2.2.1]
        exact iteInduction (motive := fun x => x = none ∨ x = some id) (fun _ => .inl rfl) fun _ => hw0
      have cs := c.start id (uvToPoll u) (by omega) (uvToPoll_ne u hu) hcl'
        (by rw [hfd, hof]; exact hopen) hw
      generalize ioStart (pollStop s id) id (uvToPoll u) = t at cs ⊢
      exact cs.setFlags id { getW t id with active := true } rfl rfl rfl rfl rfl

/-- the kernel replaced by one that agrees on every descriptor some live started handle sits on -/
theorem KCore.kernel {s : St} (c : KCore s) (k' : Kernel)
    (hof : ∀ fd o, s.k.ofdAt fd = some o → (∃ id, id < s.ws.length ∧ (getW s id).fd = fd ∧
        (getW s id).closing = false ∧ ¬((getW s id).clean = true ∧ (getW s id).pevents = Mask.none)) →
      k'.ofdAt fd = some o)
    (hm1 : ∀ o fd, k'.maskAt o fd ≠ none → k'.maskAt o fd = s.k.maskAt o fd)
    (hm2 : ∀ o fd, k'.ofdAt fd = some o → k'.maskAt o fd = s.k.maskAt o fd) :
    KCore { s with k := k' } := by
  refine ⟨c.sq, c.multi, ?_, ?_, c.uniq, c.quiet, ?_, c.queued⟩
  · intro id hl hne
    show ∃ o, k'.ofdAt (getW s id).fd = some o ∧ k'.maskAt o (getW s id).fd = some (getW s id).events
    have hne' : (getW s id).events ≠ Mask.none := hne
    obtain ⟨o, h1, h2⟩ := c.armed id hl hne'
    have hp : (getW s id).pevents ≠ Mask.none := fun h0 => hne' (c.quiet id h0)
    have lv := c.live id hl hp
    have h3 := hof _ o h1 ⟨id, hl, rfl, lv.1, by rw [lv.2.1]; simp⟩
    exact ⟨o, h3, by rw [hm2 o _ h3]; exact h2⟩
  · intro o fd h
    have h0 : k'.maskAt o fd ≠ none := h
    have h' := hm1 o fd h0
    obtain ⟨a, b⟩ := c.owned o fd (by rw [← h']; exact h0)
    exact ⟨hof fd o a b, b⟩
  · intro id hl hp
    have hp' : (getW s id).pevents ≠ Mask.none := hp
    have lv := c.live id hl hp'
    refine ⟨lv.1, lv.2.1, ?_, lv.2.2.2⟩
    show (k'.ofdAt (getW s id).fd).isSome = true
    cases ho : s.k.ofdAt (getW s id).fd with
    | none => rw [ho] at lv; simp at lv
    | some o => rw [hof _ o ho ⟨id, hl, rfl, lv.1, by rw [lv.2.1]; simp⟩]; rfl

theorem KCore.openFd {s : St} (c : KCore s) (fd : Nat) (h : s.k.ofdAt fd = none) :
    KCore { s with k := s.k.openFd fd } := by
  have hof : ∀ g, (s.k.openFd fd).ofdAt g = if g = fd then some s.k.nextOfd else s.k.ofdAt g := by
    intro g; exact lookup_append_new s.k.fdtab fd s.k.nextOfd g h
  refine c.kernel _ ?_ (fun _ _ _ => rfl) (fun _ _ _ => rfl)
  intro g o ho _
  rw [hof, if_neg]; exact ho
  intro e; rw [e, h] at ho; cases ho

theorem KCore.closeFd {s : St} (c : KCore s) (fd : Nat) (hidle : fdIdle s fd = true) :
    KCore { s with k := s.k.closeFd fd } := by
  cases ho : s.k.ofdAt fd with
  | none =>
    have : s.k.closeFd fd = s.k := by unfold Kernel.closeFd; simp [ho]
    rw [this]; exact c.frame rfl rfl rfl rfl rfl rfl
  | some o =>
    obtain ⟨h1, h2, h3⟩ := closeFd_spec s.k fd o ho
    refine c.kernel _ ?_ h2 h3
    intro g o' hg ⟨id, hl, hfd, hcl, hcn⟩
    rw [h1, if_neg]; exact hg
    intro e
    -- a live, started handle on the descriptor being closed contradicts the close discipline
    simp [fdIdle] at hidle
    have hm : s.ws[id] ∈ s.ws := List.getElem_mem hl
    have hgw : getW s id = s.ws[id] := by simp [getW, List.getD_eq_getElem?_getD, hl]
    have := hidle _ hm
    rw [← hgw] at this
    rcases this with (h | h) | h
    · exact h (by rw [hfd, e])
    · rw [hcl] at h; cases h
    · exact hcn ⟨h.1, h.2⟩

theorem KCore.closeDup {s : St} (c : KCore s) (d : Nat) : KCore { s with k := s.k.closeDup d } := by
  obtain ⟨h1, h2, h3⟩ := closeDup_spec s.k d
  exact c.kernel _ (fun g o hg _ => by rw [h1]; exact hg) h2 h3

theorem KCore.dupFd {s : St} (c : KCore s) (fd : Nat) : KCore { s with k := s.k.dupFd fd } := by
  have : ∀ g, (s.k.dupFd fd).ofdAt g = s.k.ofdAt g := by
    intro g; unfold Kernel.dupFd; split <;> rfl
  have hm : ∀ o g, (s.k.dupFd fd).maskAt o g = s.k.maskAt o g := by
    intro o g; unfold Kernel.dupFd; split <;> rfl
  exact c.kernel _ (fun g o hg _ => by rw [this]; exact hg) (fun o g _ => hm o g) (fun o g _ => hm o g)

theorem doOp_kcore {s : St} (f : FInv s) (o : Op) : KCore (doOp s o) := by
  have c := f.kc
  cases o <;> simp only [doOp]
  case openfd fd k =>
    split
    · exact c.emit _
    · rename_i h
      have : s.k.ofdAt fd = none := by cases hh : s.k.ofdAt fd <;> simp_all
      exact (c.openFd fd this).emit _
  case closefd fd =>
    split
    · rename_i h; simp [c.multi] at h
      exact (c.closeFd fd h.2).emit _
    · exact c.emit _
  case dupfd fd => split; exact (c.dupFd fd).emit _; exact c.emit _
  case closedup d => split; exact (c.closeDup d).emit _; exact c.emit _
  case peer a b => exact c
  case pinit fd =>
    split
    · exact c.emit _
    · rename_i hg
      have hg' : fdTaken s fd = false ∨ fdExists s fd = true := by
        cases h1 : fdTaken s fd
        · left; rfl
        · right; cases h2 : fdExists s fd
          · simp [h1, h2] at hg
          · rfl
      have := pollInit_kcore c fd hg'
      split
      · rename_i h; rw [h] at this; exact this.emit _
      · rename_i h; rw [h] at this; split
        · exact this
        · exact this.emit _
  case pstart id u =>
    split
    · rename_i h; simp at h
      obtain ⟨hl, _, hcl⟩ := liveId_spec s id true h.1
      exact (pollStart_kcore f id u hl hcl h.2).emit _
    · exact c.emit _
  case pstop id =>
    split
    · rename_i h
      obtain ⟨hl, _, hcl⟩ := liveId_spec s id true h
      exact (pollStop_spec f id hl hcl).1.emit _
    · exact c.emit _
  case pclose id =>
    split
    · rename_i h
      obtain ⟨hl, _, hcl⟩ := liveId_spec s id true h
      exact (pollClose_kcore f id hl hcl).emit _
    · exact c.emit _
  case ioinit fd =>
    split
    · exact c.emit _
    · rename_i h
      have hfree := free_of_not_taken c fd (by simpa using h)
      exact (c.push { fd := fd, poll := false } rfl rfl (fun j hj hfd => hfree j hj hfd)).emit _
  case iostart id m =>
    split
    · rename_i h; simp at h
      obtain ⟨hl, _, hcl⟩ := liveId_spec s id false h.1.1.1
      have hv := valid4_spec m h.1.1.2
      have hw : watcherAt s (getW s id).fd = none ∨ watcherAt s (getW s id).fd = some id := by
        cases hh : watcherAt s (getW s id).fd with
        | none => left; rfl
        | some x =>
          right
          rcases h.2 with h2 | h2
          · simp [fdExists, hh] at h2
          · rw [hh] at h2; exact h2
      exact (c.start id m hl hv.2.2 hcl h.1.2 hw).emit _
    · exact c.emit _
  case iostop id m =>
    split
    · exact (c.stop f.si id m).emit _
    · exact c.emit _
  case ioclose id =>
    split
    · rename_i h
      obtain ⟨hl, _, hcl⟩ := liveId_spec s id false h
      exact (ioClose_kcore f id hl hcl).emit _
    · exact c.emit _
  case iofeed id =>
    split
    · refine KCore.emit ?_ _
      unfold ioFeed; split
      · exact c
      · exact c.frame rfl rfl rfl rfl rfl rfl
    · exact c.emit _

theorem execOp_finv {s : St} (f : FInv s) (o : Op) : FInv (execOp s o) := by
  refine ⟨f.si.reach (reach_execOp s o), ?_⟩
  unfold execOp
  exact iteInduction (motive := KCore) (fun _ => f.kc) fun _ => (doOp_kcore (f.emit _) o).emit _

theorem execOps_finv {s : St} (f : FInv s) (ops : List Op) : FInv (execOps s ops) := by
  unfold execOps
  induction ops generalizing s with
  | nil => exact f
  | cons o r ih => exact ih (execOp_finv f o)

theorem deliver_finv (sc : Script) {s : St} (f : FInv s) (id : Nat) (ev : Mask) : FInv (deliver sc s id ev) := by
  have f0 := f.setFlags id { getW s id with cbs := (getW s id).cbs + 1 } rfl rfl rfl rfl rfl
  unfold deliver
  simp only []
  generalize setW s id _ = s0 at f0 ⊢
  exact iteInduction (motive := FInv)
    (fun _ => iteInduction (motive := FInv)
      (fun _ => execOps_finv (((f0.stop id Mask.all4).setFlags id
        { getW (ioStop s0 id Mask.all4) id with active := false } rfl rfl rfl rfl rfl).emit _) _)
      fun _ => execOps_finv (f0.emit _) _)
    fun _ => execOps_finv (f0.emit _) _

theorem dispatchOne_finv (sc : Script) {s : St} (f : FInv s) (i : Nat) : FInv (dispatchOne sc s i).1 := by
  refine ⟨f.si.reach (reach_dispatchOne sc s i), ?_⟩
  unfold dispatchOne
  split
  · exact f.kc
  · rename_i fd m _
    split
    · exact f.kc.abort
    · split
      · rename_i hw
        refine (f.kc.ctlDel fd _ _ fun id hl hfd => Classical.byContradiction fun he => ?_).1
        have := (f.kc.armed_reg hl he).2
        rw [hfd, hw] at this; cases this
      · simp only []; split
        · exact (deliver_finv sc f _ _).kc
        · exact f.kc

theorem dispatchFrom_finv (sc : Script) {s : St} (f : FInv s) (i n : Nat) : FInv (dispatchFrom sc s i n).1 := by
  induction n generalizing s i with
  | zero => exact f
  | succ n ih =>
    unfold dispatchFrom; split
    · exact f
    · exact ih (dispatchOne_finv sc f i) _

end UvModel.IoWatch
