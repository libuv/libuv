import UvModel.Lemmas.AsyncCloseProtocol
/-! Bookkeeping of the sender threads: handle indices and ghost sequence numbers (`InvS`), `busy` as the number of
senders between their two updates of it (`InvB`), effective exchanges against sends begun (`SendsLe`). -/
namespace UvModel.Async
variable {s s' : State} {a : Act} {c e e' : Nat} {x x' : Sender} {v v' : HS}

/-- a sender *inside uv_async_send* (`pc ≠ .idle`) works on an initialised handle; ghost sequence numbers are bounded by `pub` -/
structure InvS (s : State) : Prop where
  sndLt : ∀ (t : Nat) (x : Sender), s.snd[t]? = some x → x.pc ≠ .idle → x.h < s.nh
  pendLt : ∀ h, (s.hs h).pending ≠ 0 → h < s.nh
  seqLe : ∀ (t : Nat) (x : Sender), s.snd[t]? = some x → x.seq ≤ (s.hs x.h).pub
  seenLe : ∀ h, (s.hs h).seen ≤ (s.hs h).pub
  closeLt : ∀ h r, s.lpc = .closeStore h r → h < s.nh

theorem InvS.carry (hI : InvS s) (hn : s'.nh = s.nh) (hsnd : s'.snd = s.snd)
    (hh : ∀ j, (s'.hs j).pub = (s.hs j).pub ∧ ((s'.hs j).seen = (s.hs j).seen ∨ (s'.hs j).seen = (s.hs j).pub) ∧
      ((s'.hs j).pending ≠ 0 → (s.hs j).pending ≠ 0 ∨ j < s.nh))
    (hclose : ∀ h r, s'.lpc = .closeStore h r → s.lpc = .closeStore h r ∨ h < s.nh) : InvS s' := by
  refine ⟨?_, ?_, ?_, ?_, ?_⟩ <;> simp only [hn, hsnd, fun j => (hh j).1]
  · exact hI.sndLt
  · exact fun j h => ((hh j).2.2 h).elim (hI.pendLt j) id
  · exact hI.seqLe
  · exact fun j => (hh j).2.1.elim (fun e => e ▸ hI.seenLe j) (fun e => e ▸ Nat.le_refl _)
  · exact fun h r e => (hclose h r e).elim (hI.closeLt h r) id

theorem InvS.sender_step (hI : InvS s) {k t e : Nat} {x' : Sender} {v : HS} (hk : k < s.nh) (hxk : x'.h = k)
    (hpub : (s.hs k).pub ≤ v.pub) (hseen : v.seen = (s.hs k).seen) (hseq : x'.seq ≤ v.pub) :
    InvS (setSnd { setH s k v with efd := e } t x') := by
  have hmono : ∀ j, (s.hs j).pub ≤ (upd s.hs k v j).pub :=
    fun j => upd_at (P := fun w => (s.hs j).pub ≤ w.pub) (Nat.le_refl _) fun e _ => e ▸ hpub
  refine ⟨fun t' y hy hp => ?_, fun j => ?_, fun t' y hy => ?_, fun j => ?_, hI.closeLt⟩
  · rcases getElem?_set_some hy with ⟨-, rfl⟩ | ⟨-, hy⟩
    · exact hxk ▸ hk
    · exact hI.sndLt t' y hy hp
  · exact upd_at (P := fun w => w.pending ≠ 0 → j < s.nh) (hI.pendLt j) fun e _ _ => e ▸ hk
  · rcases getElem?_set_some hy with ⟨-, rfl⟩ | ⟨-, hy⟩
    · show _ ≤ (upd s.hs k v y.h).pub
      rw [hxk, upd_same]; exact hseq
    · exact Nat.le_trans (hI.seqLe t' y hy) (hmono _)
  · exact upd_at (P := fun w => w.seen ≤ w.pub) (hI.seenLe j) fun _ h => hseen ▸ Nat.le_trans h hpub

theorem invS_step (hI : InvS s) (hs : step? s a = some s') : InvS s' := by
  cases step?_step hs with
  | begin t h x _ _ hlt _ =>
    exact hI.sender_step (e := s.efd) hlt rfl (Nat.le_succ _) rfl (Nat.le_refl _)
  | snd t x x' v e hx hop =>
    have hv : v.pub = (s.hs x.h).pub ∧ v.seen = (s.hs x.h).seen := by rw [hop.frame]; exact ⟨rfl, rfl⟩
    exact hI.sender_step (hop.h_eq ▸ hI.sndLt t x hx hop.active) hop.h_eq (Nat.le_of_eq hv.1.symm) hv.2
      (hop.seq_eq ▸ hv.1 ▸ hop.h_eq ▸ hI.seqLe t x hx)
  | loop _ hop =>
    refine hI.carry hop.nh_eq hop.snd_eq (fun j => ?_) (fun h r e => absurd e (hop.lpc_ne_closeStore h r))
    rcases hop.hs_cases j with e | ⟨-, -, -, -, e⟩ | ⟨r, hl, e⟩ | ⟨r, -, -, e⟩ <;> rw [e]
    · exact ⟨rfl, .inl rfl, .inl⟩
    · exact ⟨rfl, .inr rfl, nofun⟩
    · exact ⟨rfl, .inl rfl, fun _ => .inr (hI.closeLt j r hl)⟩
    · exact ⟨rfl, .inl rfl, .inl⟩
  | close h r _ hlt _ =>
    refine hI.carry rfl rfl (fun j => ⟨upd_proj HS.pub (by rfl) j, .inl (upd_proj HS.seen (by rfl) j),
      fun hj => .inl (by simpa only [setH, upd_proj HS.pending] using hj)⟩) (fun k r' e => ?_)
    cases e; exact .inr hlt
  | fork _ =>
    refine ⟨fun t y hy hp => ?_, fun j hj => ?_, fun t y hy => ?_, fun j => ?_, hI.closeLt⟩
    · simp only [List.getElem?_map, Option.map_eq_some_iff] at hy
      obtain ⟨x, -, rfl⟩ := hy; exact absurd rfl hp
    · dsimp only at hj; split at hj
      · exact absurd rfl hj
      · exact hI.pendLt j hj
    · simp only [List.getElem?_map, Option.map_eq_some_iff] at hy
      obtain ⟨x, hx, rfl⟩ := hy
      dsimp only; split <;> exact hI.seqLe t x hx
    · dsimp only; split <;> exact hI.seenLe j
  | eintr w => exact hI
  | closeCbs _ =>
    refine hI.carry rfl rfl (fun j => ?_) (fun _ _ => .inl)
    dsimp only; split <;> exact ⟨rfl, .inl rfl, .inl⟩

/-- sender is between its two updates of `busy` on `h` -/
def critB (h : Nat) (x : Sender) : Bool := x.h == h && (x.pc == .xchg || x.pc == .write || x.pc == .dec)

/-- the busy counter counts the senders between their two updates of it; nobody wakes the loop for a closed handle -/
structure InvB (s : State) : Prop where
  busyEq : ∀ h, (s.hs h).unlinked = false → (s.hs h).busy = (s.snd.countP (critB h) : Int)
  noWrite : ∀ (t : Nat) (x : Sender), s.snd[t]? = some x → x.pc = .write → (s.hs x.h).unlinked = false

theorem countP_set_int (l : List Sender) (t : Nat) (x x' : Sender) (p : Sender → Bool) (h0 : l[t]? = some x) :
    ((l.set t x').countP p : Int) = (l.countP p : Int) - (if p x then 1 else 0) + (if p x' then 1 else 0) := by
  obtain ⟨ht, hx⟩ := List.getElem?_eq_some_iff.mp h0
  rw [List.countP_set ht, hx]
  by_cases hp : p x
  · have : 0 < l.countP p := List.countP_pos_iff.mpr ⟨x, hx ▸ List.getElem_mem ht, hp⟩
    simp [hp]; split <;> omega
  · simp [hp]; split <;> simp

theorem SndOp.busy (h : SndOp c x v e x' v' e') :
    v'.busy = v.busy - (if critB x.h x then 1 else 0) + (if critB x.h x' then 1 else 0) := by
  cases h <;> simp [critB, *]

theorem invB_step (hL : InvL s) (hS : InvS s) (hI : InvB s) (hs : step? s a = some s') : InvB s' := by
  have hb := hI.busyEq
  have hw := hI.noWrite
  cases step?_step hs with
  | begin t h x hx hpc _ _ =>
    constructor
    · intro j
      simp only [setSnd, setH, upd_proj HS.unlinked, upd_proj HS.busy]
      rw [countP_set_int _ _ _ _ _ hx]
      simpa [critB, hpc] using hb j
    · intro t' y hy hp
      rcases getElem?_set_some hy with ⟨-, rfl⟩ | ⟨-, hy⟩
      · cases hp
      · simpa only [setSnd, setH, upd_proj HS.unlinked] using hw t' y hy hp
  | snd t x x' v e hx hop =>
    have hu : v.unlinked = (s.hs x.h).unlinked := by rw [hop.frame]
    constructor
    · intro j
      simp only [setSnd, setH, upd_proj HS.unlinked hu]
      rw [countP_set_int _ _ _ _ _ hx]
      by_cases ej : j = x.h
      · subst ej; rw [upd_same, hop.busy]
        intro h; rw [hb _ h]
      · rw [upd_other _ _ _ _ ej]
        simpa [critB, hop.h_eq, Ne.symm ej] using hb j
    · intro t' y hy hp
      simp only [setSnd, setH, upd_proj HS.unlinked hu]
      rcases getElem?_set_some hy with ⟨-, rfl⟩ | ⟨-, hy⟩
      · have hh := hop.h_eq
        cases hop <;> cases hp
        rw [hh]
        cases hu : (s.hs x.h).unlinked
        · rfl
        · exact absurd ‹(s.hs x.h).pending = 0› (hL.stoPend _ (hL.unlSto _ hu))
      · exact hw t' y hy hp
  | loop _ hop =>
    constructor
    · intro j
      rw [hop.snd_eq]
      rcases hop.hs_cases j with e | ⟨-, -, -, -, e⟩ | ⟨r, -, e⟩ | ⟨r, -, -, e⟩ <;> rw [e]
      · exact hb j
      · exact hb j
      · exact hb j
      · nofun
    · intro t' y hy hp
      rw [hop.snd_eq] at hy
      have h1 := hw t' y hy hp
      rcases hop.hs_cases y.h with e | ⟨-, -, -, -, e⟩ | ⟨r, -, e⟩ | ⟨r, hl, hz, e⟩ <;> rw [e]
      · exact h1
      · exact h1
      · exact h1
      · have h2 := hb y.h h1
        rw [hz] at h2
        have h4 := List.countP_eq_zero.mp (by omega : s.snd.countP (critB y.h) = 0) y (List.mem_of_getElem? hy)
        simp [critB, hp] at h4
  | close h r _ _ _ =>
    constructor
    · intro j; simpa only [setH, upd_proj HS.unlinked, upd_proj HS.busy] using hb j
    · intro t' y hy; simpa only [setH, upd_proj HS.unlinked] using hw t' y hy
  | fork hl =>
    have hz : ∀ h', (s.snd.map fun x => ({ x with pc := .idle, sent := false } : Sender)).countP (critB h') = 0 :=
      fun h' => List.countP_eq_zero.mpr fun a ha => by obtain ⟨y, -, rfl⟩ := List.mem_map.mp ha; simp [critB]
    refine ⟨fun h' hu => ?_, fun t' y hy hp => ?_⟩
    · rw [hz]
      dsimp only at hu ⊢
      split
      · rfl
      · next hin =>
        -- `h'` is on no list although not unlinked: it is not a handle of the loop, and no sender works on it
        rw [if_neg hin] at hu
        rw [hb h' hu, List.countP_eq_zero.mpr fun a ha hc => ?_]
        obtain ⟨t, ht⟩ := List.getElem?_of_mem ha
        simp only [critB, Bool.and_eq_true, beq_iff_eq] at hc
        have := hL.linked h' (hc.1 ▸ hS.sndLt t a ht fun e => by simp [e] at hc) hu
        rw [hL.qEmpty (by rw [hl]; rfl)] at this
        exact hin (this.resolve_left nofun)
    · simp only [List.getElem?_map, Option.map_eq_some_iff] at hy
      obtain ⟨x, -, rfl⟩ := hy
      cases hp
  | eintr w => exact hI
  | closeCbs _ =>
    constructor
    · intro j; have := hb j; dsimp only; split <;> exact this
    · intro t' y hy hp; have := hw t' y hy hp; dsimp only; split <;> exact this

/-- sender has begun a send on `h` and has not yet executed its exchange -/
def preX (h : Nat) (x : Sender) : Bool := x.h == h && (x.pc == .load || x.pc == .inc || x.pc == .xchg)

/-- #(0→1 exchanges on h) + #(senders before their exchange on h) ≤ #(sends begun on h) -/
def SendsLe (s : State) : Prop :=
  ∀ h, ((s.hs h).x01 : Int) + (s.snd.countP (preX h) : Int) ≤ ((s.hs h).pub : Int)

theorem SndOp.x01 (h : SndOp c x v e x' v' e') :
    (v'.x01 : Int) + (if preX x.h x' then 1 else 0) ≤ v.x01 + (if preX x.h x then 1 else 0) := by
  cases h <;> simp [preX, *] <;> omega

theorem sendsLe_step (hI : SendsLe s) (hs : step? s a = some s') : SendsLe s' := by
  intro j
  have hj := hI j
  cases step?_step hs with
  | begin t h x hx hpc _ _ =>
    simp only [setSnd, setH, upd_proj HS.x01]
    rw [countP_set_int _ _ _ _ _ hx]
    by_cases e : j = h
    · subst e; simp [preX, hpc]; omega
    · simpa [upd_other _ _ _ _ e, preX, hpc, Ne.symm e] using hj
  | snd t x x' v e hx hop =>
    have hpub : v.pub = (s.hs x.h).pub := by rw [hop.frame]
    simp only [setSnd, setH, upd_proj HS.pub hpub]
    rw [countP_set_int _ _ _ _ _ hx]
    by_cases e : j = x.h
    · subst e; rw [upd_same]; have := hop.x01; omega
    · have h1 : preX j x = false := by simp [preX, Ne.symm e]
      have h2 : preX j x' = false := by simp [preX, hop.h_eq, Ne.symm e]
      simpa [upd_other _ _ _ _ e, h1, h2] using hj
  | loop _ hop =>
    rw [hop.snd_eq]
    rcases hop.hs_cases j with e | ⟨-, -, -, -, e⟩ | ⟨r, -, e⟩ | ⟨r, -, -, e⟩ <;> rw [e] <;> exact hj
  | close h r _ _ _ =>
    simpa only [setH, upd_proj HS.x01, upd_proj HS.pub] using hj
  | fork _ =>
    have hz : (s.snd.map fun x => ({ x with pc := .idle, sent := false } : Sender)).countP (preX j) = 0 := by
      rw [List.countP_eq_zero]; intro a ha
      simp only [List.mem_map] at ha; obtain ⟨y, _, rfl⟩ := ha; simp [preX]
    simp only [hz]
    split <;> (simp at *; omega)
  | eintr w => exact hj
  | closeCbs _ =>
    dsimp only; split <;> exact hj

end UvModel.Async
