import UvModel.Lemmas.LoopPhaseSteps
/-!
  The accounting core `sig s = (s.c, s.nextId)` and its invariant `SInv`.  `Steps`: the core evolves by
  kernel applications (`CStep`) with `nextId` fixed.  `SInv` is preserved by every constructor of `OpStep`,
  `CbStep`, `Reach0`, `Reach` and `ReachC`, hence by every API call, callback, phase and whole program.
-/
namespace UvModel.Loop
open UvModel.HandleKernels

/-- the part of the state the accounting invariants talk about -/
def sig (s : State) : Core × Nat := (s.c, s.nextId)

/-- the accounting invariant (a `def`, so that updates of other state fields are transparent) -/
def SInv (s : State) : Prop := s.c.Inv ∧ ∀ e ∈ s.c.fl, e.1 < s.nextId
theorem SInv.core {s : State} (h : SInv s) : s.c.Inv := h.1
theorem SInv.ids {s : State} (h : SInv s) : ∀ e ∈ s.c.fl, e.1 < s.nextId := h.2

theorem SInv.of_sig {s s' : State} (h : sig s' = sig s) (hi : SInv s) : SInv s' := by
  simp only [sig, Prod.mk.injEq] at h
  exact ⟨h.1 ▸ hi.core, by rw [h.1, h.2]; exact hi.ids⟩

/-! ### ids are never invented by kernel steps -/
theorem mem_updF_id {fl : List (Nat × HFlags)} {id : Nat} {f' : HFlags} {e : Nat × HFlags}
    (h : e ∈ updF fl id f') : ∃ e0 ∈ fl, e0.1 = e.1 := by
  induction fl with
  | nil => simp [updF] at h
  | cons x t ih =>
    simp only [updF] at h
    split at h
    · rename_i hx
      rcases List.mem_cons.mp h with h | h
      · exact ⟨x, List.mem_cons_self, by subst h; simpa using hx⟩
      · exact ⟨e, List.mem_cons_of_mem _ h, rfl⟩
    · rcases List.mem_cons.mp h with h | h
      · exact ⟨x, List.mem_cons_self, by rw [h]⟩
      · obtain ⟨e0, h0, h1⟩ := ih h
        exact ⟨e0, List.mem_cons_of_mem _ h0, h1⟩

theorem apply_ids {c : Core} {id : Nat} {k : HK → HK} {e : Nat × HFlags} (h : e ∈ (c.apply id k).fl) :
    ∃ e0 ∈ c.fl, e0.1 = e.1 := by
  unfold Core.apply at h
  split at h
  · exact ⟨e, h, rfl⟩
  · exact mem_updF_id h

theorem CStep.ids {c c' : Core} (h : CStep c c') : ∀ e ∈ c'.fl, ∃ e0 ∈ c.fl, e0.1 = e.1 := by
  induction h with
  | refl => intro e he; exact ⟨e, he, rfl⟩
  | stop c id => intro e he; exact apply_ids he
  | ref c id => intro e he; exact apply_ids he
  | unref c id => intro e he; exact apply_ids he
  | setClosed c id => intro e he; exact apply_ids he
  | setInternal c id => intro e he; exact apply_ids he
  | start c id _ => intro e he; exact apply_ids he
  | close c id _ => intro e he; exact apply_ids he
  | remove c id _ => intro e he; exact ⟨e, mem_eraseF he, rfl⟩
  | trans _ _ ih1 ih2 =>
    intro e he
    obtain ⟨e1, h1, h1'⟩ := ih2 e he
    obtain ⟨e0, h0, h0'⟩ := ih1 e1 h1
    exact ⟨e0, h0, h0'.trans h1'⟩

theorem SInv.of_step {s s' : State} (h : CStep s.c s'.c) (hn : s'.nextId = s.nextId) (hi : SInv s) : SInv s' :=
  ⟨h.inv hi.core, by
    intro e he
    obtain ⟨e0, h0, h0'⟩ := h.ids e he
    rw [hn, ← h0']; exact hi.ids e0 h0⟩

def Steps (s s' : State) : Prop := CStep s.c s'.c ∧ s'.nextId = s.nextId

theorem Steps.refl (s : State) : Steps s s := ⟨CStep.refl _, rfl⟩
theorem Steps.trans {a b c : State} (h1 : Steps a b) (h2 : Steps b c) : Steps a c :=
  ⟨CStep.trans h1.1 h2.1, h2.2.trans h1.2⟩
theorem Steps.of_sig {s s' : State} (h : sig s' = sig s) : Steps s s' := by
  simp only [sig, Prod.mk.injEq] at h
  exact ⟨h.1 ▸ CStep.refl _, h.2⟩
theorem Steps.inv {s s' : State} (h : Steps s s') (hi : SInv s) : SInv s' := SInv.of_step h.1 h.2 hi
theorem Steps.sig_left {a a' b : State} (h : sig a' = sig a) (h2 : Steps a' b) : Steps a b :=
  (Steps.of_sig h).trans h2

/-! ### `sig` is part of every view -/
theorem sig_of_hview {s s' : State} (h : hview s' = hview s) : sig s' = sig s := by
  simp only [hview, Prod.mk.injEq] at h
  simp only [sig, h]
theorem sig_of_key {s s' : State} (h : key s' = key s) : sig s' = sig s := sig_of_hview (hview_of_key h)

@[simp] theorem sig_modH (s : State) (id : Nat) (g : Handle → Handle) : sig (modH s id g) = sig s := rfl
@[simp] theorem sig_invalidate (s : State) (id : Nat) : sig (invalidate s id) = sig s := rfl
@[simp] theorem sig_updateTime (s : State) : sig (updateTime s) = sig s := rfl
@[simp] theorem sig_udpSendEnqueue (s : State) (id : Nat) : sig (udpSendEnqueue s id) = sig s := rfl
@[simp] theorem sig_emit (s : State) (e : Event) : sig (emit s e) = sig s := by
  unfold emit; split <;> rfl

theorem hStop_steps (s : State) (id : Nat) : Steps s (hStop s id) := ⟨CStep.stop _ _, rfl⟩
theorem hStart_steps (s : State) (id : Nat) (h : ∀ f, getF s id = some f → f.closing = false) :
    Steps s (hStart s id) := ⟨CStep.start _ _ h, rfl⟩

theorem asyncClose_steps (s : State) (id : Nat) : Steps s (asyncClose s id) := by
  unfold asyncClose
  exact Steps.sig_left (a' := _) rfl (hStop_steps _ _)

theorem streamClose_steps (s : State) (id : Nat) : Steps s (streamClose s id) := by
  show Steps s (modH (hStop (ioClose s id) id) id _)
  exact Steps.sig_left (a' := ioClose s id) (sig_of_key (key_ioClose s id)) (hStop_steps _ _)

theorem udpClose_steps (s : State) (id : Nat) : Steps s (udpClose s id) := by
  show Steps s (modH (hStop (ioClose s id) id) id _)
  exact Steps.sig_left (a' := ioClose s id) (sig_of_key (key_ioClose s id)) (hStop_steps _ _)

theorem KStep.steps {s s' : State} (h : KStep s s') : Steps s s' := by
  cases h with
  | start id ho => exact hStart_steps _ id ho
  | stop id => exact hStop_steps _ id
  | ref id => exact ⟨CStep.ref _ _, rfl⟩
  | unref id => exact ⟨CStep.unref _ _, rfl⟩
  | internal id => exact ⟨CStep.setInternal _ _, rfl⟩

theorem lookF_append_fresh {fl : List (Nat × HFlags)} {id : Nat} {f : HFlags} (h : ∀ e ∈ fl, e.1 < id) :
    lookF (fl ++ [(id, f)]) id = some f := by
  induction fl with
  | nil => simp [lookF]
  | cons e t ih =>
    have : (e.1 == id) = false := by
      have := h e List.mem_cons_self
      simp; omega
    simp [lookF, this]
    exact ih (fun e' he' => h e' (List.mem_cons_of_mem _ he'))

theorem addHandle_inv (s : State) (k : Kind) (hi : SInv s) : SInv (addHandle s k) := by
  refine ⟨?_, ?_⟩
  · exact add_inv hi.core
  · intro e he
    simp only [addHandle, Core.add, List.mem_append, List.mem_singleton] at he ⊢
    rcases he with he | he
    · have := hi.ids e he; omega
    · subst he; simp

theorem addHandle_fresh (s : State) (k : Kind) (hi : SInv s) :
    ∀ f, getF (addHandle s k) s.nextId = some f → f.closing = false := by
  intro f hf
  have := lookF_append_fresh (fl := s.c.fl) (id := s.nextId) (f := ofHK (handleInit s.c.ah)) hi.ids
  simp only [getF, addHandle, Core.add, Core.get] at hf
  rw [this] at hf
  cases hf
  rfl

theorem initH_inv (s : State) (k : Kind) (hi : SInv s) : SInv (initH s k) := by
  unfold initH
  simp only
  have ha := addHandle_inv s k hi
  have hf := addHandle_fresh s k hi
  cases k with
  | timer => exact SInv.of_sig (s := addHandle s .timer) rfl ha
  | async =>
    have h1 : SInv { addHandle s .async with asyncs := (addHandle s .async).asyncs ++ [s.nextId] } :=
      SInv.of_sig (s := addHandle s .async) rfl ha
    exact (hStart_steps _ _ (by intro f h; exact hf f h)).inv h1
  | poll => exact SInv.of_sig (s := addHandle s .poll) rfl ha
  | idle => exact ha
  | prepare => exact ha
  | check => exact ha
  | tcp => exact ha
  | udp => exact ha
  | pipe => exact ha
  | signal => exact ha
  | fsEvent => exact ha

theorem OpStep.inv {q : Bool} {u : Option Nat} {s s' : State} (h : OpStep q u s s') : SInv s → SInv s' := by
  induction h with
  | frame h => exact SInv.of_sig (sig_of_key h)
  | trans _ _ ih1 ih2 => exact fun hi => ih2 (ih1 hi)
  | kern h => exact h.steps.inv
  | req h => exact SInv.of_sig (sig_of_hview h.hview)
  | unwatch => exact SInv.of_sig rfl
  | init s k => exact initH_inv s k
  | close s id f _ hf hc _ =>
    exact Steps.inv ⟨CStep.close _ _ fun f' hf' => Option.some.inj (hf.symm.trans hf') ▸ hc, rfl⟩

theorem applyOp_inv (s : State) (o : Op) (hi : SInv s) : SInv (applyOp s o).1 := (applyOp_step s o).inv hi

theorem stepOp_inv (s : State) (o : Op) (hi : SInv s) : SInv (stepOp s o) := by
  unfold stepOp
  exact SInv.of_sig (s := (applyOp s o).1) (by simp [emitObs]) (applyOp_inv s o hi)

theorem sig_cbEv (ph : Phase) (k : CbKind) (id : Nat) (a b : Int) (s : State) : sig (cbEv ph k id a b s) = sig s :=
  sig_emit ..

theorem CbStep.inv {s s' : State} (h : CbStep s s') : SInv s → SInv s' := by
  induction h with
  | quiet h => exact h.inv
  | call s o => exact stepOp_inv s o
  | emit s ev _ => exact SInv.of_sig (sig_emit s ev)
  | trans _ _ ih1 ih2 => exact fun hi => ih2 (ih1 hi)

theorem Reach0.inv {ph : Phase} {s s' : State} (h : Reach0 ph s s') : SInv s → SInv s' := by
  induction h with
  | cb h => exact h.inv
  | trans _ _ ih1 ih2 => exact fun hi => ih2 (ih1 hi)
  | handleCb => exact SInv.of_sig (sig_cbEv ..)
  | drain => exact SInv.of_sig rfl
  | watchers => exact SInv.of_sig rfl
  | udpDone => exact SInv.of_sig (sig_cbEv ..)
  | connDone s id => exact SInv.of_sig (((sig_cbEv ..).trans (sig_of_key (key_ioStop _ (.h id) POLLOUT))).trans rfl)
  | workDone => exact SInv.of_sig (sig_cbEv ..)
  | destroy s id h r s2 _ _ hcb => exact fun hi => SInv.of_sig (s := s2) rfl (hcb.inv (SInv.of_sig (sig_cbEv ..) hi))

theorem Reach.inv {s s' : State} (h : Reach s s') : SInv s → SInv s' := by
  induction h with
  | base h => exact h.inv
  | trans _ _ ih1 ih2 => exact fun hi => ih2 (ih1 hi)
  | halt s => exact SInv.of_sig rfl
  | ask s => exact SInv.of_sig rfl
  | polled s => exact SInv.of_sig (sig_emit ..)

theorem ReachC.inv {s s' : State} (h : ReachC s s') : SInv s → SInv s' := by
  induction h with
  | base h => exact h.inv
  | trans _ _ ih1 ih2 => exact fun hi => ih2 (ih1 hi)
  | setClosed s id => exact Steps.inv ⟨CStep.setClosed _ _, rfl⟩
  | unlink s id h => exact Steps.inv ⟨CStep.remove _ _ h, rfl⟩
  | closeCb => exact SInv.of_sig (sig_cbEv ..)
  | detach s => exact SInv.of_sig rfl
  | pop s => exact SInv.of_sig rfl

theorem foldl_stepOp_inv (ops : List Op) (s : State) (hi : SInv s) : SInv (ops.foldl stepOp s) :=
  (foldl_stepOp_cb ops s).inv hi

theorem runCb_inv (sc : Script) (ph : Phase) (k : CbKind) (key : CbKey) (id : Nat) (a b : Int) (occ : Nat)
    (s : State) (hi : SInv s) : SInv (runCb sc ph k key id a b occ s) :=
  (runCb_cb sc ph k key id a b occ s).inv (SInv.of_sig (sig_cbEv ..) hi)

theorem runClosing_inv (sc : Script) (s : State) (hi : SInv s) : SInv (runClosing sc s) :=
  (runClosing_reachC sc s).inv hi

theorem iteration_inv (sc : Script) (mode : Mode) (s : State) (hi : SInv s) : SInv (iteration sc mode s) :=
  iteration_keeps Reach.inv runClosing_inv sc mode s hi

theorem runMain_inv (sc : Script) (fuel : Nat) (prog : List MainOp) (s : State) (hi : SInv s) :
    SInv (runMain sc fuel s prog) :=
  runMain_keeps Reach.inv runClosing_inv sc fuel prog s hi

theorem initLoop_inv (clock0 : Nat) (metrics : Bool) (oracle : List PollRes) : SInv (initLoop clock0 metrics oracle) :=
  (initLoop_step clock0 metrics oracle).inv ⟨⟨rfl, nofun⟩, nofun⟩

end UvModel.Loop
