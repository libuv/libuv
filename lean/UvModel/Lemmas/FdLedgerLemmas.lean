import UvModel.FdLedger
/-! C15 helper lemmas: the ledger invariant `LInv` is preserved by every descriptor primitive -/
namespace UvModel.FdLedger
/-- every descriptor created by libuv carries FD_CLOEXEC -/
def CxInv (l : Ledger) : Prop := ∀ e ∈ l.led, e.bylib = true → e.cx = true

theorem siteCloexec_true (s : Site) : siteCloexec s = true := by cases s <;> rfl

theorem mem_displace {led : List Entry} {o : Owner} {e : Entry} (h : e ∈ displace led o) :
    ∃ e0 ∈ led, e0 = e ∨ (e = { e0 with owner := .leaked } ∧ e0.owner = o ∧ o.unique = true) := by
  unfold displace at h
  split at h
  · obtain ⟨e0, h0, rfl⟩ := List.mem_map.mp h
    refine ⟨e0, h0, ?_⟩
    split
    · exact Or.inr ⟨rfl, ‹_›, ‹_›⟩
    · exact Or.inl rfl
  · exact ⟨e, h, Or.inl rfl⟩

theorem mem_setOwner {led : List Entry} {id : Nat} {o : Owner} {e : Entry} (h : e ∈ setOwner led id o) :
    ∃ e0 ∈ led, (e0.id ≠ id ∧ e0 = e) ∨ (e0.id = id ∧ e = { e0 with owner := o }) := by
  obtain ⟨e0, h0, rfl⟩ := List.mem_map.mp h
  refine ⟨e0, h0, ?_⟩
  split
  · exact Or.inr ⟨‹_›, rfl⟩
  · exact Or.inl ⟨‹_›, rfl⟩

theorem find?_owner {led : List Entry} {o : Owner} {e : Entry} (h : find? led o = some e) : e ∈ led ∧ e.owner = o := by
  unfold find? at h
  exact ⟨List.mem_of_find?_eq_some h, by simpa using List.find?_some h⟩

theorem findId?_id {led : List Entry} {id : Nat} {e : Entry} (h : findId? led id = some e) : e ∈ led ∧ e.id = id := by
  unfold findId? at h
  exact ⟨List.mem_of_find?_eq_some h, by simpa using List.find?_some h⟩

/-- descriptors 0-2 are never created by libuv and are only ever held by the caller or by a handle's
    `io_watcher.fd` (or orphaned) -/
def StdioInv (l : Ledger) : Prop :=
  ∀ e ∈ l.led, e.stdio = true → e.bylib = false ∧ (e.owner = .user ∨ (∃ h, e.owner = .handle h .io) ∨ e.owner = .leaked)

/-- what libuv did so far: every creation was close-on-exec, every close(2) was on a descriptor that
    libuv owned at that moment (or that the caller asked it to close) and never on 0-2 -/
def EvInv (l : Ledger) : Prop :=
  ∀ ev ∈ l.evs, match ev with
    | .close e auth => e.stdio = false ∧ (e.owner.libuv = true ∨ auth = true)
    | .create e => e.cx = true ∧ e.bylib = true

/-- ids identify ledger entries -/
def IdInv (l : Ledger) : Prop :=
  (∀ e ∈ l.led, e.id < l.next) ∧ (∀ e1 ∈ l.led, ∀ e2 ∈ l.led, e1.id = e2.id → e1 = e2)

/-- `IdInv` of a ledger with the descriptors `led` and the next id `n` -/
def IdP (led : List Entry) (n : Nat) : Prop := IdInv { led, next := n }

theorem idp_map {led : List Entry} {n : Nat} (f : Entry → Entry) (hf : ∀ e, (f e).id = e.id) (h : IdP led n) :
    IdP (led.map f) n := by
  constructor
  · intro e he
    obtain ⟨e0, h0, rfl⟩ := List.mem_map.mp he
    rw [hf]; exact h.1 e0 h0
  · intro e1 h1 e2 h2 hid
    obtain ⟨a, ha, rfl⟩ := List.mem_map.mp h1
    obtain ⟨b, hb, rfl⟩ := List.mem_map.mp h2
    rw [hf, hf] at hid
    rw [h.2 a ha b hb hid]

theorem idp_displace {led : List Entry} {n : Nat} (o : Owner) (h : IdP led n) : IdP (displace led o) n := by
  unfold displace
  split
  · exact idp_map _ (by intro e; split <;> rfl) h
  · exact h

theorem idp_setOwner {led : List Entry} {n : Nat} (id : Nat) (o : Owner) (h : IdP led n) : IdP (setOwner led id o) n :=
  idp_map _ (by intro e; split <;> rfl) h

theorem idp_filter {led : List Entry} {n : Nat} (p : Entry → Bool) (h : IdP led n) : IdP (led.filter p) n :=
  ⟨fun e he => h.1 e (List.mem_filter.mp he).1,
   fun e1 h1 e2 h2 => h.2 e1 (List.mem_filter.mp h1).1 e2 (List.mem_filter.mp h2).1⟩

theorem idp_snoc {led : List Entry} {n : Nat} (e : Entry) (he : e.id = n) (h : IdP led n) : IdP (led ++ [e]) (n + 1) := by
  constructor
  · intro x hx
    rcases List.mem_append.mp hx with hx | hx
    · exact Nat.lt_succ_of_lt (h.1 x hx)
    · rw [List.mem_singleton.mp hx, he]; exact Nat.lt_succ_self n
  · intro a ha b hb hid
    rcases List.mem_append.mp ha with ha | ha <;> rcases List.mem_append.mp hb with hb | hb
    · exact h.2 a ha b hb hid
    · rw [List.mem_singleton.mp hb, he] at hid
      exact absurd hid (Nat.ne_of_lt (h.1 a ha))
    · rw [List.mem_singleton.mp ha, he] at hid
      exact absurd hid.symm (Nat.ne_of_lt (h.1 b hb))
    · rw [List.mem_singleton.mp ha, List.mem_singleton.mp hb]

/-- a loop field / handle field / local variable holds at most one descriptor:
    no descriptor is owned twice, no field refers to two descriptors -/
def UniqP (led : List Entry) : Prop :=
  ∀ e1 ∈ led, ∀ e2 ∈ led, e1.owner = e2.owner → e1.owner.unique = true → e1.id = e2.id

theorem uniq_filter {led : List Entry} (p : Entry → Bool) (h : UniqP led) : UniqP (led.filter p) :=
  fun e1 h1 e2 h2 => h e1 (List.mem_filter.mp h1).1 e2 (List.mem_filter.mp h2).1

theorem displace_free {led : List Entry} {o : Owner} (ho : o.unique = true) : ∀ e ∈ displace led o, e.owner ≠ o := by
  intro e he
  unfold displace at he
  rw [if_pos ho] at he
  obtain ⟨e0, _, rfl⟩ := List.mem_map.mp he
  split
  · intro hc; simp at hc; subst hc; simp [Owner.unique] at ho
  · assumption

theorem uniq_displace {led : List Entry} (o : Owner) (h : UniqP led) : UniqP (displace led o) := by
  intro e1 h1 e2 h2 hoo hu
  obtain ⟨a, ha, rfl | ⟨rfl, _⟩⟩ := mem_displace h1
  · obtain ⟨b, hb, rfl | ⟨rfl, _⟩⟩ := mem_displace h2
    · exact h a ha b hb hoo hu
    · rw [hoo] at hu; cases hu
  · cases hu

theorem uniq_setOwner {led : List Entry} (id : Nat) (o : Owner) (hfree : o.unique = true → ∀ e ∈ led, e.owner ≠ o)
    (h : UniqP led) : UniqP (setOwner led id o) := by
  intro e1 h1 e2 h2 hoo hu
  obtain ⟨a, ha, ⟨_, rfl⟩ | ⟨hia, rfl⟩⟩ := mem_setOwner h1 <;> obtain ⟨b, hb, ⟨_, rfl⟩ | ⟨hib, rfl⟩⟩ := mem_setOwner h2
  · exact h a ha b hb hoo hu
  · exact absurd hoo (hfree ((show a.owner = o from hoo) ▸ hu) a ha)
  · exact absurd hoo.symm (hfree hu b hb)
  · exact hia.trans hib.symm

theorem uniq_snoc {led : List Entry} (e : Entry) (hfree : e.owner.unique = true → ∀ x ∈ led, x.owner ≠ e.owner)
    (h : UniqP led) : UniqP (led ++ [e]) := by
  intro a ha b hb hoo hu
  rcases List.mem_append.mp ha with ha | ha <;> rcases List.mem_append.mp hb with hb | hb
  · exact h a ha b hb hoo hu
  · rw [List.mem_singleton.mp hb] at hoo
    exfalso; exact hfree (hoo ▸ hu) a ha hoo
  · rw [List.mem_singleton.mp ha] at hoo hu
    exfalso; exact hfree hu b hb hoo.symm
  · rw [List.mem_singleton.mp ha, List.mem_singleton.mp hb]

/-- `LInv` without `ev`, for a ledger with the descriptors `led` and the next id `n`: the form in which the invariant
    follows `displace`, `setOwner`, `filter` and appending, the list operations `exec1raw` is made of -/
structure LedInv (led : List Entry) (n : Nat) : Prop where
  cx : CxInv { led }
  stdio : StdioInv { led }
  id : IdP led n
  uniq : UniqP led

theorem LedInv.displace {led : List Entry} {n : Nat} (h : LedInv led n) (o : Owner) : LedInv (displace led o) n := by
  refine ⟨fun e he hb => ?_, fun e he hs => ?_, idp_displace o h.id, uniq_displace o h.uniq⟩
  · obtain ⟨e0, h0, rfl | ⟨rfl, _⟩⟩ := mem_displace he <;> exact h.cx e0 h0 hb
  · obtain ⟨e0, h0, rfl | ⟨rfl, _⟩⟩ := mem_displace he
    · exact h.stdio e0 h0 hs
    · exact ⟨(h.stdio e0 h0 hs).1, Or.inr (Or.inr rfl)⟩

theorem LedInv.setOwner {led : List Entry} {n : Nat} (h : LedInv led n) (id : Nat) (o : Owner)
    (hfree : o.unique = true → ∀ e ∈ led, e.owner ≠ o)
    (hstd : ∀ e ∈ led, e.id = id → e.stdio = true → o = .user ∨ (∃ h, o = .handle h .io) ∨ o = .leaked) :
    LedInv (setOwner led id o) n := by
  refine ⟨fun e he hb => ?_, fun e he hs => ?_, idp_setOwner id o h.id, uniq_setOwner id o hfree h.uniq⟩
  · obtain ⟨e0, h0, ⟨_, rfl⟩ | ⟨_, rfl⟩⟩ := mem_setOwner he <;> exact h.cx e0 h0 hb
  · obtain ⟨e0, h0, ⟨_, rfl⟩ | ⟨hid, rfl⟩⟩ := mem_setOwner he
    · exact h.stdio e0 h0 hs
    · exact ⟨(h.stdio e0 h0 hs).1, hstd e0 h0 hid hs⟩

theorem LedInv.filter {led : List Entry} {n : Nat} (h : LedInv led n) (q : Entry → Bool) : LedInv (led.filter q) n :=
  ⟨fun e he => h.cx e (List.mem_filter.mp he).1, fun e he => h.stdio e (List.mem_filter.mp he).1,
   idp_filter q h.id, uniq_filter q h.uniq⟩

theorem LedInv.snoc {led : List Entry} {n : Nat} (h : LedInv led n) (e : Entry) (hid : e.id = n)
    (hfree : e.owner.unique = true → ∀ x ∈ led, x.owner ≠ e.owner) (hcx : e.bylib = true → e.cx = true)
    (hstd : e.stdio = true → e.bylib = false ∧ e.owner = .user) : LedInv (led ++ [e]) (n + 1) := by
  refine ⟨fun x hx => ?_, fun x hx => ?_, idp_snoc e hid h.id, uniq_snoc e hfree h.uniq⟩
  · rcases List.mem_append.mp hx with hx | hx
    · exact h.cx x hx
    · rw [List.mem_singleton.mp hx]; exact hcx
  · rcases List.mem_append.mp hx with hx | hx
    · exact h.stdio x hx
    · rw [List.mem_singleton.mp hx]; exact fun hs => ⟨(hstd hs).1, Or.inl (hstd hs).2⟩

theorem ledInv_exec1raw (l : Ledger) (p : Prim) (hok : p.ok = true) (h : LedInv l.led l.next) :
    LedInv (exec1raw l p).led (exec1raw l p).next := by
  cases p with
  | create site kind o => exact (h.displace o).snoc _ rfl (fun hu => displace_free hu) (fun _ => siteCloexec_true _) nofun
  | createGive site kind => exact h.snoc _ rfl nofun (fun _ => siteCloexec_true _) nofun
  | userCreate kind stdio => exact h.snoc _ rfl nofun nofun (fun _ => ⟨rfl, rfl⟩)
  | closeOwner o guard =>
    simp only [exec1raw]
    split
    · exact h
    · split
      · exact h.setOwner _ _ nofun (fun _ _ _ _ => Or.inl rfl)
      · exact h.filter _
  | closeUser id =>
    simp only [exec1raw]
    split
    · exact h
    · split
      · exact h.filter _
      · exact h
  | userClose id =>
    simp only [exec1raw]
    split
    · exact h
    · split
      · exact h.filter _
      · exact h
  | userCloseAll => exact h.filter _
  | closeQ hq => exact h.filter _
  | transfer src dst =>
    simp only [exec1raw]
    split
    · exact h
    · rename_i em hf
      obtain ⟨hem, hsrc⟩ := find?_owner hf
      refine (h.displace dst).setOwner _ _ (fun hu => displace_free hu) (fun e1 h1 hid hs => ?_)
      -- the moved entry cannot be a descriptor 0-2: its owner was `src`
      exfalso
      have hst : em.stdio = true := by
        obtain ⟨e0, h0, rfl | ⟨rfl, _⟩⟩ := mem_displace h1 <;> exact h.id.2 e0 h0 em hem hid ▸ hs
      have h00 := (h.stdio em hem hst).2
      rw [hsrc] at h00
      rcases h00 with rfl | ⟨hh, rfl⟩ | rfl <;> simp [Prim.ok, Owner.libuv] at hok
  | adopt id dst =>
    simp only [exec1raw]
    split
    · exact h
    · split
      · refine (h.displace dst).setOwner _ _ (fun hu => displace_free hu) (fun _ _ _ _ => ?_)
        cases dst with
        | handle hh sl =>
          cases sl with
          | io => exact Or.inr (Or.inl ⟨hh, rfl⟩)
          | _ => cases hok
        | _ => cases hok
      · exact h
  | say line => exact h

theorem ev_exec1raw (l : Ledger) (p : Prim) (hok : p.ok = true) (hst : StdioInv l) (h : EvInv l) : EvInv (exec1raw l p) := by
  intro ev hev
  cases p with
  | create site kind o =>
    simp only [exec1raw, List.mem_cons] at hev
    rcases hev with rfl | hev
    · exact ⟨siteCloexec_true _, rfl⟩
    · exact h ev hev
  | createGive site kind =>
    simp only [exec1raw, List.mem_cons] at hev
    rcases hev with rfl | hev
    · exact ⟨siteCloexec_true _, rfl⟩
    · exact h ev hev
  | userCreate kind stdio => exact h ev hev
  | closeOwner o guard =>
    simp only [exec1raw] at hev
    split at hev
    · exact h ev hev
    · rename_i em hf
      obtain ⟨hem, ho⟩ := find?_owner hf
      split at hev
      · exact h ev hev
      · rename_i hg
        simp only [List.mem_cons] at hev
        rcases hev with rfl | hev
        · simp only [Prim.ok, Bool.and_eq_true, bne_iff_ne, ne_eq] at hok
          refine ⟨?_, Or.inl (ho ▸ hok.1.1)⟩
          cases hs : em.stdio with
          | false => rfl
          | true =>
            exfalso
            have := (hst em hem hs).2
            rw [ho] at this
            rcases this with h1 | ⟨hh, h1⟩ | h1
            · subst h1; simp [Owner.libuv] at hok
            · subst h1; simp_all
            · subst h1; simp at hok
        · exact h ev hev
  | closeUser id =>
    simp only [exec1raw] at hev
    split at hev
    · exact h ev hev
    · split at hev
      · rename_i hc
        simp only [List.mem_cons] at hev
        rcases hev with rfl | hev
        · simp only [Bool.and_eq_true, Bool.not_eq_true', decide_eq_true_eq] at hc
          exact ⟨hc.2, Or.inr rfl⟩
        · exact h ev hev
      · exact h ev hev
  | userClose id =>
    simp only [exec1raw] at hev
    split at hev
    · exact h ev hev
    · split at hev <;> exact h ev hev
  | userCloseAll => exact h ev hev
  | closeQ hq =>
    simp only [exec1raw, List.mem_append, List.mem_reverse, List.mem_map, List.mem_filter, decide_eq_true_eq] at hev
    rcases hev with ⟨e, ⟨hem, ho⟩, rfl⟩ | hev
    · refine ⟨?_, Or.inl (by rw [ho]; rfl)⟩
      cases hs : e.stdio with
      | false => rfl
      | true =>
        exfalso
        have := (hst e hem hs).2
        rw [ho] at this
        rcases this with h1 | ⟨hh, h1⟩ | h1 <;> cases h1
    · exact h ev hev
  | transfer src dst =>
    simp only [exec1raw] at hev
    split at hev <;> exact h ev hev
  | adopt id dst =>
    simp only [exec1raw] at hev
    split at hev
    · exact h ev hev
    · split at hev <;> exact h ev hev
  | say line => exact h ev hev

/-- the ledger invariant: everything the four C15 theorems need, preserved by every primitive -/
structure LInv (l : Ledger) : Prop where
  cx : CxInv l
  stdio : StdioInv l
  ev : EvInv l
  id : IdInv l
  uniq : UniqP l.led

theorem linv_empty : LInv {} :=
  ⟨by intro e he; simp at he, by intro e he; simp at he, by intro e he; simp at he,
   ⟨by intro e he; simp at he, by intro e he; simp at he⟩, by intro e he; simp at he⟩

theorem linv_exec1 (l : Ledger) (p : Prim) (h : LInv l) : LInv (exec1 l p) := by
  unfold exec1
  split
  · rename_i hok
    have hl := ledInv_exec1raw l p hok ⟨h.cx, h.stdio, h.id, h.uniq⟩
    exact ⟨hl.cx, hl.stdio, ev_exec1raw l p hok h.stdio h.ev, hl.id, hl.uniq⟩
  · exact ⟨h.cx, h.stdio, h.ev, h.id, h.uniq⟩

theorem linv_exec (l : Ledger) (ps : List Prim) (h : LInv l) : LInv (exec l ps) := by
  unfold exec
  induction ps generalizing l with
  | nil => exact h
  | cons p ps ih => exact ih _ (linv_exec1 l p h)

theorem linv_clearOut (l : Ledger) (h : LInv l) : LInv { l with out := [] } :=
  ⟨h.cx, h.stdio, h.ev, h.id, h.uniq⟩

theorem closeOwner_led (l : Ledger) (h : LInv l) (o : Owner) (hok : (Prim.closeOwner o false).ok = true)
    (hu : o.unique = true) : (exec1 l (.closeOwner o false)).led = l.led.filter (fun e => decide (e.owner ≠ o)) := by
  unfold exec1
  rw [if_pos hok]
  simp only [exec1raw]
  split
  · rename_i hf
    symm
    rw [List.filter_eq_self]
    intro e he
    have := List.find?_eq_none.mp hf e he
    simpa using this
  · rename_i em hf
    obtain ⟨hem, ho⟩ := find?_owner hf
    simp only [Bool.false_and, Bool.false_eq_true, if_false]
    apply List.filter_congr
    intro e he
    by_cases hc : e.owner = o
    · have : e.id = em.id := h.uniq e he em hem (hc.trans ho.symm) (hc ▸ hu)
      simp [hc, this]
    · have : e.id ≠ em.id := fun hid => hc ((h.id.2 e he em hem hid) ▸ ho)
      simp [hc, this]

def loopClosePrims : List Prim :=
  [.closeOwner (.loop .sig0) false, .closeOwner (.loop .sig1) false, .closeOwner (.loop .ring) false,
   .closeOwner (.loop .inotify) false, .closeOwner (.loop .async) false,
   .closeOwner (.loop .emfile) false, .closeOwner (.loop .backend) false]

theorem closeOwners_led (os : List Owner) (l : Ledger) (h : LInv l)
    (hos : ∀ o ∈ os, (Prim.closeOwner o false).ok = true ∧ o.unique = true) :
    (exec l (os.map (Prim.closeOwner · false))).led = l.led.filter (fun e => decide (e.owner ∉ os)) := by
  induction os generalizing l with
  | nil => exact (List.filter_eq_self.mpr (fun _ _ => by simp)).symm
  | cons o os ih =>
    have ho := hos o (List.mem_cons_self ..)
    show (exec (exec1 l (.closeOwner o false)) _).led = _
    rw [ih _ (linv_exec1 l _ h) (fun x hx => hos x (List.mem_cons_of_mem _ hx)), closeOwner_led l h o ho.1 ho.2,
      List.filter_filter]
    exact List.filter_congr (fun e _ => by simp [not_or, Bool.and_comm])

theorem loopClose_led (l : Ledger) (h : LInv l) :
    ∀ e ∈ (exec l loopClosePrims).led, e ∈ l.led ∧ ∀ f, e.owner ≠ .loop f := by
  intro e he
  rw [show loopClosePrims = [.loop .sig0, .loop .sig1, .loop .ring, .loop .inotify, .loop .async, .loop .emfile,
    .loop .backend].map (Prim.closeOwner · false) from rfl, closeOwners_led _ l h (by decide)] at he
  obtain ⟨hm, hn⟩ := List.mem_filter.mp he
  exact ⟨hm, fun f hc => of_decide_eq_true hn (hc ▸ by cases f <;> decide)⟩

end UvModel.FdLedger
