import UvModel.Lemmas.LoopTrace
import UvModel.Lemmas.LoopPhaseSteps
/-!
  `Keep s s'`: what every step outside `uv_close` / `uv__finish_close` does to the close bookkeeping (closing
  lists and halt marker fixed, ids only grow, records stay, CLOSING is never cleared); `KeepQ` / `KeepN j` add
  that the request queues of all handles (all but `j`) are untouched.  An API call is a chain of `KeepQ` steps,
  `KeepN j` steps on a handle `j` that is not closing, and at most `uv_close` steps (`OpRes`,
  `OpStep.opRes_closure`).
-/
namespace UvModel.Loop
open UvModel.HandleKernels

theorem trOf {s s' : State} (h : tr s' = tr s) : s'.trace = s.trace := congrArg Prod.fst h

/-- the part of a handle record that carries requests (and its kind) -/
abbrev HQ := Kind × List Nat × List (Nat × Int) × Option Nat
def qOf (h : Handle) : HQ := (h.kind, h.wq, h.wcq, h.connReq)
def hq (s : State) (id : Nat) : Option HQ := (getH s id).map qOf

theorem find_updH_ne (hs : List Handle) (id id' : Nat) (g : Handle → Handle) (hg : ∀ h, (g h).id = h.id)
    (hne : id' ≠ id) : (updH hs id g).find? (·.id == id') = hs.find? (·.id == id') := by
  induction hs with
  | nil => rfl
  | cons x t ih =>
    simp only [updH]
    split
    · rename_i hx
      have hx' : x.id = id := by simpa using hx
      have : (x.id == id') = false := by simp [hx']; omega
      simp [List.find?, hg, this]
    · simp only [List.find?, ih]

theorem find_updH_same (hs : List Handle) (id : Nat) (g : Handle → Handle) (hg : ∀ h, (g h).id = h.id) :
    (updH hs id g).find? (·.id == id) = (hs.find? (·.id == id)).map g := by
  induction hs with
  | nil => rfl
  | cons x t ih =>
    simp only [updH]
    split
    · rename_i hx
      simp [List.find?, hg, hx]
    · rename_i hx
      have : (x.id == id) = false := by simpa using hx
      simp only [List.find?, this, ih]

theorem getH_modH_ne (s : State) (id id' : Nat) (g : Handle → Handle) (hg : ∀ h, (g h).id = h.id) (hne : id' ≠ id) :
    getH (modH s id g) id' = getH s id' := find_updH_ne _ _ _ _ hg hne

theorem getH_modH_same (s : State) (id : Nat) (g : Handle → Handle) (hg : ∀ h, (g h).id = h.id) :
    getH (modH s id g) id = (getH s id).map g := find_updH_same _ _ _ hg

theorem hq_modH_ne (s : State) (id id' : Nat) (g : Handle → Handle) (hg : ∀ h, (g h).id = h.id) (hne : id' ≠ id) :
    hq (modH s id g) id' = hq s id' := by simp [hq, getH_modH_ne _ _ _ _ hg hne]

/-- a record update that leaves id, kind and the request queues alone -/
theorem hq_modH_q (s : State) (id id' : Nat) (g : Handle → Handle) (hg : ∀ h, (g h).id = h.id)
    (hgq : ∀ h, qOf (g h) = qOf h) : hq (modH s id g) id' = hq s id' := by
  by_cases hne : id' = id
  · subst hne
    simp only [hq, getH_modH_same _ _ _ hg, Option.map_map]
    congr 1; funext h; exact hgq h
  · exact hq_modH_ne _ _ _ _ hg hne

/-! ### flags: CLOSING is never cleared, records never vanish (outside uv__finish_close) -/
def KMono (c c' : Core) : Prop :=
  ∀ id f, c.get id = some f → ∃ f', c'.get id = some f' ∧ (f.closing = true → f'.closing = true)

theorem KMono.refl (c : Core) : KMono c c := fun _ f h => ⟨f, h, id⟩
theorem KMono.trans {a b c : Core} (h1 : KMono a b) (h2 : KMono b c) : KMono a c := by
  intro id f hf
  obtain ⟨f1, hf1, m1⟩ := h1 id f hf
  obtain ⟨f2, hf2, m2⟩ := h2 id f1 hf1
  exact ⟨f2, hf2, fun h => m2 (m1 h)⟩

theorem lookF_updF_ne (fl : List (Nat × HFlags)) (id id' : Nat) (f' : HFlags) (hne : id' ≠ id) :
    lookF (updF fl id f') id' = lookF fl id' := by
  induction fl with
  | nil => rfl
  | cons e t ih =>
    simp only [updF]
    split
    · rename_i he
      have he' : e.1 = id := by simpa using he
      have h1 : (id == id') = false := by simp; omega
      have h2 : (e.1 == id') = false := by simp [he']; omega
      simp [lookF, h1, h2]
    · simp only [lookF, ih]

def ClMono (k : HK → HK) : Prop := ∀ x : HK, x.closing = true → (k x).closing = true

theorem KMono.apply (c : Core) (id : Nat) (k : HK → HK) (hk : ClMono k) : KMono c (c.apply id k) := by
  intro id' f hf
  unfold Core.apply
  cases hg : c.get id with
  | none => exact ⟨f, hf, fun h => h⟩
  | some f0 =>
    simp only
    by_cases hne : id' = id
    · subst hne
      have hff : f0 = f := by rw [hg] at hf; exact Option.some.inj hf
      subst hff
      refine ⟨ofHK (k (toHK f0 c.ah)), ?_, ?_⟩
      · simpa [Core.get] using lookF_updF_same c.fl id' f0 _ (by simpa [Core.get] using hg)
      · intro h; exact hk _ h
    · refine ⟨f, ?_, fun h => h⟩
      simp only [Core.get] at hf ⊢
      rw [lookF_updF_ne _ _ _ _ hne]; exact hf

theorem lookF_append_some {fl : List (Nat × HFlags)} {id : Nat} {f : HFlags} (h : lookF fl id = some f)
    (l2 : List (Nat × HFlags)) : lookF (fl ++ l2) id = some f := by
  induction fl with
  | nil => simp [lookF] at h
  | cons e t ih =>
    simp only [lookF, List.cons_append] at h ⊢
    split
    · rename_i he; simpa [he] using h
    · rename_i he; simp only [he, Bool.false_eq_true, if_false] at h; exact ih h

theorem KMono.add (c : Core) (id : Nat) : KMono c (c.add id) := by
  intro id' f hf
  exact ⟨f, by simpa [Core.add, Core.get] using lookF_append_some (by simpa [Core.get] using hf) _, fun h => h⟩

theorem clMono_start : ClMono handleStart := by
  intro x h; unfold handleStart; split; · exact h
  simp only; split <;> exact h
theorem clMono_stop : ClMono handleStop := by
  intro x h; unfold handleStop; split; · exact h
  simp only; split <;> exact h
theorem clMono_ref : ClMono handleRef := by
  intro x h; unfold handleRef; split; · exact h
  simp only [h, if_true]
theorem clMono_unref : ClMono handleUnref := by
  intro x h; unfold handleUnref; split; · exact h
  simp only [h, if_true]
theorem clMono_setClosing : ClMono setClosing := fun _ _ => rfl
theorem clMono_setClosed : ClMono setClosed := fun _ h => h
theorem clMono_setInternal : ClMono setInternal := fun _ h => h

structure Keep (s s' : State) : Prop where
  closing : s'.closing = s.closing
  closingLocal : s'.closingLocal = s.closingLocal
  halted : s'.halted = s.halted
  nextId : s.nextId ≤ s'.nextId
  hnew : ∀ id ∈ hids s', id ∈ hids s ∨ s.nextId ≤ id
  hold : ∀ id ∈ hids s, id ∈ hids s'
  flags : KMono s.c s'.c

theorem Keep.refl (s : State) : Keep s s :=
  ⟨rfl, rfl, rfl, Nat.le_refl _, fun _ h => Or.inl h, fun _ h => h, KMono.refl _⟩

theorem Keep.trans {a b c : State} (h1 : Keep a b) (h2 : Keep b c) : Keep a c where
  closing := h2.closing.trans h1.closing
  closingLocal := h2.closingLocal.trans h1.closingLocal
  halted := h2.halted.trans h1.halted
  nextId := Nat.le_trans h1.nextId h2.nextId
  hnew := by
    intro id hid
    rcases h2.hnew id hid with h | h
    · exact h1.hnew id h
    · exact Or.inr (Nat.le_trans h1.nextId h)
  hold := fun id h => h2.hold id (h1.hold id h)
  flags := h1.flags.trans h2.flags

/-- request queues of all already existing handles are untouched -/
def HQAll (s s' : State) : Prop := ∀ id ∈ hids s, hq s' id = hq s id
/-- … of all existing handles except `j` -/
def HQNe (j : Nat) (s s' : State) : Prop := ∀ id ∈ hids s, id ≠ j → hq s' id = hq s id

def KeepQ (s s' : State) : Prop := Keep s s' ∧ HQAll s s'
def KeepN (j : Nat) (s s' : State) : Prop := Keep s s' ∧ HQNe j s s'

theorem KeepQ.refl (s : State) : KeepQ s s := ⟨Keep.refl s, fun _ _ => rfl⟩
theorem KeepQ.trans {a b c : State} (h1 : KeepQ a b) (h2 : KeepQ b c) : KeepQ a c :=
  ⟨h1.1.trans h2.1, fun id hid => (h2.2 id (h1.1.hold id hid)).trans (h1.2 id hid)⟩
theorem KeepQ.toN {s s' : State} (j : Nat) (h : KeepQ s s') : KeepN j s s' := ⟨h.1, fun id hid _ => h.2 id hid⟩
theorem KeepN.refl (j : Nat) (s : State) : KeepN j s s := (KeepQ.refl s).toN j
theorem KeepN.trans {j : Nat} {a b c : State} (h1 : KeepN j a b) (h2 : KeepN j b c) : KeepN j a c :=
  ⟨h1.1.trans h2.1, fun id hid hne => (h2.2 id (h1.1.hold id hid) hne).trans (h1.2 id hid hne)⟩

/-! ### auxiliary functions: the projection `kp` is unchanged -/
def qq (h : Handle) : Nat × HQ := (h.id, qOf h)
def kp (s : State) := (s.c, s.nextId, s.handles.map qq, s.closing, s.closingLocal, s.halted)

theorem hids_eq_kp (s : State) : hids s = (s.handles.map qq).map (·.1) := by
  simp [hids, qq, List.map_map, Function.comp_def]

theorem hq_eq_kp (s : State) (id : Nat) : hq s id = ((s.handles.map qq).find? (·.1 == id)).map (·.2) := by
  simp only [hq, getH, List.find?_map, Option.map_map]
  rfl

theorem KeepQ.of_kp {s s' : State} (h : kp s' = kp s) : KeepQ s s' := by
  simp only [kp, Prod.mk.injEq] at h
  obtain ⟨hc, hn, hh, hcl, hcll, hha⟩ := h
  have hi : hids s' = hids s := by rw [hids_eq_kp, hids_eq_kp, hh]
  refine ⟨⟨hcl, hcll, hha, by omega, fun id hid => Or.inl (hi ▸ hid), fun id hid => hi ▸ hid, hc ▸ KMono.refl _⟩, ?_⟩
  intro id _
  rw [hq_eq_kp, hq_eq_kp, hh]

theorem kp_of_key {s s' : State} (h : key s' = key s) : kp s' = kp s := by
  simp only [key, Prod.mk.injEq] at h
  have hh : s'.handles.map qq = s.handles.map qq := h.2.2.1
  simp only [kp, h, hh]

theorem kp_modH (s : State) (id : Nat) (g : Handle → Handle) (hg : ∀ h, qq (g h) = qq h) : kp (modH s id g) = kp s := by
  simp only [kp, modH, map_updH qq _ _ _ hg]

@[simp] theorem kp_ioStop (s : State) (w : W) (ev : Nat) : kp (ioStop s w ev) = kp s := kp_of_key (key_ioStop ..)
@[simp] theorem kp_updateTime (s : State) : kp (updateTime s) = kp s := rfl
@[simp] theorem kp_asyncSend (s : State) (id : Nat) : kp (asyncSend s id) = kp s := kp_of_key (key_asyncSend ..)
@[simp] theorem kp_completeWorks (s : State) (k : Nat) : kp (completeWorks s k) = kp s := by
  unfold completeWorks; split; · rfl
  simp only; rw [kp_asyncSend]; rfl
@[simp] theorem kp_workSubmit (s : State) (api : Api) : kp (workSubmit s api) = kp s := by
  unfold workSubmit; simp only; split
  · split
    · rfl
    · rw [kp_asyncSend]; rfl
  · rfl
@[simp] theorem kp_workCancel (s : State) (r : Nat) : kp (workCancel s r).1 = kp s := by
  unfold workCancel; split
  · simp only; rw [kp_asyncSend]; rfl
  · split
    · simp only; rw [kp_asyncSend]; rfl
    · rfl
@[simp] theorem kp_emit (s : State) (e : Event) : kp (emit s e) = kp s := by
  unfold emit; split <;> rfl
@[simp] theorem kp_emitObs (s : State) : kp (emitObs s) = kp s := by simp [emitObs]

theorem KeepQ.kp_left {a a' b : State} (h : kp a' = kp a) (h2 : KeepQ a' b) : KeepQ a b := (KeepQ.of_kp h).trans h2
theorem KeepN.kp_left {j : Nat} {a a' b : State} (h : kp a' = kp a) (h2 : KeepN j a' b) : KeepN j a b :=
  ((KeepQ.of_kp h).toN j).trans h2
theorem KeepN.kp_right {j : Nat} {a b b' : State} (h2 : KeepN j a b) (h : kp b' = kp b) : KeepN j a b' :=
  h2.trans ((KeepQ.of_kp h).toN j)
theorem KeepQ.kp_right {a b b' : State} (h2 : KeepQ a b) (h : kp b' = kp b) : KeepQ a b' :=
  h2.trans (KeepQ.of_kp h)

theorem keepQ_withKernel (s : State) (id : Nat) (k : HK → HK) (hk : ClMono k) : KeepQ s (withKernel s id k) :=
  ⟨⟨rfl, rfl, rfl, Nat.le_refl _, fun _ h => Or.inl h, fun _ h => h, KMono.apply _ _ _ hk⟩, fun _ _ => rfl⟩

theorem keepQ_hStart (s : State) (id : Nat) : KeepQ s (hStart s id) := keepQ_withKernel _ _ _ clMono_start
theorem keepQ_hStop (s : State) (id : Nat) : KeepQ s (hStop s id) := keepQ_withKernel _ _ _ clMono_stop

theorem Keep.of_hview {s s' : State} (h : hview s' = hview s) : Keep s s' := by
  simp only [hview, Prod.mk.injEq] at h
  obtain ⟨hc, hn, hi, hcl, hcll, _, _, hha, _⟩ := h
  have hi : hids s' = hids s := hi
  exact ⟨hcl, hcll, hha, Nat.le_of_eq hn.symm, fun id hid => Or.inl (hi ▸ hid), fun id hid => hi ▸ hid, hc ▸ KMono.refl _⟩

theorem KStep.keepQ {s s' : State} (h : KStep s s') : KeepQ s s' := by
  cases h with
  | start => exact keepQ_withKernel _ _ _ clMono_start
  | stop => exact keepQ_withKernel _ _ _ clMono_stop
  | ref => exact keepQ_withKernel _ _ _ clMono_ref
  | unref => exact keepQ_withKernel _ _ _ clMono_unref
  | internal => exact keepQ_withKernel _ _ _ clMono_setInternal

/-- between callbacks nothing touches the close bookkeeping or the trace -/
theorem OpStep.keep {q : Bool} {u : Option Nat} {s s' : State} (h : OpStep q u s s') (hq : q = false) : Keep s s' ∧ s'.trace = s.trace := by
  induction h with
  | frame h => exact ⟨.of_hview (hview_of_key h), trace_of_hview (hview_of_key h)⟩
  | trans _ _ ih1 ih2 => exact ⟨(ih1 hq).1.trans (ih2 hq).1, (ih2 hq).2.trans (ih1 hq).2⟩
  | kern h => exact ⟨h.keepQ.1, trOf (tr_of_rview h.rview)⟩
  | req h => exact ⟨.of_hview h.hview, trace_of_hview h.hview⟩
  | unwatch s id => exact ⟨(KeepQ.of_kp (s := s) (s' := Loop.unwatch s id) rfl).1, rfl⟩
  | init => cases hq
  | close => cases hq

/-- any record update of handle `id` (ids are never rewritten) -/
theorem keepN_modH (s : State) (id : Nat) (g : Handle → Handle) (hg : ∀ h, (g h).id = h.id) : KeepN id s (modH s id g) :=
  ⟨⟨rfl, rfl, rfl, Nat.le_refl _, fun i h => Or.inl (by rw [hids_modH _ _ _ hg] at h; exact h),
    fun i h => by rw [hids_modH _ _ _ hg]; exact h, KMono.refl _⟩,
   fun i _ hne => hq_modH_ne _ _ _ _ hg hne⟩

theorem find_append_some {l : List Handle} {p : Handle → Bool} {h : Handle} (hf : l.find? p = some h) (l2 : List Handle) :
    (l ++ l2).find? p = some h := by
  simp [List.find?_append, hf]

theorem keepQ_addHandle (s : State) (k : Kind) : KeepQ s (addHandle s k) := by
  have e : (addHandle s k).handles = s.handles ++ [{ id := s.nextId, kind := k }] := rfl
  refine ⟨⟨rfl, rfl, rfl, Nat.le_succ _, ?_, ?_, KMono.add _ _⟩, ?_⟩
  · intro id hid
    simp only [hids, e, List.map_append, List.mem_append, List.map_cons, List.map_nil, List.mem_singleton] at hid
    rcases hid with h | h
    · exact Or.inl h
    · exact Or.inr (by omega)
  · intro id hid
    simp only [hids, e, List.map_append, List.mem_append]
    exact Or.inl hid
  · intro id hid
    obtain ⟨h, hh⟩ := Option.isSome_iff_exists.mp ((getH_isSome_iff s id).mpr hid)
    simp only [hq, getH, e] at hh ⊢
    rw [find_append_some hh, hh]

theorem keepQ_initH (s : State) (k : Kind) : KeepQ s (initH s k) := by
  unfold initH
  simp only
  have ha := keepQ_addHandle s k
  cases k with
  | timer => exact ha.kp_right rfl
  | async => exact ha.trans (KeepQ.kp_left (a' := { addHandle s .async with asyncs := (addHandle s .async).asyncs ++ [s.nextId] }) rfl (keepQ_hStart _ _))
  | poll => exact ha.kp_right (kp_modH _ _ _ (fun _ => rfl))
  | idle => exact ha
  | prepare => exact ha
  | check => exact ha
  | tcp => exact ha
  | udp => exact ha
  | pipe => exact ha
  | signal => exact ha
  | fsEvent => exact ha

theorem getF_withKernel_same {s : State} {id : Nat} {k : HK → HK} {f : HFlags} (hf : getF s id = some f) :
    getF (withKernel s id k) id = some (ofHK (k (toHK f s.c.ah))) := by
  have hf' : s.c.get id = some f := hf
  simp only [getF, withKernel, Core.apply, hf']
  simpa [Core.get] using lookF_updF_same s.c.fl id f _ (by simpa [Core.get] using hf')

/-- a legal `uv_close`: everything but the closing list is a `KeepQ` step ending with CLOSING set, then
    uv__make_close_pending -/
def CloseOp (s s' : State) : Prop :=
  ∃ id s2, KeepQ s s2 ∧ s' = makeClosePending s2 id ∧ id ∈ hids s ∧
    (∃ f, getF s id = some f ∧ f.closing = false) ∧ (∃ f', getF s2 id = some f' ∧ f'.closing = true)

def OpRes (s s' : State) : Prop :=
  KeepQ s s' ∨ (∃ j, KeepN j s s' ∧ ∀ f, getF s j = some f → f.closing = false) ∨ CloseOp s s'

theorem OpRes.of_kp {s s' : State} (h : kp s' = kp s) : OpRes s s' := .inl (KeepQ.of_kp h)

theorem clMono_closeK : ClMono closeK := fun x h => clMono_stop _ (clMono_setClosing x h)

/-- a record update of handle `id` after a change that the close bookkeeping does not see -/
theorem keepN_reg (s s1 : State) (h : kp s1 = kp s) (id : Nat) (g : Handle → Handle) (hg : ∀ h, (g h).id = h.id) :
    KeepN id s (modH s1 id g) :=
  ((KeepQ.of_kp h).toN id).trans (keepN_modH s1 id g hg)

theorem ReqStep.opRes : ∀ {s s' : State}, ReqStep s s' → OpRes s s'
  | _, _, .move s id _ ho => .inr (.inl ⟨id, keepN_modH s id _ (by intro _; rfl), ho⟩)
  | _, _, .enqueue s id ho => .inr (.inl ⟨id, keepN_reg s _ (by rfl) id _ (by intro _; rfl), ho⟩)
  | _, _, .connect s id ho _ => .inr (.inl ⟨id, keepN_reg s _ (by rfl) id _ (by intro _; rfl), ho⟩)
  | _, _, .work s api => .of_kp (kp_workSubmit s api)
  | _, _, .ring .. => .of_kp rfl
  | _, _, .cancel s r => .of_kp (kp_workCancel s r)
  | _, _, .complete s k => .of_kp (kp_completeWorks s k)
  | _, _, .detach _ => .of_kp rfl
  | _, _, .take s cq => .of_kp (ringTake_frame kp (fun _ _ _ => rfl) s cq)

/-- a transitive relation that holds of the three kinds of primitive result holds of every API call -/
theorem OpStep.opRes_closure {R : State → State → Prop} (ht : ∀ {a b c}, R a b → R b c → R a c)
    (h1 : ∀ {s s'}, OpRes s s' → R s s') {q : Bool} {u : Option Nat} {s s' : State} (h : OpStep q u s s') : R s s' := by
  induction h with
  | frame h => exact h1 (.of_kp (kp_of_key h))
  | trans _ _ ih1 ih2 => exact ht ih1 ih2
  | kern h => exact h1 (.inl h.keepQ)
  | req h => exact h1 h.opRes
  | unwatch => exact h1 (.of_kp rfl)
  | init s k => exact h1 (.inl (keepQ_initH s k))
  | close s id f hi hf hc _ =>
    exact h1 (.inr (.inr ⟨id, withKernel s id closeK, keepQ_withKernel s id _ clMono_closeK, rfl, hi, ⟨f, hf, hc⟩,
      ⟨_, getF_withKernel_same hf, clMono_stop _ rfl⟩⟩))

theorem kp_stepOp (s : State) (o : Op) : kp (stepOp s o) = kp (applyOp s o).1 := by
  unfold Loop.stepOp; simp

end UvModel.Loop
