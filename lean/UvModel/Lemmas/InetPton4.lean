import UvModel.Lemmas.InetStr
/-!
  `inet_pton4` against the dotted-quad grammar.  Soundness keeps as invariant that the text read so far is
  what `%u` prints for the octets stored, completeness follows the grammar; the parser being a function,
  the two together make `fmt4 v` the only dotted quad with value `v`.
-/
namespace UvModel.Inet

/-- `decVal` continued from an accumulator -/
abbrev decFrom (acc : Nat) (t : List Nat) : Nat := t.foldl (fun a c => a * 10 + (c - 48)) acc

theorem le_decFrom (t : List Nat) : ∀ acc, acc ≤ decFrom acc t := by
  induction t with
  | nil => exact fun _ => Nat.le_refl _
  | cons c t ih =>
    exact fun acc => Nat.le_trans (Nat.le_trans (Nat.le_mul_of_pos_right acc (by decide)) (Nat.le_add_right ..)) (ih _)

theorem digit_sub {c : Nat} (h : 48 ≤ c ∧ c ≤ 57) : c - 48 < 10 ∧ 48 + (c - 48) = c := by omega

theorem fmtU8_digit (d : Nat) (h : d < 10) : fmtU8 d = [48 + d] := by
  unfold fmtU8; rw [if_pos h]

theorem fmtU8_step (n : Nat) (h10 : 10 ≤ n) (h : n < 1000) : fmtU8 n = fmtU8 (n / 10) ++ [48 + n % 10] := by
  unfold fmtU8
  by_cases h1 : n < 100
  · rw [if_neg (by omega), if_pos h1, if_pos (Nat.div_lt_of_lt_mul h1)]; rfl
  · have h2 : ¬ n / 10 < 10 := Nat.not_lt.2 ((Nat.le_div_iff_mul_le (by decide)).2 (Nat.not_lt.1 h1))
    rw [if_neg (by omega), if_neg h1, if_neg h2, if_pos (Nat.div_lt_of_lt_mul h), Nat.div_div_eq_div_mul]; rfl

theorem fmtU8_snoc (cur d : Nat) (h0 : cur ≠ 0) (hd : d < 10) (h : cur * 10 + d < 1000) :
    fmtU8 (cur * 10 + d) = fmtU8 cur ++ [48 + d] := by
  have e1 : (cur * 10 + d) / 10 = cur := by
    rw [Nat.mul_comm, Nat.mul_add_div (by decide), Nat.div_eq_of_lt hd]; rfl
  have e2 : (cur * 10 + d) % 10 = d := by rw [Nat.mul_comm, Nat.mul_add_mod, Nat.mod_eq_of_lt hd]
  rw [fmtU8_step _ (by omega) h, e1, e2]

theorem decVal_snoc (t : List Nat) (c : Nat) : decVal (t ++ [c]) = decVal t * 10 + (c - 48) := by
  simp [decVal, List.foldl_append]

theorem decVal_fmtU8 (n : Nat) (h : n < 1000) : decVal (fmtU8 n) = n := by
  by_cases h1 : n < 10
  · rw [fmtU8_digit n h1]; simp [decVal]
  · have hlt : n / 10 < n := Nat.div_lt_self (by omega) (by decide)
    rw [fmtU8_step n (by omega) h, decVal_snoc, decVal_fmtU8 (n / 10) (Nat.lt_trans hlt h), Nat.add_sub_cancel_left,
      Nat.mul_comm, Nat.div_add_mod]
termination_by n
decreasing_by exact hlt

theorem fmtU8_head (n : Nat) (h0 : n ≠ 0) (h : n < 1000) : ∃ c r, fmtU8 n = c :: r ∧ c ≠ 48 := by
  by_cases h1 : n < 10
  · exact ⟨48 + n, [], fmtU8_digit n h1, by omega⟩
  · have hlt : n / 10 < n := Nat.div_lt_self (by omega) (by decide)
    obtain ⟨c, r, e, hc⟩ := fmtU8_head (n / 10) (Nat.div_ne_zero_iff.2 ⟨by decide, by omega⟩) (Nat.lt_trans hlt h)
    exact ⟨c, r ++ [48 + n % 10], by rw [fmtU8_step n (by omega) h, e]; rfl, hc⟩
termination_by n
decreasing_by exact hlt

theorem isOctet_fmtU8 (n : Nat) (hn : n ≤ 255) : IsOctet (fmtU8 n) n := by
  have hl := fmtU8_len n
  refine ⟨fun h => by rw [h] at hl; simp at hl, hl.2, fmtU8_digits n (by omega), fun h1 => ?_,
    decVal_fmtU8 n (by omega), hn⟩
  obtain ⟨c, r, e, hc⟩ := fmtU8_head n (fun h0 => by rw [h0] at h1; simp [fmtU8] at h1) (by omega)
  rw [e]; simpa using hc

theorem isOctet_cons {t : List Nat} {n : Nat} (h : IsOctet t n) :
    ∃ c t', t = c :: t' ∧ (48 ≤ c ∧ c ≤ 57) ∧ (∀ x ∈ t', 48 ≤ x ∧ x ≤ 57) ∧ (t' ≠ [] → c - 48 ≠ 0) ∧
      n = decFrom (c - 48) t' := by
  obtain ⟨hne, -, hdig, hlead, rfl, -⟩ := h
  match t, hne with
  | c :: t, _ =>
    have hc := hdig c (List.mem_cons_self ..)
    refine ⟨c, t, rfl, hc, fun x hx => hdig x (List.mem_cons_of_mem _ hx), fun ht => ?_, by simp [decVal, decFrom]⟩
    have : c ≠ 48 := by simpa using hlead (by cases t with | nil => exact absurd rfl ht | cons => simp)
    omega

/-- `s` is the canonical text of the four bytes `v` -/
def Quad (s v : List Nat) : Prop :=
  ∃ a b c d, a ≤ 255 ∧ b ≤ 255 ∧ c ≤ 255 ∧ d ≤ 255 ∧ v = [a, b, c, d] ∧ s = fmt4 [a, b, c, d]

theorem fmt4_quad (a b c d : Nat) :
    fmt4 [a, b, c, d] = fmtU8 a ++ 46 :: (fmtU8 b ++ 46 :: (fmtU8 c ++ 46 :: fmtU8 d)) := by
  simp [fmt4]

theorem Quad.dottedQuad {s v : List Nat} (h : Quad s v) : DottedQuad s v := by
  obtain ⟨a, b, c, d, ha, hb, hc, hd, hv, hs⟩ := h
  exact ⟨_, _, _, _, a, b, c, d, isOctet_fmtU8 a ha, isOctet_fmtU8 b hb, isOctet_fmtU8 c hc, isOctet_fmtU8 d hd,
    hs.trans (fmt4_quad ..), hv⟩

theorem pton4Loop_digit {ch k cur : Nat} {rest done : List Nat} {saw : Bool}
    (hd : 48 ≤ ch ∧ ch ≤ 57) (hz : ¬ (saw = true ∧ cur = 0)) (hnw : cur * 10 + (ch - 48) ≤ 255)
    (hk : saw = false → k < 4) :
    pton4Loop (ch :: rest) saw k done cur =
      pton4Loop rest true (if saw then k else k + 1) done (cur * 10 + (ch - 48)) := by
  rw [pton4Loop, if_pos hd, if_neg hz, if_neg (by omega)]
  cases saw with
  | false => rw [if_pos rfl, if_neg (by have := hk rfl; omega)]; rfl
  | true => rfl

theorem pton4Loop_dot {rest done : List Nat} {k cur : Nat} (hk : k ≠ 4) :
    pton4Loop (46 :: rest) true k done cur = pton4Loop rest false k (done ++ [cur]) 0 := by
  rw [pton4Loop, if_neg (by decide), if_pos ⟨rfl, rfl⟩, if_neg hk]

theorem pton4Loop_cons_some {ch : Nat} {rest : List Nat} {saw : Bool} {k : Nat} {done : List Nat} {cur : Nat}
    {v : List Nat} (h : pton4Loop (ch :: rest) saw k done cur = some v) :
    ((48 ≤ ch ∧ ch ≤ 57) ∧ ¬ (saw = true ∧ cur = 0) ∧ cur * 10 + (ch - 48) ≤ 255 ∧ (saw = false → k < 4)) ∨
    (ch = 46 ∧ saw = true ∧ k ≠ 4) := by
  rw [pton4Loop] at h
  by_cases hd : 48 ≤ ch ∧ ch ≤ 57
  · rw [if_pos hd] at h
    obtain ⟨hz, h⟩ := ite_none_eq_some h
    obtain ⟨hnw, h⟩ := ite_none_eq_some h
    refine .inl ⟨hd, hz, Nat.not_lt.1 hnw, fun hs => ?_⟩
    rw [if_pos hs] at h
    exact Nat.not_lt.1 (ite_none_eq_some h).1
  · rw [if_neg hd] at h
    obtain ⟨hdot, h⟩ := ite_else_none_eq_some h
    exact .inr ⟨hdot.1, hdot.2, (ite_none_eq_some h).1⟩

/-- the text consumed so far: completed octets each followed by '.' -/
def pre4 (done : List Nat) : List Nat := done.flatMap fun n => fmtU8 n ++ [46]

theorem pre4_snoc (done : List Nat) (c : Nat) : pre4 (done ++ [c]) = pre4 done ++ fmtU8 c ++ [46] := by
  simp [pre4]

/-- Invariant: the text read so far is what `%u` prints for the octets stored and, once a digit of it
    has been seen (first part), for the one being read. -/
theorem pton4Loop_sound (s : List Nat) :
    (∀ k done cur v, pton4Loop s true k done cur = some v → (∀ x ∈ done, x ≤ 255) → cur ≤ 255 →
      k = done.length + 1 → k ≤ 4 → Quad (pre4 done ++ fmtU8 cur ++ s) v) ∧
    (∀ k done v, pton4Loop s false k done 0 = some v → (∀ x ∈ done, x ≤ 255) →
      k = done.length → k ≤ 3 → Quad (pre4 done ++ s) v) := by
  induction s with
  | nil =>
    constructor
    · intro k done cur v h hdone hcur hk hk4
      rw [pton4Loop] at h
      by_cases h4 : k < 4
      · rw [if_pos h4] at h; cases h
      · match done, (by omega : done.length = 3) with
        | [a, b, c], _ =>
          refine ⟨a, b, c, cur, hdone a (List.mem_cons_self ..), hdone b (List.mem_cons_of_mem _ (List.mem_cons_self ..)),
            hdone c (List.mem_cons_of_mem _ (List.mem_cons_of_mem _ (List.mem_cons_self ..))), hcur, ?_, ?_⟩
          · rw [if_neg h4] at h; exact (Option.some.inj h).symm
          · simp [pre4, fmt4]
    · intro k done v h _ _ hk3
      rw [pton4Loop, if_pos (by omega)] at h; cases h
  | cons ch rest ih =>
    obtain ⟨ihT, ihF⟩ := ih
    constructor
    · intro k done cur v h hdone hcur hk hk4
      rcases pton4Loop_cons_some h with ⟨hd, hz, hnw, -⟩ | ⟨rfl, -, hk4'⟩
      · rw [pton4Loop_digit hd hz hnw (fun h => nomatch h)] at h
        have := ihT k done _ v h hdone hnw hk hk4
        rw [fmtU8_snoc cur _ (fun h0 => hz ⟨rfl, h0⟩) (digit_sub hd).1 (Nat.lt_of_le_of_lt hnw (by decide)),
          (digit_sub hd).2] at this
        simpa only [List.append_assoc, List.cons_append, List.nil_append] using this
      · rw [pton4Loop_dot hk4'] at h
        have := ihF k (done ++ [cur]) v h (fun x hx => ?_) (by rw [List.length_append]; exact hk)
          (Nat.le_of_lt_succ (Nat.lt_of_le_of_ne hk4 hk4'))
        · rw [pre4_snoc] at this
          simpa only [List.append_assoc, List.cons_append, List.nil_append] using this
        · rcases List.mem_append.1 hx with hx | hx
          · exact hdone x hx
          · rw [List.mem_singleton.1 hx]; exact hcur
    · intro k done v h hdone hk hk3
      rcases pton4Loop_cons_some h with ⟨hd, -, hnw, -⟩ | ⟨-, hs, -⟩
      · rw [pton4Loop_digit (saw := false) hd (fun h => nomatch h.1) hnw (fun _ => Nat.lt_succ_of_le hk3)] at h
        have := ihT (k + 1) done _ v h hdone hnw (congrArg (· + 1) hk) (Nat.succ_le_succ hk3)
        rw [Nat.zero_mul, Nat.zero_add, fmtU8_digit (ch - 48) (digit_sub hd).1, (digit_sub hd).2] at this
        simpa only [List.append_assoc, List.cons_append, List.nil_append] using this
      · cases hs

theorem pton4Loop_digits (t : List Nat) : ∀ (rest : List Nat) (k : Nat) (done : List Nat) (acc : Nat),
    (∀ c ∈ t, 48 ≤ c ∧ c ≤ 57) → (t ≠ [] → acc ≠ 0) → decFrom acc t ≤ 255 →
    pton4Loop (t ++ rest) true k done acc = pton4Loop rest true k done (decFrom acc t) := by
  induction t with
  | nil => intros; rfl
  | cons c t ih =>
    intro rest k done acc hd h0 hv
    obtain ⟨hc, hd⟩ := List.forall_mem_cons.1 hd
    have h0 := h0 (List.cons_ne_nil _ _)
    have hv : decFrom (acc * 10 + (c - 48)) t ≤ 255 := hv
    rw [List.cons_append, pton4Loop_digit (saw := true) hc (fun h => h0 h.2) (Nat.le_trans (le_decFrom t _) hv)
      (fun h => nomatch h)]
    exact ih rest k done _ hd (fun _ => by omega) hv

theorem pton4Loop_octet {t : List Nat} {n : Nat} (h : IsOctet t n) (rest : List Nat) (k : Nat) (done : List Nat)
    (hk : k < 4) : pton4Loop (t ++ rest) false k done 0 = pton4Loop rest true (k + 1) done n := by
  obtain ⟨c, t', rfl, hc, hdig, h0, rfl⟩ := isOctet_cons h
  have hn : decFrom (c - 48) t' ≤ 255 := h.2.2.2.2.2
  rw [List.cons_append, pton4Loop_digit (saw := false) hc (fun h => nomatch h.1)
    (Nat.zero_mul 10 ▸ Nat.zero_add _ ▸ Nat.le_trans (le_decFrom t' _) hn) (fun _ => hk), Nat.zero_mul, Nat.zero_add]
  exact pton4Loop_digits t' rest (k + 1) done _ hdig h0 hn

theorem pton4_complete (s v : List Nat) (h : DottedQuad s v) : pton4 s = some v := by
  obtain ⟨t1, t2, t3, t4, a, b, c, d, h1, h2, h3, h4, rfl, rfl⟩ := h
  have := pton4Loop_octet h4 [] (2 + 1) ([] ++ [a] ++ [b] ++ [c]) (by omega)
  rw [List.append_nil] at this
  rw [pton4, pton4Loop_octet h1 _ 0 [] (by omega), pton4Loop_dot (by omega),
    pton4Loop_octet h2 _ 1 _ (by omega), pton4Loop_dot (by omega),
    pton4Loop_octet h3 _ 2 _ (by omega), pton4Loop_dot (by omega), this]
  rfl

theorem pton4_iff_quad (s v : List Nat) : pton4 s = some v ↔ Quad s v :=
  ⟨fun h => by simpa [pre4] using (pton4Loop_sound s).2 0 [] v h (by simp) rfl (by omega),
   fun h => pton4_complete s v h.dottedQuad⟩

theorem dottedQuad_iff (s v : List Nat) : DottedQuad s v ↔ Quad s v :=
  ⟨fun h => (pton4_iff_quad s v).1 (pton4_complete s v h), Quad.dottedQuad⟩

theorem pton4_iff (s v : List Nat) : pton4 s = some v ↔ DottedQuad s v := by
  rw [pton4_iff_quad, dottedQuad_iff]

theorem isOctet_iff (t : List Nat) (n : Nat) : IsOctet t n ↔ n ≤ 255 ∧ t = fmtU8 n := by
  refine ⟨fun h => ?_, fun ⟨hn, e⟩ => e ▸ isOctet_fmtU8 n hn⟩
  -- `t.0.0.0` is a dotted quad for `[n, 0, 0, 0]`, and the parser, a function, accepts only `fmt4 [n, 0, 0, 0]` for that value
  have h0 := isOctet_fmtU8 0 (by decide)
  obtain ⟨a, b, c, d, -, -, -, -, hv, hs⟩ := (dottedQuad_iff _ [n, 0, 0, 0]).1 ⟨t, _, _, _, n, 0, 0, 0, h, h0, h0, h0, rfl, rfl⟩
  cases hv
  exact ⟨h.2.2.2.2.2, List.append_cancel_right (hs.trans (fmt4_quad ..))⟩

end UvModel.Inet
