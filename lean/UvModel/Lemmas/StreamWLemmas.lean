import UvModel.StreamW
/-!
  The invariant `WF` of the stream-write model (C05), the notions the statements of Props/C05 are
  written in (`pend`, `cbRec`, `initS`, `Inv`, `Cancelled`), and the preservation of `WF`.  Every
  operation is a composition of record updates of the state, so a preservation proof is the proof for
  the state before with the conjuncts that read an updated field replaced (`{ h with wqs_eq := … }`,
  `{ h with }` when none does); what user callbacks and the write loop do around an update is carried
  by the relation `Calls`.
-/
namespace UvModel.StreamW

@[simp] theorem bytes_zero (t o : Nat) : bytes t o 0 = [] := rfl

theorem bytes_split (t o k m : Nat) (h : k ≤ m) :
    bytes t o m = bytes t o k ++ bytes t (o + k) (m - k) := by
  obtain ⟨d, rfl⟩ := Nat.exists_eq_add_of_le h
  simp only [bytes, Nat.add_sub_cancel_left, List.range_add, List.map_append, List.map_map,
    Function.comp_def, Nat.add_assoc]

theorem updLoop_spec (l : List Nat) (n : Nat) (h : n ≤ l.sum) :
    (updLoop l n).1.length = l.length ∧ (updLoop l n).2 ≤ l.length ∧
    ((updLoop l n).1.drop (updLoop l n).2).sum + n = l.sum := by
  induction l generalizing n with
  | nil => exact ⟨rfl, Nat.le_refl _, (Nat.zero_add n).trans (Nat.le_zero.1 h)⟩
  | cons b rest ih =>
    rw [List.sum_cons] at h
    unfold updLoop
    simp only []
    by_cases hnb : n < b
    · rw [if_pos hnb, if_neg (by omega : ¬ b - n = 0)]
      simp only [List.length_cons, List.drop_zero, List.sum_cons, true_and]
      omega
    · rw [if_neg hnb, if_pos (Nat.sub_self b)]
      by_cases hpos : n - b > 0
      · have := ih (n - b) (by omega)
        rw [if_pos hpos]
        simp only [List.length_cons, List.drop_succ_cons, List.sum_cons]
        omega
      · rw [if_neg hpos]
        simp only [List.length_cons, List.drop_succ_cons, List.drop_zero, List.sum_cons, true_and]
        omega
theorem rem_mk (r : Req) : rem r = (r.bufs.drop r.widx).sum := rfl

theorem reqUpdate_spec (r : Req) (n : Nat) (hw : r.widx ≤ r.bufs.length) (hn : n ≤ rem r) :
    ∃ bufs widx, reqUpdate r n = ({ r with bufs := bufs, widx := widx }, widx == r.bufs.length) ∧
      bufs.length = r.bufs.length ∧ widx ≤ r.bufs.length ∧ (bufs.drop widx).sum + n = rem r := by
  obtain ⟨s1, s2, s3⟩ := updLoop_spec (r.bufs.drop r.widx) n hn
  rw [List.length_drop] at s1 s2
  refine ⟨_, _, rfl, ?_, ?_, ?_⟩
  · rw [List.length_append, List.length_take, s1]; omega
  · omega
  · rw [List.drop_append, List.length_take, Nat.min_eq_left hw,
      List.drop_eq_nil_of_le (by rw [List.length_take]; omega), List.nil_append, Nat.add_sub_cancel_left]
    exact s3

/-- `res` is what a syscall loop returns on `s` when offered `total` bytes `(tag, off) ..`:
    `res.1.toNat` of them went to the OS, which is none on an error return -/
def SysRes (s : S) (tag off total : Nat) (res : Int × S) : Prop :=
  (∃ env tr, res.2 = { s with env := env, os := s.os ++ bytes tag off res.1.toNat, trace := tr }) ∧
  res.1 ≤ total

theorem SysRes.mono {s : S} {tag off total total' : Nat} {res : Int × S}
    (h : SysRes s tag off total res) (hle : total ≤ total') : SysRes s tag off total' res :=
  ⟨h.1, Int.le_trans h.2 (Int.ofNat_le.2 hle)⟩

theorem sysLoop_spec (kind iovcnt total : Nat) (fd : Bool) (tag off : Nat) :
    ∀ (env : List Outcome) (s : S), SysRes s tag off total (sysLoop kind iovcnt total fd tag off env s)
  | [], s => by unfold sysLoop; exact ⟨⟨_, _, rfl⟩, Int.le_refl _⟩
  | .ok k :: env, s => by
    unfold sysLoop
    have : (min (k : Int) total).toNat = min k total := by omega
    exact ⟨⟨env, _, by rw [this]; rfl⟩, Int.min_le_right _ _⟩
  | .fail e :: env, s => by
    unfold sysLoop
    by_cases he : e = EINTR
    · rw [if_pos he]
      exact sysLoop_spec kind iovcnt total fd tag off env (emit s (.sys kind iovcnt total (-(e : Int)) fd))
    · rw [if_neg he]
      have : (-(e : Int)).toNat = 0 := by omega
      exact ⟨⟨env, _, by rw [this, bytes_zero, List.append_nil]; rfl⟩, by omega⟩

/-- the errno mapping at the end of uv__try_write keeps an error an error -/
theorem SysRes.post {s : S} {tag off total : Nat} {res : Int × S} (h : SysRes s tag off total res) :
    SysRes s tag off total (if res.1 ≥ 0 then res
      else if res.1 = -(EAGAIN : Int) ∨ res.1 = -(ENOBUFS : Int) then (UV_EAGAIN, res.2) else res) := by
  split
  · exact h
  · split
    · obtain ⟨⟨env, tr, e⟩, _⟩ := h
      have : res.1.toNat = 0 := by omega
      rw [this] at e
      exact ⟨⟨env, tr, e⟩, by simp only [UV_EAGAIN]; omega⟩
    · exact h

theorem sum_take_le (l : List Nat) (n : Nat) : (l.take n).sum ≤ l.sum := by
  conv => rhs; rw [← List.take_append_drop n l]
  rw [List.sum_append]; omega

theorem tryWriteOnce_spec (s : S) (lens : List Nat) (send : Bool) (tag off : Nat) :
    SysRes s tag off lens.sum (tryWriteOnce s lens send tag off) :=
  ((sysLoop_spec _ _ _ send tag off s.env s).mono (sum_take_le lens _)).post

/-- bytes still to be sent by the requests of the write queue, in order -/
def pend : List Req → List (Nat × Nat)
  | [] => []
  | r :: l => bytes r.id r.sent (rem r) ++ pend l

@[simp] theorem pend_nil : pend [] = [] := rfl
@[simp] theorem pend_cons (r : Req) (l : List Req) : pend (r :: l) = bytes r.id r.sent (rem r) ++ pend l := rfl
theorem pend_append (a b : List Req) : pend (a ++ b) = pend a ++ pend b := by
  induction a with
  | nil => rfl
  | cons r l ih => simp [ih]

@[simp] theorem unsent_nil : unsent [] = 0 := rfl
@[simp] theorem unsent_cons (r : Req) (l : List Req) : unsent (r :: l) = rem r + unsent l := by
  simp [unsent]
@[simp] theorem unsent_append (a b : List Req) : unsent (a ++ b) = unsent a + unsent b := by
  simp [unsent]

theorem pend_of_unsent_zero (l : List Req) (h : unsent l = 0) : pend l = [] := by
  induction l with
  | nil => rfl
  | cons r l ih =>
    rw [unsent_cons] at h
    rw [pend_cons, ih (by omega), (by omega : rem r = 0)]
    rfl

/-- `wqs_eq` … `acc_lt`: the three queues (`pq ++ cq ++ wq` are the requests still owed a callback, in
    submission order; those in `wq` are untouched by errors, those in `pq ++ cq` finished or failed);
    `closing_ok` … `req_ok`, `closed_ok`: what the flags exclude; `os_ok`: the OS stream against what was
    submitted; `cbs_ok`: status 0 only when fully sent; `mon_ok`: the four ghost monitors never fired -/
structure WF (s : S) : Prop where
  wqs_eq : s.wqs = ((unsent (s.pq ++ s.cq ++ s.wq) : Nat) : Int)
  wq_ok : ∀ r ∈ s.wq, r.widx ≤ r.bufs.length ∧ r.error = 0 ∧ r.freed = false ∧ (r.send = true → r.nok = 0)
  sent_ok : ∀ r ∈ s.pq ++ s.cq ++ s.wq, r.sent + rem r = r.total
  done_ok : ∀ r ∈ s.pq ++ s.cq, (r.freed = true → rem r = 0) ∧ (r.error = 0 → r.freed = true)
  acc_eq : s.accepted = s.cbs.map (·.id) ++ (s.pq ++ s.cq ++ s.wq).map (·.id)
  acc_lt : s.accepted.Pairwise (· < ·) ∧ ∀ i ∈ s.accepted, i < s.nextId
  closing_ok : s.closing = true →
    s.fdOpen = false ∧ s.pending = false ∧ s.pollout = false ∧ s.writable = false
  shut_ok : s.shut = true → s.osAtShut = some s.os ∧ s.wq = [] ∧ s.writable = false
  called_ok : s.shutdownCalled = true → s.writable = false
  req_ok : s.shutdownReq = true → s.writable = false
  os_ok : s.hardErr = true ∨
    ∃ rest, s.submitted = s.os ++ rest ∧ (s.closing = false → rest = pend s.wq)
  cbs_ok : ∀ c ∈ s.cbs, c.status = 0 → c.sent = c.total
  mon_ok : s.obsBad = false ∧ s.shutCbEarly = [] ∧ s.shutSysPending = [] ∧ ∀ p ∈ s.fdSent, p.2 = 0
  closed_ok : s.closed = true → s.closing = true ∧ s.wq = [] ∧ s.cq = []

/-- what `S.cbs` records of a write callback -/
def cbRec (r : Req) : CbRec := ⟨r.id, r.error, r.sent, r.total⟩

/-- the invariant between loop-level operations: `pq` is empty outside uv__write_callbacks -/
def Inv (s : S) : Prop := WF s ∧ s.pq = []

/-- what the endgame makes of a closing stream `s`: every request still owed has been called back,
    those of the write queue with UV_ECANCELED -/
def Cancelled (s s' : S) : Prop :=
  Inv s' ∧ s'.closed = true ∧ s'.wq = [] ∧ s'.cq = [] ∧
  s'.cbs = s.cbs ++ (s.cq ++ s.wq.map (fun r : Req => { r with error := UV_ECANCELED })).map cbRec

/-- initial states: a freshly opened stream (any configuration, any scripted environment) -/
def initS (ipc : Bool) (shutErr connErr : Int) (connecting pollout pending : Bool)
    (env : List Outcome) : S :=
  { ipc := ipc, shutErr := shutErr, connErr := connErr, connecting := connecting,
    pollout := pollout, pending := pending, env := env }

theorem rem_freed (r : Req) (b : Bool) : rem { r with freed := b } = rem r := rfl
theorem rem_error (r : Req) (e : Int) : rem { r with error := e } = rem r := rfl

theorem Bool.false_true_elim {b : Bool} {p : Prop} (hb : b = false) (h : b = true) : p :=
  nomatch hb.symm.trans h

/-- `mon_ok` after a syscall that may have carried the descriptor, as the `n + 1`-st of its request -/
theorem mon_ok_send {obsBad : Bool} {early pending : List Nat} {fdSent : List (Nat × Nat)}
    (h : obsBad = false ∧ early = [] ∧ pending = [] ∧ ∀ p ∈ fdSent, p.2 = 0) (c : Prop) [Decidable c]
    (i n : Nat) (hn : c → n = 0) :
    obsBad = false ∧ early = [] ∧ pending = [] ∧ ∀ p ∈ (if c then (i, n) :: fdSent else fdSent), p.2 = 0 :=
  ⟨h.1, h.2.1, h.2.2.1, by
    split
    · exact List.forall_mem_cons.2 ⟨hn ‹_›, h.2.2.2⟩
    · exact h.2.2.2⟩

theorem WF.closed_false {s : S} (h : WF s) (hc : s.closing = false) : s.closed = false :=
  Bool.eq_false_iff.2 fun hx => Bool.false_true_elim hc (h.closed_ok hx).1

/-- what neither the write loop nor an API call ever changes -/
structure Frame (s s' : S) : Prop where
  pq : s'.pq = s.pq
  cbs : s'.cbs = s.cbs
  connErr : s'.connErr = s.connErr
  closed : s'.closed = s.closed
  hard : s.hardErr = true → s'.hardErr = true

theorem Frame.refl (s : S) : Frame s s := ⟨rfl, rfl, rfl, rfl, id⟩
theorem Frame.trans {a b c : S} (h1 : Frame a b) (h2 : Frame b c) : Frame a c :=
  ⟨h2.pq.trans h1.pq, h2.cbs.trans h1.cbs, h2.connErr.trans h1.connErr, h2.closed.trans h1.closed,
   fun h => h2.hard (h1.hard h)⟩

/-- a closing stream keeps its queues -/
def ClFrame (s s' : S) : Prop :=
  s.closing = true → s'.closing = true ∧ s'.cq = s.cq ∧ s'.wq = s.wq

theorem ClFrame.refl (s : S) : ClFrame s s := fun hc => ⟨hc, rfl, rfl⟩
theorem ClFrame.trans {a b c : S} (h1 : ClFrame a b) (h2 : ClFrame b c) : ClFrame a c := fun ha =>
  have ⟨b1, b2, b3⟩ := h1 ha
  have ⟨c1, c2, c3⟩ := h2 b1
  ⟨c1, c2.trans b2, c3.trans b3⟩

/-- `s'` is a well-formed state reached from `s` by the write loop and by API calls -/
structure Calls (s s' : S) : Prop extends Frame s s' where
  wf : WF s'
  closing : ClFrame s s'

theorem Calls.refl {s : S} (h : WF s) : Calls s s := ⟨.refl s, h, .refl s⟩
theorem Calls.trans {a b c : S} (h1 : Calls a b) (h2 : Calls b c) : Calls a c :=
  ⟨h1.toFrame.trans h2.toFrame, h2.wf, h1.closing.trans h2.closing⟩
theorem Calls.of_open {s s' : S} (hc : s.closing = false) (f : Frame s s') (h : WF s') : Calls s s' :=
  ⟨f, h, Bool.false_true_elim hc⟩

theorem writeIter_calls (s : S) (r : Req) (rest : List Req) (h : WF s) (hq : s.wq = r :: rest)
    (hc : s.closing = false) :
    Calls s (writeIter s r rest).1 ∧ (writeIter s r rest).1.closing = false := by
  obtain ⟨⟨env, tr, e⟩, hle⟩ := tryWriteOnce_spec s (r.bufs.drop r.widx) r.send r.id r.sent
  have hcd := h.closed_false hc
  have hsh : s.shut = false := Bool.eq_false_iff.2 fun hx =>
    List.cons_ne_nil r rest (hq ▸ (h.shut_ok hx).2.1)
  obtain ⟨hr, hwq⟩ := List.forall_mem_cons.1 (hq ▸ h.wq_ok)
  have hwqs := h.wqs_eq
  have hsent := h.sent_ok
  have hacc := h.acc_eq
  have hdone := List.forall_mem_append.1 h.done_ok
  rw [hq] at hwqs hsent hacc
  simp only [unsent_append, unsent_cons] at hwqs
  simp only [List.forall_mem_append, List.forall_mem_cons] at hsent
  unfold writeIter
  generalize tryWriteOnce s (r.bufs.drop r.widx) r.send r.id r.sent = res at e hle
  obtain ⟨n, s1⟩ := res
  simp only [] at e hle
  subst e
  simp only []
  have hmon := mon_ok_send h.mon_ok _ r.id r.nok hr.2.2.2
  -- `split` is slow on goals that carry the whole state record several times, `rw [if_pos _]` is not
  by_cases hn : n ≥ 0
  · rw [if_pos hn]
    obtain ⟨k, rfl⟩ := Int.eq_ofNat_of_zero_le hn
    have hk : k ≤ rem r := Int.ofNat_le.1 hle
    simp only [Int.toNat_natCast]
    obtain ⟨b, w, eu, hb, hw, hrem⟩ := reqUpdate_spec
      { r with send := false, sent := r.sent + k, nok := r.nok + 1 } k hr.1 hk
    change _ = rem r at hrem
    simp only [] at hb hw
    rw [eu]
    simp only [beq_iff_eq]
    have hos : s.hardErr = true ∨ s.submitted =
        (s.os ++ bytes r.id r.sent k) ++ (bytes r.id (r.sent + k) (b.drop w).sum ++ pend rest) :=
      h.os_ok.imp_right fun ⟨_, e1, e2⟩ => by
        rw [e1, e2 hc, hq, pend_cons, bytes_split r.id r.sent k (rem r) hk, ← hrem, Nat.add_sub_cancel,
          List.append_assoc, List.append_assoc]
    have hsu : r.sent + k + (b.drop w).sum = r.total := by
      have := hsent.2.1
      omega
    by_cases hd : w = r.bufs.length
    · rw [if_pos hd]
      have hz : (b.drop w).sum = 0 := by rw [hd, ← hb, List.drop_length]; rfl
      refine ⟨.of_open hc ⟨rfl, rfl, rfl, rfl, id⟩ ?_, hc⟩
      exact { h with
        wqs_eq := by
          simp only [finish, unsent_append, unsent_cons, unsent_nil, rem_mk, hz]
          omega
        wq_ok := hwq
        sent_ok := by
          simp only [finish, List.forall_mem_append, List.forall_mem_singleton]
          exact ⟨⟨hsent.1.1, hsent.1.2, hsu⟩, hsent.2.2⟩
        done_ok := by
          simp only [finish, List.forall_mem_append, List.forall_mem_singleton]
          exact ⟨hdone.1, hdone.2, fun _ => hz, fun _ => trivial⟩
        acc_eq := by
          simp only [hacc, finish, List.map_append, List.map_cons, List.map_nil, List.append_assoc]
          rfl
        closing_ok := Bool.false_true_elim hc
        shut_ok := Bool.false_true_elim hsh
        os_ok := hos.imp_right fun e => ⟨_, e, fun _ => by rw [hz]; rfl⟩
        mon_ok := hmon
        closed_ok := Bool.false_true_elim hcd }
    · rw [if_neg hd]
      refine ⟨.of_open hc ⟨rfl, rfl, rfl, rfl, id⟩ ?_, hc⟩
      exact { h with
        wqs_eq := by
          simp only [unsent_append, unsent_cons, rem_mk]
          omega
        wq_ok := List.forall_mem_cons.2
          ⟨⟨(hb ▸ hw : w ≤ b.length), hr.2.1, hr.2.2.1, fun hs => nomatch hs⟩, hwq⟩
        sent_ok := by
          simp only [List.forall_mem_append, List.forall_mem_cons]
          exact ⟨hsent.1, hsu, hsent.2.2⟩
        acc_eq := by simp only [hacc, List.map_append, List.map_cons]
        closing_ok := Bool.false_true_elim hc
        shut_ok := Bool.false_true_elim hsh
        os_ok := hos.imp_right fun e => ⟨_, e, fun _ => rfl⟩
        mon_ok := hmon
        closed_ok := Bool.false_true_elim hcd }
  · rw [if_neg hn]
    have hz : n.toNat = 0 := by omega
    simp only [hz, bytes_zero, List.append_nil]
    by_cases hag : n = UV_EAGAIN
    · rw [if_pos hag]
      exact ⟨.of_open hc ⟨rfl, rfl, rfl, rfl, id⟩ { h with closing_ok := Bool.false_true_elim hc }, hc⟩
    · rw [if_neg hag]
      refine ⟨.of_open hc ⟨rfl, rfl, rfl, rfl, fun _ => rfl⟩ ?_, hc⟩
      exact { h with
        wqs_eq := by
          simp only [hwqs, finish, unsent_append, unsent_cons, unsent_nil, rem_error, Nat.add_zero, Nat.add_assoc]
        wq_ok := hwq
        sent_ok := by
          simp only [finish, List.forall_mem_append, List.forall_mem_singleton]
          exact ⟨⟨hsent.1.1, hsent.1.2, hsent.2.1⟩, hsent.2.2⟩
        done_ok := by
          simp only [finish, List.forall_mem_append, List.forall_mem_singleton]
          exact ⟨hdone.1, hdone.2, Bool.false_true_elim hr.2.2.1, fun he => absurd (Int.le_of_eq he.symm) hn⟩
        acc_eq := by
          simp only [hacc, finish, List.map_append, List.map_cons, List.map_nil, List.append_assoc]
          rfl
        closing_ok := Bool.false_true_elim hc
        shut_ok := Bool.false_true_elim hsh
        os_ok := Or.inl rfl
        closed_ok := Bool.false_true_elim hcd }

theorem writeLoop_calls (c : Nat) (s : S) (h : WF s) (hc : s.closing = false) :
    Calls s (writeLoop c s) ∧ (writeLoop c s).closing = false := by
  induction c generalizing s with
  | zero =>
    unfold writeLoop
    split
    · exact ⟨.refl h, hc⟩
    · have := writeIter_calls s _ _ h ‹_› hc
      simp only []
      split <;> exact this
  | succ c ih =>
    unfold writeLoop
    split
    · exact ⟨.refl h, hc⟩
    · obtain ⟨w1, w2⟩ := writeIter_calls s _ _ h ‹_› hc
      simp only []
      split
      · exact ⟨w1.trans (ih _ w1.wf w2).1, (ih _ w1.wf w2).2⟩
      · exact ⟨w1, w2⟩

theorem Calls.bump {s : S} (h : WF s) : Calls s { s with nextId := s.nextId + 1 } :=
  ⟨⟨rfl, rfl, rfl, rfl, id⟩,
    { h with acc_lt := ⟨h.acc_lt.1, fun i hi => Nat.lt_succ_of_lt (h.acc_lt.2 i hi)⟩ },
    .refl s⟩

theorem fdOpen_writable_of_check (s : S) (send : Bool) (h : ¬ checkBeforeWrite s send < 0) :
    s.fdOpen = true ∧ s.writable = true := by
  cases hf : s.fdOpen <;> cases hw : s.writable <;>
    simp [checkBeforeWrite, hf, hw, UV_EBADF, UV_EPIPE] at h ⊢

theorem WF.open_of_check {s : S} (h : WF s) {send : Bool} (hchk : ¬ checkBeforeWrite s send < 0) :
    s.closing = false ∧ s.shut = false :=
  have ⟨hf, hw⟩ := fdOpen_writable_of_check s send hchk
  ⟨Bool.eq_false_iff.2 fun hx => Bool.false_true_elim (h.closing_ok hx).1 hf,
   Bool.eq_false_iff.2 fun hx => Bool.false_true_elim (h.shut_ok hx).2.2 hw⟩

theorem write2_calls (s : S) (bufs : List Nat) (send nomem : Bool) (h : WF s) :
    Calls s (write2 s bufs send nomem).1 := by
  unfold write2
  simp only []
  by_cases hchk : checkBeforeWrite { s with nextId := s.nextId + 1 } send < 0
  · rw [if_pos hchk]; exact .bump h
  rw [if_neg hchk]
  by_cases hnm : nomem = true ∧ bufs.length > BUFSML
  · rw [if_pos hnm]; exact .bump h
  rw [if_neg hnm]
  obtain ⟨hc, hs⟩ := h.open_of_check hchk
  have hsent := List.forall_mem_append.1 h.sent_ok
  have w2 : Calls s { s with
      nextId := s.nextId + 1, wqs := s.wqs + totalOf bufs,
      wq := s.wq ++ [{ id := s.nextId, bufs := bufs, send := send, total := totalOf bufs }],
      accepted := s.accepted ++ [s.nextId],
      submitted := s.submitted ++ bytes s.nextId 0 (totalOf bufs) } :=
    .of_open hc ⟨rfl, rfl, rfl, rfl, id⟩ { h with
      wqs_eq := by
        have := h.wqs_eq
        simp only [unsent_append, unsent_cons, unsent_nil, rem_mk, List.drop_zero, totalOf] at this ⊢
        omega
      wq_ok := List.forall_mem_append.2
        ⟨h.wq_ok, List.forall_mem_singleton.2 ⟨Nat.zero_le _, rfl, rfl, fun _ => rfl⟩⟩
      sent_ok := List.forall_mem_append.2 ⟨hsent.1, List.forall_mem_append.2
        ⟨hsent.2, List.forall_mem_singleton.2 (Nat.zero_add _)⟩⟩
      acc_eq := by
        simp only [h.acc_eq, List.map_append, List.map_cons, List.map_nil, List.append_assoc]
      acc_lt := ⟨List.pairwise_append.2 ⟨h.acc_lt.1, List.pairwise_singleton _ _,
          fun a ha b hb => List.mem_singleton.1 hb ▸ h.acc_lt.2 a ha⟩,
        List.forall_mem_append.2 ⟨fun i hi => Nat.lt_succ_of_lt (h.acc_lt.2 i hi),
          List.forall_mem_singleton.2 (Nat.lt_succ_self _)⟩⟩
      shut_ok := Bool.false_true_elim hs
      os_ok := h.os_ok.imp_right fun ⟨rest, e1, e2⟩ =>
        ⟨rest ++ bytes s.nextId 0 (totalOf bufs), by simp only [e1, List.append_assoc], fun _ => by
          simp only [e2 hc, pend_append, pend_cons, pend_nil, List.append_nil, rem_mk, List.drop_zero]; rfl⟩
      closed_ok := Bool.false_true_elim (h.closed_false hc) }
  by_cases hcn : s.connecting = true
  · rw [if_pos hcn]; exact w2
  rw [if_neg hcn]
  by_cases hz : (s.wqs == 0) = true
  · rw [if_pos hz]; exact w2.trans (writeLoop_calls 32 _ w2.wf hc).1
  · rw [if_neg hz]; exact .of_open hc ⟨rfl, rfl, rfl, rfl, id⟩ { w2.wf with closing_ok := Bool.false_true_elim hc }

theorem tryWrite2_calls (s : S) (bufs : List Nat) (send : Bool) (h : WF s) :
    Calls s (tryWrite2 s bufs send).1 := by
  have hb := (Calls.bump h).wf
  unfold tryWrite2
  simp only []
  by_cases hcond : s.connecting = true ∨ s.wqs ≠ 0
  · rw [if_pos hcond]; exact .bump h
  · rw [if_neg hcond]
    by_cases hchk : checkBeforeWrite { s with nextId := s.nextId + 1 } send < 0
    · rw [if_pos hchk]; exact .bump h
    rw [if_neg hchk]
    obtain ⟨hc, hs⟩ := h.open_of_check hchk
    have hz : s.wqs = 0 := Decidable.of_not_not fun hne => hcond (Or.inr hne)
    have hpend : pend s.wq = [] := pend_of_unsent_zero _ (by
      have := h.wqs_eq
      simp only [unsent_append] at this
      omega)
    obtain ⟨⟨env, tr, e⟩, -⟩ :=
      tryWriteOnce_spec { s with nextId := s.nextId + 1 } bufs send s.nextId 0
    generalize tryWriteOnce _ bufs send s.nextId 0 = res at e
    obtain ⟨n, s1⟩ := res
    simp only [] at e
    subst e
    simp only []
    by_cases hn : n ≥ 0
    · rw [if_pos hn]
      exact .of_open hc ⟨rfl, rfl, rfl, rfl, id⟩ { hb with
        shut_ok := Bool.false_true_elim hs
        os_ok := h.os_ok.imp_right fun ⟨rest, e1, e2⟩ =>
          ⟨[], by simp only [e1, e2 hc, hpend, List.append_nil], fun _ => hpend.symm⟩
        mon_ok := mon_ok_send h.mon_ok _ _ 0 fun _ => rfl }
    · have : n.toNat = 0 := by omega
      rw [if_neg hn]
      simp only [this, bytes_zero, List.append_nil]
      split
      · exact .of_open hc ⟨rfl, rfl, rfl, rfl, id⟩ { hb with }
      · exact .of_open hc ⟨rfl, rfl, rfl, rfl, fun _ => rfl⟩ { hb with os_ok := Or.inl rfl }

theorem shutdownOp_calls (s : S) (h : WF s) : Calls s (shutdownOp s).1 := by
  unfold shutdownOp
  split
  · exact .refl h
  · rename_i hcond
    have hc : s.closing = false := Bool.eq_false_iff.2 fun hx => hcond (.inr (.inr (.inr hx)))
    have hs : s.shut = false := Bool.eq_false_iff.2 fun hx => hcond (.inr (.inl hx))
    exact .of_open hc ⟨rfl, rfl, rfl, rfl, id⟩ { h with
      closing_ok := Bool.false_true_elim hc
      shut_ok := Bool.false_true_elim hs
      called_ok := fun _ => rfl
      req_ok := fun _ => rfl }

theorem closeOp_calls (s : S) (h : WF s) : Calls s (closeOp s).1 := by
  unfold closeOp
  split
  · exact .refl h
  · rename_i hcond
    have hc : s.closing = false := Bool.eq_false_iff.2 hcond
    exact .of_open hc ⟨rfl, rfl, rfl, rfl, id⟩ { h with
      closing_ok := fun _ => ⟨rfl, rfl, rfl, rfl⟩
      shut_ok := fun hh => ⟨(h.shut_ok hh).1, (h.shut_ok hh).2.1, rfl⟩
      called_ok := fun _ => rfl
      req_ok := fun _ => rfl
      os_ok := h.os_ok.imp_right fun ⟨rest, e1, _⟩ => ⟨rest, e1, fun hx => nomatch hx⟩
      closed_ok := Bool.false_true_elim (h.closed_false hc) }

/-- the tail of `apiOp` as a function of what the call returned (`apiOp s o` unfolds to `observe` of
    that): the return code is logged and `write_queue_size` observed -/
def observe (r : S × Int) : S :=
  let s := emit r.1 (.ret r.2)
  let u := unsent (s.pq ++ s.cq ++ s.wq)
  emit { s with obsBad := s.obsBad || (s.wqs != (u : Int)) } (.obs s.wqs u)

theorem observe_calls {s : S} (r : S × Int) (hr : Calls s r.1) : Calls s (observe r) := by
  simp only [observe, emit]
  exact hr.trans ⟨⟨rfl, rfl, rfl, rfl, id⟩,
    { hr.wf with
      mon_ok := ⟨by simp only [hr.wf.mon_ok.1, hr.wf.wqs_eq, bne_self_eq_false, Bool.or_false],
        hr.wf.mon_ok.2⟩ },
    .refl r.1⟩

theorem apiOp_calls (s : S) (o : Op) (h : WF s) : Calls s (apiOp s o) := by
  cases o with
  | write bufs send => exact observe_calls _ (write2_calls s bufs send false h)
  | writeNoMem bufs send => exact observe_calls _ (write2_calls s bufs send true h)
  | tryWrite bufs send => exact observe_calls _ (tryWrite2_calls s bufs send h)
  | shutdown => exact observe_calls _ (shutdownOp_calls s h)
  | close => exact observe_calls _ (closeOp_calls s h)

theorem fold_api_calls (ops : List Op) (s : S) (h : WF s) : Calls s (ops.foldl apiOp s) := by
  induction ops generalizing s with
  | nil => exact .refl h
  | cons o ops ih => exact (apiOp_calls s o h).trans (ih _ (apiOp_calls s o h).wf)

/-- a user callback after a step `s0 → s` that API calls could have made as well -/
theorem userCb_after {s0 s : S} (sc : Script) (h : Calls s0 s) : Calls s0 (userCb sc s) :=
  -- `b` starts from `{ s with ncb := … }`; neither `Frame` nor `ClFrame` reads `ncb`
  have b := fold_api_calls (sc s.ncb) { s with ncb := s.ncb + 1 } { h.wf with }
  h.trans ⟨⟨b.pq, b.cbs, b.connErr, b.closed, b.hard⟩, b.wf, b.closing⟩

theorem userCb_calls (sc : Script) (s : S) (e : Ev) (h : WF s) : Calls s (userCb sc (emit s e)) :=
  userCb_after sc ⟨⟨rfl, rfl, rfl, rfl, id⟩, { h with }, .refl s⟩

/-- `s'` is `s` after the write callbacks of `done`, with `pq'` still to be called -/
structure AfterCbs (s s' : S) (done pq' : List Req) : Prop where
  wf : WF s'
  pq : s'.pq = pq'
  cbs : s'.cbs = s.cbs ++ done.map cbRec
  closing : ClFrame s s'

theorem cbOne_cbs (sc : Script) (s : S) (r : Req) (rest : List Req) (h : WF s) (hp : s.pq = r :: rest) :
    AfterCbs s (cbOne sc r { s with pq := rest }) [r] rest := by
  have hwqs := h.wqs_eq
  have hsent := h.sent_ok
  have hdone := h.done_ok
  have hacc := h.acc_eq
  rw [hp] at hwqs hsent hdone hacc
  simp only [List.cons_append, List.forall_mem_cons, unsent_cons] at hwqs hsent hdone
  have b := userCb_calls sc { s with
      pq := rest, wqs := if !r.freed then s.wqs - rem r else s.wqs,
      cbs := s.cbs ++ [cbRec r] } (.cb r.id r.error)
    { h with
      wqs_eq := by
        cases hf : r.freed
        · simp only [Bool.not_false, if_true]; omega
        · have := hdone.1.1 hf
          simp only [Bool.not_true, Bool.false_eq_true, if_false]; omega
      sent_ok := hsent.2
      done_ok := hdone.2
      acc_eq := by simp only [hacc, List.map_append, List.map_cons, List.map_nil, List.append_assoc,
        List.cons_append, List.nil_append]; rfl
      cbs_ok := List.forall_mem_append.2 ⟨h.cbs_ok, List.forall_mem_singleton.2 fun he => by
        have := hdone.1.1 (hdone.1.2 he)
        have := hsent.1
        show r.sent = r.total
        omega⟩ }
  exact ⟨b.wf, b.pq, b.cbs, b.closing⟩

theorem cbLoop_cbs (sc : Script) (l : List Req) (s : S) (h : WF s) (hp : s.pq = l) :
    AfterCbs s (cbLoop sc l s) l [] := by
  induction l generalizing s with
  | nil => exact ⟨h, hp, (List.append_nil _).symm, .refl s⟩
  | cons r rest ih =>
    have a := cbOne_cbs sc s r rest h hp
    have b := ih _ a.wf a.pq
    unfold cbLoop
    exact ⟨b.wf, b.pq, by rw [b.cbs, a.cbs, List.append_assoc]; rfl, a.closing.trans b.closing⟩

/-- uv__write_callbacks begins by moving the completed queue to `pq` -/
theorem writeCallbacks_cbs (sc : Script) (s : S) (h : WF s) (hp : s.pq = []) :
    AfterCbs { s with pq := s.cq, cq := [] } (writeCallbacks sc s) s.cq [] := by
  unfold writeCallbacks
  split
  · rename_i he
    have hcq := List.isEmpty_iff.1 he
    exact ⟨h, hp, by rw [hcq]; exact (List.append_nil _).symm, fun hc => ⟨hc, hcq, rfl⟩⟩
  · rename_i he
    have hwqs := h.wqs_eq
    have hsent := h.sent_ok
    have hdone := h.done_ok
    have hacc := h.acc_eq
    rw [hp] at hwqs hsent hdone hacc
    exact cbLoop_cbs sc s.cq { s with pq := s.cq, cq := [] }
      { h with
        wqs_eq := by rw [hwqs, List.append_nil]; rfl
        sent_ok := by rw [List.append_nil]; exact hsent
        done_ok := by rw [List.append_nil]; exact hdone
        acc_eq := by rw [hacc, List.append_nil]; rfl
        closed_ok := fun hh => absurd (List.isEmpty_iff.2 (h.closed_ok hh).2.2) he } rfl

theorem drain_calls (sc : Script) (s : S) (h : WF s) (hp : s.pq = []) (hcq : s.cq = []) (hwq : s.wq = []) :
    Calls s (drain sc s) := by
  have hids : (s.pq ++ s.cq ++ s.wq).map (·.id) = [] := by rw [hp, hcq, hwq]; rfl
  have hwi : s.wq.map (·.id) = [] := by rw [hwq]; rfl
  have c1 : Calls s { s with pollout := if !s.closing then false else s.pollout } :=
    ⟨⟨rfl, rfl, rfl, rfl, id⟩,
      { h with
        closing_ok := fun hc => by
          have := h.closing_ok hc
          simp only [show s.closing = true from hc]
          exact this },
      .refl s⟩
  unfold drain
  -- with `emit` folded, every field of an update of `emit s e` would repeat `s`
  simp only [emit]
  by_cases hreq : (!s.shutdownReq) = true
  · rw [if_pos hreq]; exact c1
  rw [if_neg hreq]
  have hwr : s.writable = false := h.req_ok (by simpa using hreq)
  by_cases hcond : s.closing = true ∨ (!s.shut) = true
  · rw [if_pos hcond]
    by_cases hcl : s.closing = true
    · rw [if_pos hcl]
      exact userCb_after sc ⟨⟨rfl, rfl, rfl, rfl, id⟩,
        { c1.wf with
          req_ok := fun hh => nomatch hh
          mon_ok := ⟨h.mon_ok.1, hids, h.mon_ok.2.2⟩ },
        .refl s⟩
    · rw [if_neg hcl]
      have hcl : s.closing = false := Bool.eq_false_iff.2 hcl
      have hsh : s.shut = false := by simpa [hcl] using hcond
      exact userCb_after sc (.of_open hcl ⟨rfl, rfl, rfl, rfl, id⟩
        { c1.wf with
          shut_ok := fun hh =>
            if he : s.shutErr = 0 then ⟨if_pos he, hwq, hwr⟩
            else Bool.false_true_elim hsh ((if_neg he).symm.trans hh)
          req_ok := fun hh => nomatch hh
          mon_ok := ⟨h.mon_ok.1, hids, hwi, h.mon_ok.2.2.2⟩ })
  · rw [if_neg hcond]; exact c1

theorem unsent_cancel (l : List Req) :
    unsent (l.map fun r => { r with error := UV_ECANCELED }) = unsent l := by
  induction l with
  | nil => rfl
  | cons r l ih => rw [List.map_cons, unsent_cons, unsent_cons, ih, rem_error]

theorem flush_wf (s : S) (h : WF s) (hx : s.closing = true ∨ s.hardErr = true) : WF (flush s) := by
  have hsent := h.sent_ok
  have hdone := h.done_ok
  simp only [List.forall_mem_append] at hsent hdone
  exact { h with
    wqs_eq := by
      have := h.wqs_eq
      simp only [flush, unsent_append, unsent_nil, unsent_cancel] at this ⊢
      omega
    wq_ok := fun x hx => nomatch hx
    sent_ok := by
      simp only [flush, List.forall_mem_append, List.forall_mem_map, List.append_nil]
      exact ⟨hsent.1.1, hsent.1.2, hsent.2⟩
    done_ok := by
      simp only [flush, List.forall_mem_append, List.forall_mem_map]
      exact ⟨hdone.1, hdone.2, fun y hy => ⟨Bool.false_true_elim (h.wq_ok y hy).2.2.1, fun he => nomatch he⟩⟩
    acc_eq := by
      simp only [h.acc_eq, flush, List.map_append, List.map_map, List.append_nil, List.append_assoc]
      rfl
    shut_ok := fun hh => ⟨(h.shut_ok hh).1, rfl, (h.shut_ok hh).2.2⟩
    os_ok := hx.elim
      (fun hc => h.os_ok.imp_right fun ⟨rest, e, _⟩ => ⟨rest, e, fun hcf => Bool.false_true_elim hcf hc⟩) .inl
    closed_ok := fun hh =>
      have ⟨a, b, c⟩ := h.closed_ok hh
      ⟨a, rfl, by simp only [flush, b, c]; rfl⟩ }

theorem streamConnect_inv (sc : Script) (s : S) (h : WF s) (hp : s.pq = []) (hc : s.closing = false) :
    Inv (streamConnect sc s) := by
  have b := userCb_calls sc { s with
      connecting := false,
      pollout := if s.connErr < 0 ∨ (s.wq.isEmpty ∧ !s.shutdownReq) then false else s.pollout,
      hardErr := if s.connErr < 0 then true else s.hardErr } (.conncb s.connErr)
    { h with
      closing_ok := Bool.false_true_elim hc
      os_ok := h.os_ok.imp_left fun hh => by
        show (if _ then _ else _) = _
        split
        · rfl
        · exact hh }
  unfold streamConnect
  simp only []
  generalize userCb sc _ = s2 at b
  have hp2 : s2.pq = [] := b.pq.trans hp
  split
  · exact ⟨b.wf, hp2⟩
  · split
    · rename_i hneg
      have hh : s2.hardErr = true := b.hard (if_pos (b.connErr ▸ hneg))
      have c := writeCallbacks_cbs sc _ (flush_wf s2 b.wf (.inr hh)) hp2
      exact ⟨c.wf, c.pq⟩
    · exact ⟨b.wf, hp2⟩

theorem streamIo_inv (sc : Script) (s : S) (h : WF s) (hp : s.pq = []) (hc : s.closing = false) :
    Inv (streamIo sc s) := by
  unfold streamIo
  split
  · exact streamConnect_inv sc s h hp hc
  · have a := (writeLoop_calls 32 s h hc).1
    have b := writeCallbacks_cbs sc _ a.wf (a.pq.trans hp)
    simp only []
    split
    · rename_i hcond
      have d := drain_calls sc _ b.wf b.pq (List.isEmpty_iff.1 hcond.2) (List.isEmpty_iff.1 hcond.1)
      exact ⟨d.wf, d.pq.trans b.pq⟩
    · exact ⟨b.wf, b.pq⟩

/-- `destroy` once the connect request, if any, has been cancelled -/
def destroyTail (sc : Script) (s : S) : S :=
  userCb sc (emit { drain sc (writeCallbacks sc (flush s)) with closed := true } .closecb)

theorem destroyTail_cancelled (sc : Script) (s : S) (h : WF s) (hp : s.pq = []) (hc : s.closing = true) :
    Cancelled s (destroyTail sc s) := by
  have g := writeCallbacks_cbs sc _ (flush_wf s h (.inl hc)) hp
  obtain ⟨k1, k2, k3⟩ := g.closing hc
  have d := drain_calls sc _ g.wf g.pq k2 k3
  obtain ⟨m1, m2, m3⟩ := d.closing k1
  have b := userCb_calls sc { drain sc (writeCallbacks sc (flush s)) with closed := true } .closecb
    { d.wf with closed_ok := fun _ => ⟨m1, m3.trans k3, m2.trans k2⟩ }
  obtain ⟨c1, c2, c3⟩ := b.closing m1
  exact ⟨⟨b.wf, b.pq.trans (d.pq.trans g.pq)⟩, b.closed, c3.trans (m3.trans k3), c2.trans (m2.trans k2),
    b.cbs.trans (d.cbs.trans g.cbs)⟩

theorem destroy_cancelled (sc : Script) (s : S) (h : WF s) (hp : s.pq = []) (hc : s.closing = true) :
    Cancelled s (destroy sc s) := by
  show Cancelled s (destroyTail sc (if s.connecting = true then _ else s))
  split
  · have b := userCb_calls sc s (.conncb UV_ECANCELED) h
    obtain ⟨c1, c2, c3⟩ := b.closing hc
    unfold Cancelled
    rw [← c2, ← c3, ← b.cbs]
    exact destroyTail_cancelled sc _ { b.wf with } (b.pq.trans hp) c1
  · exact destroyTail_cancelled sc s h hp hc

theorem lstep_inv (sc : Script) (s : S) (op : LOp) (h : Inv s) : Inv (lstep sc s op) := by
  obtain ⟨w, hp⟩ := h
  cases op with
  | api o => exact ⟨(apiOp_calls s o w).wf, (apiOp_calls s o w).pq.trans hp⟩
  | feed outs => exact ⟨{ w with }, hp⟩
  | clearEnv => exact ⟨{ w with }, hp⟩
  | runPending =>
    simp only [lstep]
    split
    · rename_i hpend
      have hc : s.closing = false := Bool.eq_false_iff.2 fun hx => Bool.false_true_elim (w.closing_ok hx).2.1 hpend
      exact streamIo_inv sc _ { w with closing_ok := Bool.false_true_elim hc } hp hc
    · exact ⟨w, hp⟩
  | pollout =>
    simp only [lstep]
    split
    · rename_i hpo
      exact streamIo_inv sc s w hp (Bool.eq_false_iff.2 fun hx => Bool.false_true_elim (w.closing_ok hx).2.2.1 hpo)
    · exact ⟨w, hp⟩
  | endgame =>
    simp only [lstep]
    split
    · rename_i hcond
      exact (destroy_cancelled sc s w hp hcond.1).1
    · exact ⟨w, hp⟩

theorem runOps_inv (sc : Script) (ops : List LOp) (s : S) (h : Inv s) : Inv (runOps sc s ops) := by
  induction ops generalizing s with
  | nil => exact h
  | cons o ops ih => exact ih _ (lstep_inv sc s o h)

theorem init_inv (ipc : Bool) (shutErr connErr : Int) (connecting pollout pending : Bool)
    (env : List Outcome) : Inv (initS ipc shutErr connErr connecting pollout pending env) :=
  ⟨{ wqs_eq := rfl
     wq_ok := fun _ hx => nomatch hx
     sent_ok := fun _ hx => nomatch hx
     done_ok := fun _ hx => nomatch hx
     acc_eq := rfl
     acc_lt := ⟨.nil, fun _ hi => nomatch hi⟩
     closing_ok := fun hh => nomatch hh
     shut_ok := fun hh => nomatch hh
     called_ok := fun hh => nomatch hh
     req_ok := fun hh => nomatch hh
     os_ok := .inr ⟨[], rfl, fun _ => rfl⟩
     cbs_ok := fun _ hc => nomatch hc
     mon_ok := ⟨rfl, rfl, rfl, fun _ hp => nomatch hp⟩
     closed_ok := fun hh => nomatch hh }, rfl⟩
end UvModel.StreamW
