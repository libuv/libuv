/-! The bit operations of idna.c on bytes, as `Nat` arithmetic. -/
namespace UvModel.Bits

theorem shl_or (hi k lo : Nat) (h : lo < 2 ^ k) : (hi <<< k) ||| lo = hi * 2 ^ k + lo := by
  rw [← Nat.shiftLeft_add_eq_or_of_lt h, Nat.shiftLeft_eq]

theorem or80 (x : Nat) (h : x < 128) : 0x80 ||| x = 128 + x := shl_or 1 7 x h

theorem and63 (x : Nat) : x &&& 63 = x % 64 := Nat.and_two_pow_sub_one_eq_mod x 6

theorem and_c0 (x : Nat) : 0xC0 &&& x = x / 64 % 4 * 64 := by
  have hd : (0xC0 &&& x) / 2 ^ 6 = x / 64 % 4 := by
    rw [Nat.and_div_two_pow, Nat.and_comm]; exact Nat.and_two_pow_sub_one_eq_mod _ 2
  have hm : (0xC0 &&& x) % 2 ^ 6 = 0 := by
    rw [Nat.and_mod_two_pow]; exact Nat.zero_and _
  have := Nat.div_add_mod (0xC0 &&& x) (2 ^ 6)
  omega

end UvModel.Bits
