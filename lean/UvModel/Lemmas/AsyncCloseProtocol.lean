import UvModel.Lemmas.AsyncStep
/-! `InvL`: where a handle stands in the close protocol (uv_close, the store and the spin of uv__async_spin, the unlink,
the close callback) against the loop thread's position and the two handle lists. -/
namespace UvModel.Async
variable {s s' : State} {a : Act}

/-- The local `queue` of uv__async_io exists only while the scan runs.  uv_close entered between polls (`r = .idle`)
finds it empty; uv_close entered from an async callback (`r = .inCb _`) runs in the middle of the scan. -/
def qMustBeEmpty : LPc → Bool
  | .idle | .drain | .closeStore _ .idle | .closeSpin _ .idle => true
  | _ => false

/-- Lists: a handle that is not unlinked is on `queue` or `handles` (`linked`), an unlinked one on neither (`unl`); the
handle being scanned has already been moved to `handles` (`scanIn`).  Close protocol, per handle: `closing` is set by
uv_close, `stored` by the store of uv__async_spin, `unlinked` when uv__async_close returns, `freed` by the close
callback, each only after the one before (`sto`, `unlSto`, `freedUnl`); between uv_close and the unlink the loop thread
is in uv__async_spin of that handle (`clo`, `cloPc`, `spinSto`); the store leaves `pending` set
for good (`stoPend`). -/
structure InvL (s : State) : Prop where
  qEmpty : qMustBeEmpty s.lpc = true → s.queue = []
  linked : ∀ h, h < s.nh → (s.hs h).unlinked = false → h ∈ s.queue ∨ h ∈ s.handles
  unl : ∀ h, (s.hs h).unlinked = true → h ∉ s.queue ∧ h ∉ s.handles
  scanIn : ∀ h, s.lpc = .scan h → h ∈ s.handles
  clo : ∀ h, (s.hs h).closing = true → (s.hs h).unlinked = true ∨ (∃ r, s.lpc = .closeStore h r) ∨ (∃ r, s.lpc = .closeSpin h r)
  cloPc : ∀ h r, (s.lpc = .closeStore h r ∨ s.lpc = .closeSpin h r) → (s.hs h).closing = true ∧ (s.hs h).unlinked = false
  sto : ∀ h, (s.hs h).stored = true → (s.hs h).closing = true ∧ ((s.hs h).unlinked = true ∨ ∃ r, s.lpc = .closeSpin h r)
  unlSto : ∀ h, (s.hs h).unlinked = true → (s.hs h).stored = true
  freedUnl : ∀ h, (s.hs h).freed = true → (s.hs h).unlinked = true
  stoPend : ∀ h, (s.hs h).stored = true → (s.hs h).pending ≠ 0
  spinSto : ∀ h r, s.lpc = .closeSpin h r → (s.hs h).stored = true

theorem InvL.open_flags (hL : InvL s) {h : Nat} (ho : (s.hs h).closing = false) :
    (s.hs h).stored = false ∧ (s.hs h).unlinked = false ∧ (s.hs h).freed = false := by
  have hst : (s.hs h).stored = false := by
    cases hst : (s.hs h).stored
    · rfl
    · rw [(hL.sto h hst).1] at ho; cases ho
  have hu : (s.hs h).unlinked = false := by
    cases hu : (s.hs h).unlinked
    · rfl
    · rw [hL.unlSto h hu] at hst; cases hst
  refine ⟨hst, hu, ?_⟩
  cases hf : (s.hs h).freed
  · rfl
  · rw [hL.freedUnl h hf] at hu; cases hu

theorem InvL.scan_not_stored (hL : InvL s) {h : Nat} (hl : s.lpc = .scan h) : (s.hs h).stored = false := by
  cases hst : (s.hs h).stored
  · rfl
  · rcases (hL.sto h hst).2 with hu | ⟨r, hr⟩
    · exact absurd (hL.scanIn h hl) (hL.unl h hu).2
    · rw [hl] at hr; cases hr

theorem InvL.open_mem (hL : InvL s) {h : Nat} (hlt : h < s.nh) (ho : (s.hs h).closing = false) :
    h ∈ s.queue ∨ h ∈ s.handles :=
  hL.linked h hlt (hL.open_flags ho).2.1

/-- the loop thread is at the same place of uv__async_spin(h), or outside it, at `p` and at `p'` -/
def LPc.sameSpin (p p' : LPc) (h : Nat) : Prop :=
  ∀ r, (p' = .closeStore h r ↔ p = .closeStore h r) ∧ (p' = .closeSpin h r ↔ p = .closeSpin h r)

/-- `v'` is in the same phase of the close protocol as `v`: same `closing`, `stored`, `unlinked`; `freed` is set only
once unlinked; `pending` is not cleared once stored -/
def HS.samePhase (v v' : HS) : Prop :=
  v'.closing = v.closing ∧ v'.stored = v.stored ∧ v'.unlinked = v.unlinked ∧
  (v'.freed = v.freed ∨ v.unlinked = true) ∧ (v.stored = true → v.pending ≠ 0 → v'.pending ≠ 0)

theorem HS.samePhase_refl (v : HS) : v.samePhase v := ⟨rfl, rfl, rfl, .inl rfl, fun _ h => h⟩

/-- `InvL` across a step that is not part of the close protocol: the loop thread neither enters nor leaves
uv__async_spin and every handle stays in its phase.  What is left to show is the part about the two lists. -/
theorem InvL.carry (hI : InvL s) (hpc : ∀ h, s.lpc.sameSpin s'.lpc h)
    (hf : ∀ j, (s.hs j).samePhase (s'.hs j))
    (qEmpty : qMustBeEmpty s'.lpc = true → s'.queue = [])
    (linked : ∀ h, h < s'.nh → (s.hs h).unlinked = false → h ∈ s'.queue ∨ h ∈ s'.handles)
    (unl : ∀ h, (s.hs h).unlinked = true → h ∉ s'.queue ∧ h ∉ s'.handles)
    (scanIn : ∀ h, s'.lpc = .scan h → h ∈ s'.handles) : InvL s' := by
  refine ⟨qEmpty, ?_, ?_, scanIn, ?_, ?_, ?_, ?_, ?_, ?_, ?_⟩ <;>
    simp only [fun h r => (hpc h r).1, fun h r => (hpc h r).2, fun j => (hf j).1, fun j => (hf j).2.1,
      fun j => (hf j).2.2.1]
  · exact linked
  · exact unl
  · exact hI.clo
  · exact hI.cloPc
  · exact hI.sto
  · exact hI.unlSto
  · exact fun j h => (hf j).2.2.2.1.elim (fun e => hI.freedUnl j (e ▸ h)) id
  · exact fun j h => (hf j).2.2.2.2 h (hI.stoPend j h)
  · exact hI.spinSto

/-- `InvL` across a step of the close protocol of handle `h` (uv_close, the store, the unlink): the record of `h`
becomes `v` and the loop thread's position changes, for the other handles nothing does.  Left to show: the part about
the two lists, and the protocol clauses for `h` itself. -/
theorem InvL.closeStep (hI : InvL s) {h : Nat} {v : HS} (hh : s'.hs = upd s.hs h v)
    (hne : ∀ j, j ≠ h → s.lpc.sameSpin s'.lpc j)
    (qEmpty : qMustBeEmpty s'.lpc = true → s'.queue = [])
    (linked : ∀ j, j < s'.nh → (s'.hs j).unlinked = false → j ∈ s'.queue ∨ j ∈ s'.handles)
    (unl : ∀ j, (s'.hs j).unlinked = true → j ∉ s'.queue ∧ j ∉ s'.handles)
    (scanIn : ∀ j, s'.lpc = .scan j → j ∈ s'.handles)
    (clo : v.closing = true → v.unlinked = true ∨ (∃ r, s'.lpc = .closeStore h r) ∨ ∃ r, s'.lpc = .closeSpin h r)
    (cloPc : ∀ r, (s'.lpc = .closeStore h r ∨ s'.lpc = .closeSpin h r) → v.closing = true ∧ v.unlinked = false)
    (sto : v.stored = true → v.closing = true ∧ (v.unlinked = true ∨ ∃ r, s'.lpc = .closeSpin h r))
    (unlSto : v.unlinked = true → v.stored = true) (freedUnl : v.freed = true → v.unlinked = true)
    (stoPend : v.stored = true → v.pending ≠ 0) (spinSto : ∀ r, s'.lpc = .closeSpin h r → v.stored = true) :
    InvL s' := by
  refine ⟨qEmpty, linked, unl, scanIn, ?_, ?_, ?_, ?_, ?_, ?_, ?_⟩ <;> intro j <;> rw [hh] <;> by_cases hj : j = h
  all_goals first
    | (subst hj; rw [upd_same])
    | (rw [upd_other _ _ _ _ hj]; try simp only [fun r => (hne j hj r).1, fun r => (hne j hj r).2])
  exact clo; exact hI.clo j
  exact cloPc; exact hI.cloPc j
  exact sto; exact hI.sto j
  exact unlSto; exact hI.unlSto j
  exact freedUnl; exact hI.freedUnl j
  exact stoPend; exact hI.stoPend j
  exact spinSto; exact hI.spinSto j

theorem qMustBeEmpty_closeStore (h : Nat) (r : LRet) : qMustBeEmpty (.closeStore h r) = qMustBeEmpty r.toPc := by
  cases r <;> rfl
theorem qMustBeEmpty_closeSpin (h : Nat) (r : LRet) : qMustBeEmpty (.closeSpin h r) = qMustBeEmpty r.toPc := by
  cases r <;> rfl

theorem InvL.nextScan {s s0 : State} (hI : InvL s) (hpc : ∀ h, s.lpc.sameSpin .idle h) (hn : s0.nh = s.nh)
    (hh : s0.hs = s.hs) (linked : ∀ h, h < s.nh → (s.hs h).unlinked = false → h ∈ s0.queue ∨ h ∈ s0.handles)
    (unl : ∀ h, (s.hs h).unlinked = true → h ∉ s0.queue ∧ h ∉ s0.handles) : InvL (nextScan s0) := by
  have hf : ∀ j, (s.hs j).samePhase (s0.hs j) := fun j => hh ▸ HS.samePhase_refl _
  rcases nextScan_cases s0 with ⟨hq, he⟩ | ⟨h, q, hq, he⟩ <;> rw [he]
  · exact hI.carry hpc hf (fun _ => hq) (hn ▸ linked) unl nofun
  · refine hI.carry (fun k r => ⟨by simpa using (hpc k r).1, by simpa using (hpc k r).2⟩) hf nofun ?_ ?_ ?_
    · exact fun j hj hu => by simpa [hq, or_assoc, or_comm, or_left_comm] using linked j (hn ▸ hj) hu
    · exact fun j hu => by simpa [hq, not_or, and_assoc, and_comm, and_left_comm] using unl j hu
    · intro j e; cases e; simp

theorem invL_step (hI : InvL s) (hs : step? s a = some s') : InvL s' := by
  cases step?_step hs with
  | begin t h x _ _ _ _ =>
    exact hI.carry (fun _ _ => ⟨.rfl, .rfl⟩)
      (fun j => upd_at (P := (s.hs j).samePhase) (HS.samePhase_refl _) fun e _ => e ▸ ⟨rfl, rfl, rfl, .inl rfl, fun _ h => h⟩)
      hI.qEmpty hI.linked hI.unl hI.scanIn
  | snd t x x' v e _ hop =>
    refine hI.carry (fun _ _ => ⟨.rfl, .rfl⟩)
      (fun j => upd_at (P := (s.hs j).samePhase) (HS.samePhase_refl _) fun e _ => ?_) hI.qEmpty hI.linked hI.unl hI.scanIn
    subst e; refine ⟨?_, ?_, ?_, .inl ?_, fun _ => hop.pending_ne⟩ <;> rw [hop.frame]
  | loop _ hop =>
    cases hop with
    | wake hl he =>
      exact hI.carry (by simp [LPc.sameSpin, hl]) (fun _ => HS.samePhase_refl _) (fun _ => hI.qEmpty (by rw [hl]; rfl))
        hI.linked hI.unl nofun
    | drain hl =>
      have hq := hI.qEmpty (by rw [hl]; rfl)
      refine hI.nextScan (by simp [LPc.sameSpin, hl]) rfl rfl (fun j hj hu => ?_) (fun j hu => ?_)
      · simpa [hq] using hI.linked j hj hu
      · simpa using (hI.unl j hu).2
    | skip hl hp => exact hI.nextScan (by simp [LPc.sameSpin, hl]) rfl rfl hI.linked hI.unl
    | cbRet hl => exact hI.nextScan (by simp [LPc.sameSpin, hl]) rfl rfl hI.linked hI.unl
    | @call h hl hp =>
      refine hI.carry (by simp [LPc.sameSpin, hl])
        (fun j => upd_at (P := (s.hs j).samePhase) (HS.samePhase_refl _) fun e _ => ?_) nofun hI.linked hI.unl nofun
      subst e; exact ⟨rfl, rfl, rfl, .inl rfl, fun hst => by rw [hI.scan_not_stored hl] at hst; cases hst⟩
    | @store h r hl =>
      have ⟨hcl, hun⟩ := hI.cloPc _ _ (.inl hl)
      refine hI.closeStep (h := h) rfl (fun j hj r' => by simp [hl, Ne.symm hj]) ?_ ?_ ?_ nofun
        (fun _ => .inr (.inr ⟨r, rfl⟩)) (fun _ _ => ⟨hcl, hun⟩) (fun _ => ⟨hcl, .inr ⟨r, rfl⟩⟩) (fun _ => rfl)
        (hI.freedUnl h) (fun _ => nofun) (fun _ _ => rfl)
      · exact fun e => hI.qEmpty (by rw [hl, qMustBeEmpty_closeStore, ← qMustBeEmpty_closeSpin h]; exact e)
      · simpa only [setH, upd_proj HS.unlinked] using hI.linked
      · simpa only [setH, upd_proj HS.unlinked] using hI.unl
    | @unlink h r hl hb =>
      have ⟨hcl, hun⟩ := hI.cloPc _ _ (.inr hl)
      have hu : ∀ j, (upd s.hs h { s.hs h with unlinked := true } j).unlinked = (j == h || (s.hs j).unlinked) := by
        intro j; unfold upd; split <;> simp [*]
      refine hI.closeStep (h := h) rfl (fun j hj r' => by simp [hl, Ne.symm hj]) ?_ ?_ ?_ (fun j e => absurd e (by simp))
        (fun _ => .inl rfl) (fun r' e => absurd e (by simp)) (fun _ => ⟨hcl, .inl rfl⟩) (fun _ => hI.spinSto h r hl)
        (fun _ => rfl) (hI.stoPend h) (fun r' e => absurd e (by simp))
      · exact fun e => by rw [hI.qEmpty (by rw [hl, qMustBeEmpty_closeSpin]; exact e)]; rfl
      · intro j hj hju
        simp only [setH, hu, Bool.or_eq_false_iff, beq_eq_false_iff_ne] at hju
        simpa [List.mem_filter, hju.1] using hI.linked j hj hju.2
      · intro j hju
        simp only [setH, hu, Bool.or_eq_true, beq_iff_eq] at hju
        simp only [List.mem_filter, bne_iff_ne]
        rcases hju with e | hju
        · exact ⟨fun m => m.2 e, fun m => m.2 e⟩
        · exact ⟨fun m => (hI.unl j hju).1 m.1, fun m => (hI.unl j hju).2 m.1⟩
  | close h r hl _ hop =>
    obtain ⟨hst, hun, -⟩ := hI.open_flags hop
    refine hI.closeStep (h := h) rfl (fun j hj r' => by simp [hl, Ne.symm hj]) ?_ ?_ ?_ nofun
      (fun _ => .inr (.inl ⟨r, rfl⟩)) (fun _ _ => ⟨rfl, hun⟩) (fun h => by rw [hst] at h; cases h)
      (fun h => by rw [hun] at h; cases h) (hI.freedUnl h) (hI.stoPend h) nofun
    · exact fun e => hI.qEmpty (by rw [hl, ← qMustBeEmpty_closeStore h]; exact e)
    · simpa only [setH, upd_proj HS.unlinked] using hI.linked
    · simpa only [setH, upd_proj HS.unlinked] using hI.unl
  | fork hl =>
    refine hI.carry (fun _ _ => ⟨.rfl, .rfl⟩) (fun j => ?_) hI.qEmpty hI.linked hI.unl hI.scanIn
    dsimp only; split
    · refine ⟨rfl, rfl, rfl, .inl rfl, fun hst => ?_⟩
      rcases (hI.sto j hst).2 with hu | ⟨r, hr⟩
      · exact absurd ‹j ∈ s.handles› (hI.unl j hu).2
      · rw [hl] at hr; cases hr
    · exact HS.samePhase_refl _
  | eintr w => exact hI
  | closeCbs _ =>
    refine hI.carry (fun _ _ => ⟨.rfl, .rfl⟩) (fun j => ?_) hI.qEmpty hI.linked hI.unl hI.scanIn
    dsimp only; split
    · exact ⟨rfl, rfl, rfl, .inr ‹_›, fun _ h => h⟩
    · exact HS.samePhase_refl _

end UvModel.Async
