import UvModel.Lemmas.LoopTraceExt
import UvModel.Lemmas.LoopCloseReqs
/-!
  `uv__run_idle/prepare/check`: counting the callbacks of one handle through the detached queue
  (`watcher_once` of C03).  The counting predicate `f` is abstract: false on `op`/`obs`/`endcb` events, and on a
  callback event it tests "kind = the watcher kind ∧ handle = id".
  At most once (`runWatchersLoop_cnt`): the queue has no duplicates and only ever shrinks (`OW`).
  Exactly once (`runWatchersLoop_cnt_eq`): a handle that is in the queue, whose record exists, and which no callback
  of the phase stops or closes stays there until it is called (`Stay`).
  `runCb`, `runHandleCb` and `runWatchersLoop` are followed by unfolding: the count needs an equation for each
  callback line, not a relation between the end states.
-/
namespace UvModel.Loop.Phases
open UvModel.Loop UvModel.HandleKernels

def cntF (f : Event → Bool) (l : List Event) : Nat := (l.filter f).length

section
variable (f : Event → Bool) (hop : ∀ o r, f (.op o r) = false) (hobs : ∀ o, f (.obs o) = false)
  (hend : f .endcb = false)
include hop hobs hend

omit hop hobs hend in
theorem cntF_emit (s : State) (e : Event) :
    cntF f (emit s e).trace = cntF f s.trace + if s.halted = false ∧ f e = true then 1 else 0 := by
  unfold emit cntF
  cases s.halted <;> cases hf : f e <;> simp [hf]

omit hop hobs hend in
theorem cntF_emit_false (s : State) (e : Event) (h : f e = false) : cntF f (emit s e).trace = cntF f s.trace := by
  rw [cntF_emit, if_neg (fun hc => by rw [h] at hc; exact Bool.noConfusion hc.2)]; rfl

omit hop hend in
theorem cntF_emitObs (s : State) : cntF f (emitObs s).trace = cntF f s.trace :=
  cntF_emit_false f s _ (hobs _)

omit hend in
theorem cntF_stepOp (s : State) (o : Op) : cntF f (stepOp s o).trace = cntF f s.trace := by
  unfold stepOp
  simp only
  rw [cntF_emitObs f hobs, cntF_emit_false f _ _ (hop _ _)]
  have h := tr_applyOp s o
  simp only [tr, Prod.mk.injEq] at h
  rw [h.1]

omit hend in
theorem cntF_foldl (ops : List Op) (s : State) : cntF f (ops.foldl stepOp s).trace = cntF f s.trace := by
  induction ops generalizing s with
  | nil => rfl
  | cons o t ih => simp only [List.foldl]; rw [ih, cntF_stepOp f hop hobs]

/-- a callback adds its own `cb` event to the count and nothing else (nothing at all once the simulator is halted) -/
theorem cntF_runCb (sc : Script) (ph : Phase) (k : CbKind) (key : CbKey) (id : Nat) (a b : Int) (occ : Nat) (s : State) :
    cntF f (runCb sc ph k key id a b occ s).trace =
      cntF f s.trace + if s.halted = false ∧ f (.cb ph k id a b) = true then 1 else 0 := by
  unfold runCb
  simp only
  rw [cntF_emitObs f hobs, cntF_emit_false f _ _ hend, cntF_foldl f hop hobs, cntF_emitObs f hobs]
  exact cntF_emit f { s with ncbTotal := s.ncbTotal + 1 } _

theorem cntF_runHandleCb (sc : Script) (ph : Phase) (k : CbKind) (id : Nat) (a b : Int) (s : State) :
    cntF f (runHandleCb sc ph k id a b s).trace =
      cntF f s.trace + if (getH s id).isSome ∧ s.halted = false ∧ f (.cb ph k id a b) = true then 1 else 0 := by
  unfold runHandleCb
  split
  · rename_i hg; rw [hg]; rfl
  · rename_i h hg
    rw [hg, cntF_runCb f hop hobs hend]
    simp only [Option.isSome_some, true_and]; rfl
end

theorem OW_runCb (sc : Script) (ph : Phase) (k : CbKind) (key : CbKey) (id : Nat) (a b : Int) (occ : Nat) (s : State) :
    OW s (runCb sc ph k key id a b occ s) := by
  unfold runCb
  simp only
  have h1 : OW s (emitObs (emit { s with ncbTotal := s.ncbTotal + 1 } (.cb ph k id a b))) :=
    OW.of_eq (by simp; rfl)
  have h2 := OW_foldl (sc key occ s.ncbTotal) (emitObs (emit { s with ncbTotal := s.ncbTotal + 1 } (.cb ph k id a b)))
  exact OW.trans (OW.trans h1 h2) (OW.of_eq (by simp))

theorem OW_runHandleCb (sc : Script) (ph : Phase) (k : CbKind) (id : Nat) (a b : Int) (s : State) :
    OW s (runHandleCb sc ph k id a b s) := by
  unfold runHandleCb
  split
  · exact OW.refl s
  · exact OW.trans (OW.of_eq (by simp)) (OW_runCb sc ph k _ id a b _ (modH s id _))

/-- detaching or re-queueing (`setWList` on a state whose detached queue was just replaced) leaves everything the
    counting arguments look at alone -/
theorem requeue_frame (s : State) (k : WKind) (q l : List Nat) :
    (setWList { s with watcherLocal := q } k l).watcherLocal = q ∧ (setWList { s with watcherLocal := q } k l).trace = s.trace ∧
    hids (setWList { s with watcherLocal := q } k l) = hids s ∧ (setWList { s with watcherLocal := q } k l).halted = s.halted := by
  cases k <;> exact ⟨rfl, rfl, rfl, rfl⟩

section
variable (f : Event → Bool) (hop : ∀ o r, f (.op o r) = false) (hobs : ∀ o, f (.obs o) = false)
  (hend : f .endcb = false) (k : WKind) (id : Nat)
  (hcb : ∀ ph kk i a b, f (.cb ph kk i a b) = (kk == wCb k && i == id))
include hop hobs hend hcb

/-- a handle still in the detached queue is called at most once more; one that has left it, never -/
theorem runWatchersLoop_cnt (sc : Script) (fuel : Nat) (s : State) (hn : s.watcherLocal.Nodup) :
    cntF f (runWatchersLoop sc k fuel s).trace ≤ cntF f s.trace + (if id ∈ s.watcherLocal then 1 else 0) := by
  fun_induction runWatchersLoop sc k fuel s with
  | case1 | case2 => omega
  | case3 n s j rest heq _ s1 ih =>
      obtain ⟨w1, t1, -, -⟩ : s1.watcherLocal = rest ∧ s1.trace = s.trace ∧ _ ∧ _ := requeue_frame s k rest _
      clear_value s1
      have hc := cntF_runHandleCb f hop hobs hend sc (wPhase k) (wCb k) j 0 0 s1
      have hw := (OW_runHandleCb sc (wPhase k) (wCb k) j 0 0 s1).2
      rw [w1] at hw
      rw [t1, hcb] at hc
      rw [heq] at hn
      obtain ⟨hj, hr⟩ := List.nodup_cons.1 hn
      generalize runHandleCb sc (wPhase k) (wCb k) j 0 0 s1 = s2 at hc hw ih ⊢
      have h2 := ih (hw.nodup hr)
      rw [heq]
      by_cases hji : j = id
      · subst hji
        have hnot : j ∉ s2.watcherLocal := fun h => hj (hw.subset h)
        rw [if_neg hnot] at h2
        rw [if_pos List.mem_cons_self]
        split at hc <;> omega
      · have hfalse : ¬ ((wCb k == wCb k && j == id) = true) := by simp [hji]
        rw [if_neg (fun h => hfalse h.2.2)] at hc
        by_cases hm : id ∈ s2.watcherLocal
        · rw [if_pos hm] at h2
          rw [if_pos (List.mem_cons_of_mem _ (hw.subset hm))]
          omega
        · rw [if_neg hm] at h2
          split <;> omega

theorem runWatchers_cnt (sc : Script) (s : State) (hn : (wList s k).Nodup) :
    cntF f (runWatchers sc k s).trace ≤ cntF f s.trace + 1 := by
  unfold runWatchers
  simp only
  have f1 := requeue_frame s k (wList s k) []
  generalize setWList { s with watcherLocal := wList s k } k [] = s1 at f1 ⊢
  obtain ⟨w1, t1, -, -⟩ := f1
  have := runWatchersLoop_cnt f hop hobs hend k id hcb sc (s1.watcherLocal.length + 1) s1 (by rw [w1]; exact hn)
  rw [t1] at this
  split at this <;> omega
end

/-- `id` stays in the detached queue, keeps its record, and the simulator is not halted -/
def Stay (id : Nat) (s s' : State) : Prop :=
  (id ∈ s.watcherLocal → id ∈ s'.watcherLocal) ∧ (id ∈ hids s → id ∈ hids s') ∧ s'.halted = s.halted

theorem Stay.refl (id : Nat) (s : State) : Stay id s s := ⟨fun h => h, fun h => h, rfl⟩
theorem Stay.trans {id : Nat} {a b c : State} (h1 : Stay id a b) (h2 : Stay id b c) : Stay id a c :=
  ⟨fun h => h2.1 (h1.1 h), fun h => h2.2.1 (h1.2.1 h), h2.2.2.trans h1.2.2⟩

theorem Stay_stepOp (id : Nat) (s : State) (o : Op) (h1 : o ≠ .stop id) (h2 : o ≠ .close id) : Stay id s (stepOp s o) := by
  refine ⟨fun hm => ?_, fun hm => ?_, (WFStep.stepOp s o).2.2⟩
  · have e : ow (stepOp s o) = ow (applyOp s o).1 := by unfold stepOp; simp
    rw [show (stepOp s o).watcherLocal = (applyOp s o).1.watcherLocal from congrArg Prod.snd e]
    rcases applyOp_ow s o with h | ⟨j, hj, h⟩
    · rw [show (applyOp s o).1.watcherLocal = s.watcherLocal from congrArg Prod.snd h]; exact hm
    · refine h.mem ?_ hm
      rintro rfl
      rcases hj with rfl | rfl
      · exact h1 rfl
      · exact h2 rfl
  · have hk : id ∈ hids (applyOp s o).1 := by
      refine (applyOp_step s o).opRes_closure (R := fun a b => id ∈ hids a → id ∈ hids b) (fun h1 h2 m => h2 (h1 m)) (fun h m => ?_) hm
      rcases h with h | ⟨j, h, _⟩ | ⟨j, s2, hk, he, _⟩
      · exact h.1.hold id m
      · exact h.1.hold id m
      · rw [he]; exact hk.1.hold id m
    exact (KeepQ.of_kp (kp_stepOp s o)).1.hold id hk

theorem Stay_foldl (id : Nat) (ops : List Op) (s : State) (h : ∀ o ∈ ops, o ≠ .stop id ∧ o ≠ .close id) :
    Stay id s (ops.foldl stepOp s) := by
  induction ops generalizing s with
  | nil => exact Stay.refl _ _
  | cons o t ih =>
    exact (Stay_stepOp id s o (h o List.mem_cons_self).1 (h o List.mem_cons_self).2).trans
      (ih _ (fun o' ho' => h o' (List.mem_cons_of_mem _ ho')))

theorem Stay.of_eq {id : Nat} {s s' : State} (h1 : ow s' = ow s) (h2 : kp s' = kp s) : Stay id s s' := by
  simp only [ow, Prod.mk.injEq] at h1
  exact ⟨fun hm => h1.2 ▸ hm, fun hm => (KeepQ.of_kp h2).1.hold id hm, (KeepQ.of_kp h2).1.halted⟩

theorem Stay_emit (id : Nat) (s : State) (e : Event) : Stay id s (emit s e) := Stay.of_eq (ow_emit s e) (kp_emit s e)
theorem Stay_emitObs (id : Nat) (s : State) : Stay id s (emitObs s) := Stay.of_eq (ow_emitObs s) (kp_emitObs s)

/-- scripts that never stop or close handle `id` -/
def NoStop (sc : Script) (id : Nat) : Prop := ∀ key occ g, ∀ o ∈ sc key occ g, o ≠ Op.stop id ∧ o ≠ Op.close id

theorem Stay_runCb (id : Nat) (sc : Script) (hsc : NoStop sc id) (ph : Phase) (k : CbKind) (key : CbKey) (i : Nat) (a b : Int)
    (occ : Nat) (s : State) : Stay id s (runCb sc ph k key i a b occ s) := by
  unfold runCb
  simp only
  refine Stay.trans ?_ (Stay_emitObs id _)
  refine Stay.trans ?_ (Stay_emit id _ _)
  refine Stay.trans ?_ (Stay_foldl id _ _ (hsc _ _ _))
  refine Stay.trans ?_ (Stay_emitObs id _)
  refine Stay.trans ?_ (Stay_emit id _ _)
  exact Stay.of_eq rfl rfl

theorem Stay_runHandleCb (id : Nat) (sc : Script) (hsc : NoStop sc id) (ph : Phase) (k : CbKind) (i : Nat) (a b : Int)
    (s : State) : Stay id s (runHandleCb sc ph k i a b s) := by
  unfold runHandleCb
  split
  · exact Stay.refl _ _
  · refine Stay.trans ?_ (Stay_runCb id sc hsc _ _ _ _ _ _ _ _)
    exact ⟨fun h => h, fun h => by rw [hids_modH _ _ _ (by intro _; rfl)]; exact h, rfl⟩

theorem cntF_mono (f : Event → Bool) {s s' : State} (h : TrX s s') : cntF f s.trace ≤ cntF f s'.trace := by
  obtain ⟨new, e⟩ := h
  simp only [cntF, e, List.filter_append, List.length_append]; omega

section
variable (f : Event → Bool) (hop : ∀ o r, f (.op o r) = false) (hobs : ∀ o, f (.obs o) = false)
  (hend : f .endcb = false) (k : WKind) (id : Nat)
  (hcb : ∀ ph kk i a b, f (.cb ph kk i a b) = (kk == wCb k && i == id))
include hop hobs hend hcb

/-- a handle in the detached queue whose record exists and which no callback stops or closes is called exactly once -/
theorem runWatchersLoop_cnt_eq (sc : Script) (hsc : NoStop sc id) (fuel : Nat) (s : State) (hn : s.watcherLocal.Nodup)
    (hh : s.halted = false) (hm : id ∈ s.watcherLocal) (hp : id ∈ hids s) (hl : s.watcherLocal.length < fuel) :
    cntF f (runWatchersLoop sc k fuel s).trace = cntF f s.trace + 1 := by
  fun_induction runWatchersLoop sc k fuel s with
  | case1 => exact absurd hl (Nat.not_lt_zero _)
  | case2 _ _ heq => rw [heq] at hm; cases hm
  | case3 n s j rest heq _ s1 ih =>
      obtain ⟨w1, t1, i1, a1⟩ : s1.watcherLocal = rest ∧ s1.trace = s.trace ∧ hids s1 = hids s ∧ s1.halted = s.halted :=
        requeue_frame s k rest _
      clear_value s1
      have hw := (OW_runHandleCb sc (wPhase k) (wCb k) j 0 0 s1).2
      rw [w1] at hw
      rw [heq] at hn hm hl
      obtain ⟨hj, hr⟩ := List.nodup_cons.1 hn
      by_cases hji : j = id
      · subst hji
        have hc := cntF_runHandleCb f hop hobs hend sc (wPhase k) (wCb k) j 0 0 s1
        rw [t1, if_pos ⟨(getH_isSome_iff s1 j).2 (i1 ▸ hp), a1.trans hh, by rw [hcb]; simp⟩] at hc
        generalize runHandleCb sc (wPhase k) (wCb k) j 0 0 s1 = s2 at hc hw ⊢
        have hnot : j ∉ s2.watcherLocal := fun h => hj (hw.subset h)
        have hup := runWatchersLoop_cnt f hop hobs hend k j hcb sc n s2 (hw.nodup hr)
        rw [if_neg hnot] at hup
        have hlo := cntF_mono f (trX.toPhaseRel0.of_reach0 (runWatchersLoop_reach sc k n s2))
        omega
      · have hc := cntF_runHandleCb f hop hobs hend sc (wPhase k) (wCb k) j 0 0 s1
        rw [t1, if_neg (fun h => by rw [hcb] at h; simp [hji] at h)] at hc
        have hst := Stay_runHandleCb id sc hsc (wPhase k) (wCb k) j 0 0 s1
        have hm1 : id ∈ s1.watcherLocal := by
          rw [w1]
          rcases List.mem_cons.mp hm with h | h
          · exact absurd h.symm hji
          · exact h
        generalize runHandleCb sc (wPhase k) (wCb k) j 0 0 s1 = s2 at hc hw hst ih ⊢
        have := ih (hw.nodup hr) (hst.2.2.trans (a1.trans hh)) (hst.1 hm1) (hst.2.1 (i1 ▸ hp))
          (by have := hw.length_le; simp at hl; omega)
        omega

theorem runWatchers_cnt_eq (sc : Script) (hsc : NoStop sc id) (s : State) (hn : (wList s k).Nodup) (hh : s.halted = false)
    (hm : id ∈ wList s k) (hp : id ∈ hids s) :
    cntF f (runWatchers sc k s).trace = cntF f s.trace + 1 := by
  unfold runWatchers
  simp only
  have f1 := requeue_frame s k (wList s k) []
  generalize setWList { s with watcherLocal := wList s k } k [] = s1 at f1 ⊢
  obtain ⟨w1, t1, i1, a1⟩ := f1
  have := runWatchersLoop_cnt_eq f hop hobs hend k id hcb sc hsc (s1.watcherLocal.length + 1) s1 (by rw [w1]; exact hn)
    (a1.trans hh) (by rw [w1]; exact hm) (i1 ▸ hp) (Nat.lt_succ_self _)
  rw [t1] at this
  exact this
end

end UvModel.Loop.Phases
