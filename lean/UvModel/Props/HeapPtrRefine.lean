import UvModel.Lemmas.HeapPtrLemmas
import UvModel.Props.C04Heap
/-!
# `src/heap-inl.h` (pointer tree) against the level-order array of `UvModel.Heap`

`Rep s f n` (Lemmas/HeapPtrLemmas) is the abstraction: the heap record `s` (node cells + `min` + `nelts`)
represents the complete binary tree with `n` nodes whose node at level-order position `i` is `f i`
(`left`/`right`/`parent` cells of `f i` hold `f (2i+1)`, `f (2i+2)`, `f ((i-1)/2)`; `NULL` = 0 beyond `n`;
no node occurs twice; `min = f 0`; `nelts = n`).  `toArr ent f n` is the array `UvModel.Heap` works on.
All theorems are for every memory, every `n`, every position; nodes outside the tree are arbitrary.
-/
namespace UvModel.HeapPtr
open UvModel

variable {s : St} {f : Nat → Nat} {n : Nat} (ent : Nat → Heap.Ent)

/-- the level-order array of keys that `UvModel.Heap` / `Props/C04Heap` reason about -/
def toArr (ent : Nat → Heap.Ent) (f : Nat → Nat) (n : Nat) : Heap.H :=
  ((List.range n).map fun k => ent (f k)).toArray

inductive T where
  | nil
  | node (x : Nat) (l r : T)
deriving DecidableEq, Repr

/-- `Tree m p r t`: the pointer `r`, read in a node (or `heap->min`) whose own address is `p`
(`0` for `heap->min`), is the root of `t`: children and parent cells agree with `t` -/
def Tree (m : Mem) : Nat → Nat → T → Prop
  | _, r, .nil => r = 0
  | p, r, .node x l rt => r = x ∧ x ≠ 0 ∧ m.parent x = p ∧ Tree m x (m.left x) l ∧ Tree m x (m.right x) rt

/-- the complete tree whose level-order listing is `f 0 … f (n-1)`, from position `i` down -/
def ofLevel (f : Nat → Nat) (n : Nat) : Nat → Nat → T
  | 0, _ => .nil
  | fuel + 1, i => if i < n then .node (f i) (ofLevel f n fuel (2 * i + 1)) (ofLevel f n fuel (2 * i + 2)) else .nil

/-- `Complete t f n`: `t` is the complete tree with `n` nodes, `f` its level order -/
def Complete (t : T) (f : Nat → Nat) (n : Nat) : Prop := t = ofLevel f n n 0

theorem rep_tree_at (h : Rep s f n) : ∀ fuel i, n ≤ i + fuel →
    Tree s.m (if i = 0 then 0 else f ((i - 1) / 2)) (f i) (ofLevel f n fuel i) := by
  intro fuel
  induction fuel with
  | zero => intro i hi; simp only [ofLevel, Tree]; exact h.dead i (by omega)
  | succ fuel ih =>
    intro i hi
    by_cases hin : i < n
    · simp only [ofLevel, if_pos hin, Tree]
      refine ⟨trivial, h.live i hin, h.parent i hin, ?_, ?_⟩
      · have := ih (2 * i + 1) (by omega)
        rw [if_neg (Nat.succ_ne_zero _), Heap.parent_left] at this
        rw [h.left i hin]; exact this
      · have := ih (2 * i + 2) (by omega)
        rw [if_neg (Nat.succ_ne_zero _), Heap.parent_right] at this
        rw [h.right i hin]; exact this
    · simp only [ofLevel, if_neg hin, Tree]; exact h.dead i (by omega)

/-- a represented heap is, as a pointer structure, the complete tree with level order `f`: child and parent
cells coherent everywhere (and no sharing: `Rep.inj`) -/
theorem rep_tree {s : St} {f : Nat → Nat} {n : Nat} (h : Rep s f n) :
    ∃ t, Complete t f n ∧ Tree s.m 0 s.min t := by
  refine ⟨_, rfl, ?_⟩
  have := rep_tree_at h n 0 (by omega)
  rw [h.min]; simpa using this

/-- heap-inl.h:122-136 / 166-179 for `nelts = N`, while the parent of 1-based position `N` is in the tree: the
walk from `&heap->min` ends on the lvalue of position `N`, one step behind it on that of `N / 2` -/
theorem walk_pathLoop {N : Nat} (h : Rep s f n) (h1 : 1 ≤ N) (hN : N / 2 ≤ n) :
    walk s (pathLoop N N 0 0).1 (pathLoop N N 0 0).2 Slot.root Slot.root =
      (if (pathLoop N N 0 0).1 = 0 then Slot.root else slotOf f (N / 2), slotOf f N) := by
  have hr := pathLoop_reach N N N 0 0 h1 (Nat.le_refl N) rfl
  have hw := walk_slot h (pathLoop N N 0 0).1 (pathLoop N N 0 0).2 1 Slot.root (Nat.le_refl 1) (by rw [hr]; exact .inr hN)
  rwa [hr] at hw

/-- heap_insert (heap-inl.h:122-136): `child` ends on the lvalue of 1-based position `nelts + 1` — the first
free cell in level order — and `parent` on the lvalue holding that position's parent -/
theorem path_correct_insert {s : St} {f : Nat → Nat} {n : Nat} (h : Rep s f n) :
    walk s (pathLoop (1 + n) (1 + n) 0 0).1 (pathLoop (1 + n) (1 + n) 0 0).2 Slot.root Slot.root =
      (if n = 0 then Slot.root else slotOf f ((n + 1) / 2), slotOf f (n + 1)) := by
  rw [walk_pathLoop h (Nat.le_add_right 1 n) (by omega), Nat.add_comm 1 n]
  by_cases hn : n = 0
  · subst hn; rfl
  · have hk : (pathLoop (n + 1) (n + 1) 0 0).1 ≠ 0 := fun e => by
      have hr := pathLoop_reach (n + 1) (n + 1) (n + 1) 0 0 (Nat.le_add_left 1 n) (Nat.le_refl _) rfl
      rw [e, reach] at hr; omega
    rw [if_neg hk, if_neg hn]

/-- what the two cursors point at: the free cell (NULL) and the node at 0-based position `(n-1)/2` -/
theorem path_correct_insert_deref (h : Rep s f n) :
    deref s (slotOf f (n + 1)) = 0 ∧
    deref s (if n = 0 then Slot.root else slotOf f ((n + 1) / 2)) = (if n = 0 then 0 else f ((n - 1) / 2)) := by
  constructor
  · rw [deref_slotOf h n ((Nat.eq_zero_or_pos n).imp id Heap.parent_lt)]; exact h.dead n (Nat.le_refl n)
  · by_cases hn : n = 0
    · subst hn; exact h.min.trans (h.dead 0 (Nat.le_refl 0))
    · have hp := Heap.parent_lt (Nat.pos_of_ne_zero hn)
      rw [if_neg hn, if_neg hn, show (n + 1) / 2 = (n - 1) / 2 + 1 by omega,
        deref_slotOf h _ (.inr (Heap.parent_lt_of_lt hp))]

/-- heap_remove (heap-inl.h:166-179): `max` ends on the lvalue holding the last node in level order -/
theorem path_correct_remove {s : St} {f : Nat → Nat} {n : Nat} (h : Rep s f n) (hn : 0 < n) :
    (walk s (pathLoop n n 0 0).1 (pathLoop n n 0 0).2 Slot.root Slot.root).2 = slotOf f n ∧
    deref s (slotOf f n) = f (n - 1) := by
  rw [walk_pathLoop h hn (Nat.div_le_self n 2)]
  obtain ⟨m, rfl⟩ : ∃ m, n = m + 1 := ⟨n - 1, by omega⟩
  exact ⟨rfl, deref_slotOf h m (.inr (Heap.parent_lt_of_lt (Nat.lt_succ_self m)))⟩

/-- `heap_node_swap(heap, f i, f j)` for `j` the left or right child position of `i`: the memory afterwards
represents the same complete tree with the nodes at positions `i` and `j` exchanged; every other position
(grandparent, sibling, grandchildren included) keeps its node and all cells are coherent again -/
theorem swap_refines {s : St} {f : Nat → Nat} {n i j : Nat} (h : Rep s f n) (hj : j < n)
    (hc : j = 2 * i + 1 ∨ j = 2 * i + 2) : Rep (swap s (f i) (f j)) (exchange f i j) n :=
  swap_rep h hj hc

theorem g_toArr (f : Nat → Nat) {k : Nat} (hk : k < n) :
    Heap.g (toArr ent f n) k = ent (f k) := by
  simp [Heap.g, toArr, hk]

theorem size_toArr (f : Nat → Nat) (n : Nat) : (toArr ent f n).size = n := by
  simp [toArr]

theorem eq_toArr (f : Nat → Nat) {a : Heap.H} (hs : a.size = n)
    (hg : ∀ k, k < n → Heap.g a k = ent (f k)) : toArr ent f n = a := by
  apply Array.ext
  · rw [hs, size_toArr]
  · intro k h1 h2
    rw [← Heap.g_eq_getElem _ k h1, ← Heap.g_eq_getElem a k h2, hg k (hs ▸ h2), g_toArr ent f (hs ▸ h2)]

/-- on the level-order array this is `Heap.swap` -/
theorem swap_toArr (ent : Nat → Heap.Ent) (f : Nat → Nat) {n i j : Nat} (hi : i < n) (hj : j < n) :
    toArr ent (exchange f i j) n = Heap.swap (toArr ent f n) i j := by
  have hs := size_toArr ent f n
  refine eq_toArr ent _ ((Heap.swap_size ..).trans hs) fun k hk => ?_
  rw [Heap.g_swap _ i j k (by rwa [hs]) (by rwa [hs]), g_toArr ent f hi, g_toArr ent f hj, g_toArr ent f hk, exchange]
  by_cases h1 : k = i
  · rw [if_pos h1]; split
    · rw [← h1, ‹k = j›]
    · rfl
  · rw [if_neg h1, if_neg h1, apply_ite ent]

/-- one round of the sift-up loop: the node at `i` changes places with its parent -/
theorem swap_parent_rep {i : Nat} (h : Rep s f n) (hi : i < n) (h0 : i ≠ 0) :
    Rep (swap s (f ((i - 1) / 2)) (f i)) (exchange f ((i - 1) / 2) i) n :=
  swap_rep h hi (by omega)

/-- the sift-up loop (heap-inl.h:146-147 / 235-236) keeps the memory a represented complete tree, for any
fuel, any comparison function and any starting position -/
theorem siftUp_rep (lt : Nat → Nat → Bool) {n : Nat} : ∀ fuel (s : St) (f : Nat → Nat) (i : Nat), Rep s f n → i < n →
    ∃ f', Rep (siftUp lt fuel s (f i)) f' n := by
  intro fuel
  induction fuel with
  | zero => intro s f i h _; exact ⟨f, h⟩
  | succ fuel ih =>
    intro s f i h hi
    unfold siftUp
    split
    · rename_i hcond
      have hp := h.parent i hi
      by_cases h0 : i = 0
      · rw [if_pos h0] at hp; exact absurd hp hcond.1
      · rw [if_neg h0] at hp
        rw [hp]
        have := ih _ _ ((i - 1) / 2) (swap_parent_rep h hi h0) (Heap.parent_lt_of_lt hi)
        rwa [exchange_fst] at this
    · exact ⟨f, h⟩

def insert_refines : Prop :=
  ∀ (ent : Nat → Heap.Ent) (lt : Nat → Nat → Bool) (s : St) (f : Nat → Nat) (n x : Nat),
    (∀ a b, lt a b = Heap.lt (ent a) (ent b)) → Rep s f n → x ≠ 0 → (∀ i, f i ≠ x) →
    ∃ f', Rep (insert lt s x) f' (n + 1) ∧ toArr ent f' (n + 1) = Heap.insert (toArr ent f n) (ent x)

def remove_refines : Prop :=
  ∀ (ent : Nat → Heap.Ent) (lt : Nat → Nat → Bool) (s : St) (f : Nat → Nat) (n i : Nat),
    (∀ a b, lt a b = Heap.lt (ent a) (ent b)) → Rep s f n → i < n →
    ∃ f', Rep (remove lt s (f i)) f' (n - 1) ∧ toArr ent f' (n - 1) = Heap.remove (toArr ent f n) i

/-- `Props/C04Heap` carried over to the pointer heap: heap order is kept and `heap_min` is a least element
(the premise is `insert_refines_holds`) -/
def insert_order_transfer : Prop :=
  insert_refines → ∀ (ent : Nat → Heap.Ent) (lt : Nat → Nat → Bool) (s : St) (f : Nat → Nat) (n x : Nat),
    (∀ a b, lt a b = Heap.lt (ent a) (ent b)) → Rep s f n → x ≠ 0 → (∀ i, f i ≠ x) →
    Heap.Inv (toArr ent f n) →
    ∃ f', Rep (insert lt s x) f' (n + 1) ∧ Heap.Inv (toArr ent f' (n + 1)) ∧
      (insert lt s x).min = f' 0 ∧ ∀ j, j < n + 1 → Heap.lt (ent (f' j)) (ent (f' 0)) = false

theorem exchange_comm (f : Nat → Nat) (i j : Nat) : exchange f i j = exchange f j i := by
  funext k; unfold exchange; grind

/-- the sift-up loop is `Heap.siftUp` on the level-order array -/
theorem siftUp_refines (ent : Nat → Heap.Ent) (lt : Nat → Nat → Bool)
    (hlt : ∀ a b, lt a b = Heap.lt (ent a) (ent b)) {n : Nat} :
    ∀ fuel (s : St) (f : Nat → Nat) (i : Nat), Rep s f n → i < n → i < fuel →
    ∃ f', Rep (siftUp lt fuel s (f i)) f' n ∧ toArr ent f' n = Heap.siftUp (toArr ent f n) i := by
  intro fuel
  induction fuel with
  | zero => intro s f i _ _ h; omega
  | succ fuel ih =>
    intro s f i h hi hf
    have hp := h.parent i hi
    unfold siftUp
    rw [Heap.siftUp]
    by_cases h0 : i = 0
    · rw [if_pos h0] at hp
      rw [if_neg (by rw [hp]; simp), dif_pos h0]
      exact ⟨f, h, rfl⟩
    · rw [if_neg h0] at hp
      have hpn : (i - 1) / 2 < n := Heap.parent_lt_of_lt hi
      rw [dif_neg h0, hp, hlt]
      simp only [g_toArr ent f hi, g_toArr ent f hpn]
      have hnz : f ((i - 1) / 2) ≠ 0 := h.live _ hpn
      by_cases hc : Heap.lt (ent (f i)) (ent (f ((i - 1) / 2))) = true
      · rw [if_pos ⟨hnz, hc⟩, if_pos hc]
        obtain ⟨f', h1, h2⟩ := ih _ _ ((i - 1) / 2) (swap_parent_rep h hi h0) hpn
          (Nat.lt_of_lt_of_le (Heap.parent_lt (Nat.pos_of_ne_zero h0)) (Nat.le_of_lt_succ hf))
        rw [exchange_fst] at h1
        refine ⟨f', h1, ?_⟩
        rw [h2, exchange_comm, swap_toArr ent f hi hpn]
      · rw [if_neg (fun c => hc c.2), if_neg hc]
        exact ⟨f, h, rfl⟩

theorem toArr_append (f : Nat → Nat) (n x : Nat) :
    toArr ent (upd f n x) (n + 1) = (toArr ent f n).push (ent x) := by
  have hs := size_toArr ent f n
  refine eq_toArr ent _ (by rw [Array.size_push, hs]) fun k hk => ?_
  by_cases h1 : k = n
  · have := Heap.g_push_size (toArr ent f n) (ent x)
    rw [hs] at this
    rw [h1, upd_same, this]
  · rw [upd_ne h1, Heap.g_push_lt _ _ _ (by omega), g_toArr ent f (by omega)]

/-- zeroing the cells of a node outside the tree (heap-inl.h:115-117) changes nothing represented -/
theorem rep_clear {x : Nat} (h : Rep s f n) (hx : ∀ i, f i ≠ x) :
    Rep { s with m := setParent (setRight (setLeft s.m x 0) x 0) x 0 } f n := by
  refine ⟨h.nelts, h.min, h.live, h.dead, h.inj, ?_, ?_, ?_⟩
  · intro i hi; simp [hx i, h.left i hi]
  · intro i hi; simp [hx i, h.right i hi]
  · intro i hi; simp [hx i]; exact h.parent i hi

/-- heap-inl.h:139-141 on a represented heap whose new node has NULL cells: the node becomes position `n` -/
theorem link_rep {x : Nat} (h : Rep s f n) (hx : ∀ i, f i ≠ x)
    (hl : s.m.left x = 0) (hr : s.m.right x = 0) :
    Rep (store { s with m := setParent s.m x (if n = 0 then 0 else f ((n - 1) / 2)), nelts := n + 1 } (slotOf f (n + 1)) x)
      (upd f n x) (n + 1) := by
  have hd : ∀ k, n < k → 0 = f k := fun k hk => (h.dead k (Nat.le_of_lt hk)).symm
  have hx0 : x ≠ 0 := fun e => hx n (e ▸ h.dead n (Nat.le_refl n))
  refine store_upd_rep h.nodes (fun k hk => by omega) (by simp [hx0]) (fun k _ => hx k) rfl h.min
    (fun k hk _ => h.left k hk) (fun k hk _ => h.right k hk) (fun k hk _ => ?_)
    fun _ => ⟨hl.trans (hd _ (by omega)), hr.trans (hd _ (by omega)), if_pos rfl⟩
  rw [parent_upd (Nat.le_of_lt hk)]
  exact (if_neg (hx k)).trans (h.parent k hk)

/-- **heap_insert refines `Heap.insert`**: for every represented heap, every fresh node and every key
assignment, the memory after the C statements represents a complete tree with `n + 1` nodes whose
level-order key array is `Heap.insert` of the array before -/
theorem insert_refines_holds : insert_refines := by
  intro ent lt s f n x hlt h hx0 hx
  have hnel : s.nelts = n := h.nelts
  subst hnel
  have hc := rep_clear h hx
  have hpc := path_correct_insert hc
  have hd := (path_correct_insert_deref hc).2
  have hlink := link_rep hc hx (by simp) (by simp)
  unfold insert
  simp only [hpc, hd, store_nelts, store_nelts_eq]
  have hxs : x = upd f s.nelts x s.nelts := (upd_same ..).symm
  obtain ⟨f', h1, h2⟩ := siftUp_refines ent lt hlt (s.nelts + 1) _ _ s.nelts hlink (by omega) (by omega)
  rw [← hxs] at h1
  refine ⟨f', h1, ?_⟩
  rw [h2, toArr_append, Heap.insert, size_toArr]

theorem min_of_inv (hinv : Heap.Inv (toArr ent f n)) (j : Nat)
    (hj : j < n) : Heap.lt (ent (f j)) (ent (f 0)) = false := by
  have := Heap.min_is_min _ hinv j (by rwa [size_toArr])
  rwa [g_toArr ent f hj, g_toArr ent f (Nat.lt_of_le_of_lt (Nat.zero_le j) hj)] at this

/-- heap order and "`heap_min` is a least element" transfer from `Props/C04Heap` to the pointer heap -/
theorem insert_order_holds : insert_order_transfer := by
  intro _ ent lt s f n x hlt h hx0 hx hinv
  obtain ⟨f', h1, h2⟩ := insert_refines_holds ent lt s f n x hlt h hx0 hx
  have hinv' : Heap.Inv (toArr ent f' (n + 1)) := by rw [h2]; exact Heap.insert_inv _ _ hinv
  exact ⟨f', h1, hinv', h1.min, min_of_inv ent hinv'⟩

/-- one comparison of heap-inl.h:222-225, `if (x != NULL && less_than(x, smallest)) smallest = x;` with `x`
read from a cell that holds position `r`, is `Heap.pick` on the array -/
theorem pick_toArr {lt : Nat → Nat → Bool} (hlt : ∀ a b, lt a b = Heap.lt (ent a) (ent b))
    {f : Nat → Nat} {n m : Nat} (h : Nodes f n) (hm : m < n) (r : Nat) :
    (if f r ≠ 0 ∧ lt (f r) (f m) = true then f r else f m) = f (Heap.pick (toArr ent f n) m r) := by
  have e : (f r ≠ 0 ∧ lt (f r) (f m) = true) ↔
      (r < (toArr ent f n).size ∧ Heap.lt (Heap.g (toArr ent f n) r) (Heap.g (toArr ent f n) m) = true) := by
    rw [size_toArr, hlt, g_toArr ent f hm, Ne, h.eq_zero_iff, Nat.not_le]
    exact and_congr_right fun hr => by rw [g_toArr ent f hr]
  simp only [e]
  exact (apply_ite f ..).symm

/-- the sift-down loop (heap-inl.h:220-229) is `Heap.siftDown` on the level-order array; the node ends at
the position the array model reports -/
theorem siftDown_refines (ent : Nat → Heap.Ent) (lt : Nat → Nat → Bool)
    (hlt : ∀ a b, lt a b = Heap.lt (ent a) (ent b)) {n : Nat} :
    ∀ fuel (s : St) (f : Nat → Nat) (i : Nat), Rep s f n → i < n → n - i ≤ fuel →
    ∃ f', Rep (siftDown lt fuel s (f i)) f' n ∧ toArr ent f' n = (Heap.siftDown (toArr ent f n) i).1 ∧
      f' (Heap.siftDown (toArr ent f n) i).2 = f i ∧ (Heap.siftDown (toArr ent f n) i).2 < n := by
  intro fuel
  induction fuel with
  | zero => intro s f i _ _ h; omega
  | succ fuel ih =>
    intro s f i h hi hf
    have hcases := Heap.smallest_cases (toArr ent f n) i
    rw [size_toArr] at hcases
    have hp := Heap.pick_lt (toArr ent f n) (2 * i + 1) (s := i)
    rw [size_toArr] at hp
    -- the C's `smallest` is the node at the array model's `smallest`
    unfold siftDown
    simp only [h.left i hi, h.right i hi, pick_toArr ent hlt h.nodes hi, pick_toArr ent hlt h.nodes (hp hi),
      ← Heap.smallest_eq_pick]
    rw [Heap.siftDown]
    generalize Heap.smallest (toArr ent f n) i = j at hcases ⊢
    by_cases hs : j = i
    · rw [dif_pos hs, hs, if_pos rfl]
      exact ⟨f, h, rfl, rfl, hi⟩
    · obtain ⟨hj, hc⟩ : j < n ∧ (j = 2 * i + 1 ∨ j = 2 * i + 2) := by omega
      rw [dif_neg hs, if_neg fun e => hs ((h.nodes.eq_iff hj).1 e)]
      obtain ⟨f', h1, h2, h3, h4⟩ := ih _ _ j (swap_rep h hj hc) hj (by omega)
      rw [show exchange f i j j = f i from (if_neg hs).trans (if_pos rfl)] at h1 h3
      rw [swap_toArr ent f hi hj] at h2 h3 h4
      exact ⟨f', h1, h2, h3, h4⟩

/-- heap-inl.h:196-206 on the node cells -/
def replaceCells (m : Mem) (node child : Nat) : Mem :=
  let m := setLeft m child (m.left node)
  let m := setRight m child (m.right node)
  let m := setParent m child (m.parent node)
  let m := setParentIf m (m.left child) child
  setParentIf m (m.right child) child

/-- heap-inl.h:196-214 -/
def replaceStep (s : St) (node child : Nat) : St :=
  let m := replaceCells s.m node child
  relink s m (m.parent node) node child

theorem replaceCells_left (m : Mem) (node child x : Nat) :
    (replaceCells m node child).left x = if x = child then m.left node else m.left x := by
  simp [replaceCells]

theorem replaceCells_right (m : Mem) (node child x : Nat) :
    (replaceCells m node child).right x = if x = child then m.right node else m.right x := by
  simp [replaceCells]

theorem replaceCells_parent (m : Mem) (node child x : Nat) :
    (replaceCells m node child).parent x =
      if m.right node ≠ 0 ∧ x = m.right node then child
      else if m.left node ≠ 0 ∧ x = m.left node then child
      else if x = child then m.parent node else m.parent x := by
  simp [replaceCells]

/-- `heap_remove` on a non-empty heap, with heap-inl.h:196-214 folded into `replaceStep` -/
theorem remove_unfold (lt : Nat → Nat → Bool) (s : St) (node : Nat) (h0 : s.nelts ≠ 0) :
    remove lt s node =
      let max := (walk s (pathLoop s.nelts s.nelts 0 0).1 (pathLoop s.nelts s.nelts 0 0).2 Slot.root Slot.root).2
      let s1 : St := { s with nelts := s.nelts - 1 }
      let child := deref s1 max
      let s2 := store s1 max 0
      if child = node then (if child = s2.min then { s2 with min := 0 } else s2) else
      let s3 := replaceStep s2 node child
      let s4 := siftDown lt (s3.nelts + 1) s3 child
      siftUp lt (s4.nelts + 1) s4 child := by
  unfold remove replaceStep replaceCells relink
  rw [if_neg h0]

/-- heap-inl.h:181-185: the last node in level order is unlinked -/
theorem unlink_rep (h : Rep s f (n + 1)) :
    Rep (store { s with nelts := n } (slotOf f (n + 1)) 0) (upd f n 0) n :=
  store_upd_rep h.nodes (fun k hk => by omega) (by simp) (fun k hk => h.live k hk) rfl h.min
    (fun k hk _ => h.left k hk) (fun k hk _ => h.right k hk)
    (fun k hk _ => (h.parent k hk).trans (parent_upd (Nat.le_of_lt_succ hk)).symm)
    fun hn => absurd hn (Nat.lt_irrefl n)

/-- heap-inl.h:196-214: the unlinked node `c` takes the place of the node at position `i` -/
theorem replace_rep {s : St} {g : Nat → Nat} {n i c : Nat} (h : Rep s g n) (hi : i < n)
    (hc : ∀ k, g k ≠ c) : Rep (replaceStep s (g i) c) (upd g i c) n := by
  have hN := h.nodes
  have hc0 : c ≠ 0 := fun e => hc n (e ▸ h.dead n (Nat.le_refl n))
  have hL := h.left i hi
  have hR := h.right i hi
  have hP := h.parent i hi
  have hleft : ∀ k, k < n → k ≠ i → (replaceCells s.m (g i) c).left (g k) = g (2 * k + 1) := fun k hk _ => by
    rw [replaceCells_left, if_neg (hc k), h.left k hk]
  -- lines 208-214 store `c` into the lvalue of position `i`
  have e : replaceStep s (g i) c = store { s with m := replaceCells s.m (g i) c } (slotOf g (i + 1)) c := by
    refine relink_eq_store hN hi s _ c ?_ (fun p hpi hp => ?_) (fun p hpi hp => ?_)
    · rw [replaceCells_parent, hL, hR, hP, if_neg (fun e => hN.ne hi (by omega) e.2),
        if_neg (fun e => hN.ne hi (by omega) e.2), if_neg (hc i)]
    · rw [hleft p (Nat.lt_trans hpi hi) (Nat.ne_of_lt hpi), hp]
    · rw [hleft p (Nat.lt_trans hpi hi) (Nat.ne_of_lt hpi)]
      subst hp
      exact hN.ne (Nat.lt_of_succ_lt hi) (Nat.ne_of_lt (Nat.lt_succ_self _))
  have hcc : ∀ b, ¬ (g b ≠ 0 ∧ c = g b) := fun b e => hc b e.2.symm
  rw [e]
  refine store_upd_rep hN (fun _ _ => Iff.rfl) (by simp [hi, hc0]) (fun k _ => hc k) h.nelts h.min hleft
    (fun k hk _ => by rw [replaceCells_right, if_neg (hc k), h.right k hk]) (fun k hk hki => ?_)
    fun _ => ⟨(replaceCells_left ..).trans ((if_pos rfl).trans hL), (replaceCells_right ..).trans ((if_pos rfl).trans hR), ?_⟩
  · simp only [replaceCells_parent, hL, hR, hN.eq_iff hk, if_neg (hc k), h.parent k hk, hN.nonzero_and_eq_iff hk]
    by_cases h2 : k = 2 * i + 2
    · rw [h2, if_pos rfl, if_neg (Nat.succ_ne_zero _), Heap.parent_right, upd_same]
    · by_cases h1 : k = 2 * i + 1
      · rw [h1, if_neg (Nat.ne_of_lt (Nat.lt_succ_self _)), if_pos rfl, if_neg (Nat.succ_ne_zero _), Heap.parent_left,
          upd_same]
      · rw [if_neg h2, if_neg h1]
        split
        · rfl
        · rw [upd_ne (by omega)]
  · rw [replaceCells_parent, hL, hR, if_neg (hcc _), if_neg (hcc _), if_pos rfl, hP]

theorem deref_nelts (s : St) (k : Nat) (sl : Slot) : deref { s with nelts := k } sl = deref s sl := by
  cases sl <;> rfl

theorem toArr_dropLast (f : Nat → Nat) (n : Nat) :
    toArr ent (upd f n 0) n = (toArr ent f (n + 1)).pop := by
  have hs := size_toArr ent f (n + 1)
  refine eq_toArr ent _ (by rw [Array.size_pop, hs]; rfl) fun k hk => ?_
  rw [Heap.g_pop _ (by rwa [hs]), g_toArr ent f (Nat.lt_succ_of_lt hk), upd_ne (Nat.ne_of_lt hk)]

theorem toArr_replace (f : Nat → Nat) (n i : Nat) :
    toArr ent (upd (upd f n 0) i (f n)) n =
      ((toArr ent f (n + 1)).setIfInBounds i (Heap.g (toArr ent f (n + 1)) n)).pop := by
  have hs := size_toArr ent f (n + 1)
  refine eq_toArr ent _ (by rw [Array.size_pop, Array.size_setIfInBounds, hs]; rfl) fun k hk => ?_
  rw [Heap.g_setpop _ _ _ _ (by rwa [hs]), g_toArr ent f (Nat.lt_succ_self n), g_toArr ent f (Nat.lt_succ_of_lt hk)]
  by_cases h1 : k = i
  · rw [if_pos h1, h1, upd_same]
  · rw [if_neg h1, upd_ne h1, upd_ne (Nat.ne_of_lt hk)]
/-- **heap_remove refines `Heap.remove`**: for every represented heap and every member (root, interior,
leaf, last), the memory after the C statements represents a complete tree with `n - 1` nodes whose
level-order key array is `Heap.remove` of the array before at the member's position -/
theorem remove_refines_holds : remove_refines := by
  intro ent lt s f n i hlt h hi
  obtain ⟨n, rfl⟩ : ∃ n', n = n' + 1 := ⟨n - 1, by omega⟩
  have hN := h.nodes
  have hpr := path_correct_remove h (Nat.succ_pos n)
  have hu := unlink_rep h
  rw [remove_unfold lt s (f i) (by rw [h.nelts]; omega)]
  simp only [h.nelts, hpr.1, deref_nelts, hpr.2, Nat.add_sub_cancel]
  have hsz := size_toArr ent f (n + 1)
  have hn := Nat.lt_succ_self n
  have hfresh : ∀ k, upd f n 0 k ≠ f n := fun k => by
    by_cases hk : k = n
    · rw [hk, upd_same]; exact (hN.live n hn).symm
    · rw [upd_ne hk]; exact (hN.ne hn (Ne.symm hk)).symm
  by_cases hl : i = n
  · subst hl
    rw [if_pos rfl, if_neg (hu.min ▸ (hfresh 0).symm)]
    exact ⟨_, hu, by rw [toArr_dropLast, Heap.remove_of_last _ _ (by omega) (by omega)]⟩
  · have hi' : i < n := by omega
    have hrep := replace_rep hu hi' hfresh
    rw [upd_ne hl] at hrep
    rw [if_neg (hN.ne hn (Ne.symm hl)), hrep.nelts]
    obtain ⟨f3, r3, a3, p3, j3⟩ := siftDown_refines ent lt hlt (n + 1) _ _ i hrep hi' (by omega)
    rw [upd_same] at r3 p3
    rw [r3.nelts]
    obtain ⟨f4, r4, a4⟩ := siftUp_refines ent lt hlt (n + 1) _ _ _ r3 j3 (by omega)
    rw [p3] at r4
    exact ⟨f4, r4, by rw [a4, a3, Heap.remove_of_lt _ _ (by omega), toArr_replace ent f n i, hsz]; rfl⟩

/-- heap_dequeue = heap_remove of the root -/
theorem dequeue_refines (ent : Nat → Heap.Ent) (lt : Nat → Nat → Bool) (s : St) (f : Nat → Nat) (n : Nat)
    (hlt : ∀ a b, lt a b = Heap.lt (ent a) (ent b)) (h : Rep s f n) (hn : 0 < n) :
    ∃ f', Rep (dequeue lt s) f' (n - 1) ∧ toArr ent f' (n - 1) = Heap.remove (toArr ent f n) 0 := by
  unfold dequeue; rw [h.min]; exact remove_refines_holds ent lt s f n 0 hlt h hn

/-- heap order and "`heap_min` is a least element" after heap_remove of any member, transferred from
`Props/C04Heap` -/
theorem remove_order_holds (ent : Nat → Heap.Ent) (lt : Nat → Nat → Bool) (s : St) (f : Nat → Nat) (n i : Nat)
    (hlt : ∀ a b, lt a b = Heap.lt (ent a) (ent b)) (h : Rep s f n) (hi : i < n)
    (hinv : Heap.Inv (toArr ent f n)) :
    ∃ f', Rep (remove lt s (f i)) f' (n - 1) ∧ Heap.Inv (toArr ent f' (n - 1)) ∧
      (remove lt s (f i)).min = f' 0 ∧ ∀ j, j < n - 1 → Heap.lt (ent (f' j)) (ent (f' 0)) = false := by
  obtain ⟨f', h1, h2⟩ := remove_refines_holds ent lt s f n i hlt h hi
  have hinv' : Heap.Inv (toArr ent f' (n - 1)) := by rw [h2]; exact Heap.remove_inv _ _ hinv
  exact ⟨f', h1, hinv', h1.min, min_of_inv ent hinv'⟩

/-! ## non-vacuity: heaps built by the model's own `heap_insert` -/

def exKey : Nat → Nat := fun i => [0, 50, 30, 40, 10, 20, 35, 5].getD i 0
def exLt (a b : Nat) : Bool := exKey a < exKey b
def exEnt (i : Nat) : Heap.Ent := ⟨exKey i, 0, i⟩
def s0 : St := init ⟨⟨fun _ => 0, fun _ => 0, fun _ => 0⟩, 0, 0⟩
def exIns (l : List Nat) : St := l.foldl (insert exLt) s0
/-- node at 1-based level-order position `q`, read from the pointer memory -/
def posNode (s : St) : Nat → Nat → Nat
  | 0, _ => 0
  | fuel + 1, q => if q ≤ 1 then s.min else
      if q % 2 = 1 then s.m.right (posNode s fuel (q / 2)) else s.m.left (posNode s fuel (q / 2))
def levelOrder (s : St) : List Nat := (List.range s.nelts).map fun i => posNode s 8 (i + 1)
def arrOf (s : St) : Heap.H := ((levelOrder s).map exEnt).toArray

theorem levelOrder_exIns7 : levelOrder (exIns [1, 2, 3, 4, 5, 6, 7]) = [7, 5, 4, 1, 2, 3, 6] := by decide +kernel

/-- seven inserts (keys 50 30 40 10 20 35 5: several sift-ups, one to the root through two levels) -/
example : levelOrder (exIns [1, 2, 3, 4, 5, 6, 7]) = [7, 5, 4, 1, 2, 3, 6] := levelOrder_exIns7
/-- the pointer heap after each insert is `Heap.insert` of the array before -/
example : arrOf (exIns [1, 2, 3, 4, 5, 6, 7]) = Heap.insert (arrOf (exIns [1, 2, 3, 4, 5, 6])) (exEnt 7) := by
  -- the array handed to `Heap.insert` is normalised first: left as a term, the kernel evaluates it again at
  -- every place the array model reads it
  have h : levelOrder (exIns [1, 2, 3, 4, 5, 6]) = [4, 5, 6, 1, 2, 3] := by decide +kernel
  unfold arrOf
  rw [h]
  decide +kernel
/-- removing an interior node (position 1, node 5) and the root -/
example : levelOrder (remove exLt (exIns [1, 2, 3, 4, 5, 6, 7]) 5) = [7, 2, 4, 1, 6, 3] ∧
    arrOf (remove exLt (exIns [1, 2, 3, 4, 5, 6, 7]) 5) = Heap.remove (arrOf (exIns [1, 2, 3, 4, 5, 6, 7])) 1 ∧
    arrOf (dequeue exLt (exIns [1, 2, 3, 4, 5, 6, 7])) = Heap.remove (arrOf (exIns [1, 2, 3, 4, 5, 6, 7])) 0 := by
  unfold arrOf
  rw [levelOrder_exIns7]
  decide +kernel
/-- `heap_node_swap` on that heap: root with its right child -/
example : levelOrder (swap (exIns [1, 2, 3, 4, 5, 6, 7]) 7 4) = [4, 5, 7, 1, 2, 3, 6] := by decide +kernel

end UvModel.HeapPtr
