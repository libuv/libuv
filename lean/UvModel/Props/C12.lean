import UvModel.ProcFd
import UvModel.Lemmas.ProcFdLemmas
/-! # C12 — property theorems (child stdio mapping, error pipe, status decode, exit_cb exactly once) -/
namespace UvModel.ProcFd

/-- **stdio_mapping.** For every descriptor table at fork time in which every open descriptor is
close-on-exec (C15's guarantee), every stdio layout `pipes` (any length, any permutation, aliasing or
overlap of sources, sources below / equal to / above their slot, ignored slots) whose sources are open,
and any open error-pipe descriptor `efd` (no relation to `stdio_count` assumed):
`uv__process_child_init` reaches `execvp`; at that moment the (possibly moved) error descriptor still
refers to the error pipe and is close-on-exec; and after the exec the table is *exactly* `expected`:
slot `i < stdio_count` is the file source `i` referred to at fork, inheritable; ignored slots 0–2 are
`/dev/null`; every other descriptor — ignored slots ≥ 3, everything ≥ stdio_count, all temporaries, the
error pipe — is closed. -/
theorem stdio_mapping (t : Tab) (pipes : List Int) (efd : Nat) (ef : Ent)
    (hw : t.WF) (hc : AllCx t)
    (hsrc : ∀ (i : Nat) (u : Int), pipes[i]? = some u → 0 ≤ u → t.get u.toNat ≠ none)
    (herr : t.get efd = some ef) :
    ∃ t' efd', childInit t pipes efd = .ok t' efd' ∧
      t'.get efd' = some ⟨ef.file, true⟩ ∧
      ∀ fd, (execClose t').get fd = expected t pipes fd := by
  obtain ⟨h1, h2⟩ := childInit_spec hw hc pipes efd ef herr
  obtain ⟨hok, hexp⟩ := h2 hsrc
  cases hr : childInit t pipes efd with
  | ok t' e' => rw [hr] at h1 hexp; exact ⟨t', e', rfl, h1, hexp⟩
  | fail t' e' => rw [hr] at hok; cases hok

/-- **error pipe survives** (the repaired L9): in *every* outcome of the descriptor shuffling — exec
reached, or a failure exit through `uv__write_errno(error_fd)` because some source is not open — the
descriptor the child would write the errno to is the error pipe (and close-on-exec), for any
`stdio_count`, in particular `stdio_count > error_fd`. -/
theorem error_pipe_intact (t : Tab) (pipes : List Int) (efd : Nat) (ef : Ent)
    (hw : t.WF) (hc : AllCx t) (herr : t.get efd = some ef) :
    (childInit t pipes efd).tab.get (childInit t pipes efd).efd = some ⟨ef.file, true⟩ :=
  (childInit_spec hw hc pipes efd ef herr).1

/-- non-vacuity: stdout/stderr swapped, stdin ignored, slot 3 ← fd 0, slot 4 = the error pipe's own
number (stdio_count 5 > error fd 4), parent has fds 0,1,2,4,7 open, all close-on-exec. -/
def exTab : Tab :=
  ((((Tab.empty.set 0 (some ⟨.desc 0, true⟩)).set 1 (some ⟨.desc 1, true⟩)).set 2 (some ⟨.desc 2, true⟩)).set 4
    (some ⟨.desc 4, true⟩)).set 7 (some ⟨.desc 7, true⟩)

example : (childInit exTab [-1, 2, 1, 0, 7] 4).isOk = true ∧
    (List.range 12).map (fun fd => (execClose (childInit exTab [-1, 2, 1, 0, 7] 4).tab).get fd) =
      [some ⟨.devNull false, false⟩, some ⟨.desc 2, false⟩, some ⟨.desc 1, false⟩, some ⟨.desc 0, false⟩,
       some ⟨.desc 7, false⟩, none, none, none, none, none, none, none] ∧
    (childInit exTab [-1, 2, 1, 0, 7] 4).efd = 5 := by decide +kernel

example : exTab.WF ∧ (∀ k, k < 9 → ∀ e, exTab.get k = some e → e.cloexec = true) := by
  exact ⟨wf_set (wf_set (wf_set (wf_set (wf_set (fun _ _ => rfl) _ _) _ _) _ _) _ _) _ _, by decide⟩

/-- **decode_status.** The macros as used at process.c:166-172 recover the exit code of a normally
exited child and the terminating signal (core-dump bit set or not) of a killed one, for every status
word the kernel can produce for these two kinds. -/
theorem decode_status :
    (∀ code, code < 256 → decode (code <<< 8) = (code, 0)) ∧
    (∀ sig, sig < 127 → 0 < sig → ∀ core, core < 2 → decode (sig ||| (core <<< 7)) = (0, sig)) := by
  constructor
  · intro code h
    have h1 : code * 2 ^ 8 % 128 = 0 := by omega
    have h2 : code * 2 ^ 8 / 256 % 256 = code := by
      rw [Nat.mul_div_cancel _ (by decide), Nat.mod_eq_of_lt h]
    rw [decode_eq, Nat.shiftLeft_eq, h1, h2]
    rfl
  · intro sig h h0 core _
    have h1 : (core * 2 ^ 7 + sig) % 128 = sig := by
      rw [Nat.mul_add_mod_self_right, Nat.mod_eq_of_lt (by omega)]
    rw [Nat.or_comm, ← Nat.shiftLeft_add_eq_or_of_lt (by omega), decode_eq, Nat.shiftLeft_eq, h1,
      if_neg (by omega), if_pos ⟨h0, h⟩]

example : decode 0x0100 = (1, 0) ∧ decode 0x008b = (0, 11) ∧ decode 9 = (0, 9) := by decide +kernel

/-- **exit_once (safety).** After *every* history, for every child: `waitpid` returned it at most once
(a reaped child is never waited for again), `exit_cb` ran exactly as often as it was reaped — so at
most once.  (Holding after every history, this also means that between two operations no `exit_cb` is
ahead of its reap; the order of the entries one SIGCHLD round appends is not part of the statement.) -/
theorem exit_at_most_once (ops : List Op) (id : Nat) :
    waitCount (runP {} ops).log id ≤ 1 ∧
    cbCount (runP {} ops).log id = waitCount (runP {} ops).log id :=
  ⟨Nat.le_trans (Nat.le_add_right _ _) ((inv_run inv_init ops).once id), (inv_run inv_init ops).cbw id⟩

/-- **exit_cb tells the truth.** Every `exit_cb` in any history is for a child whose spawn succeeded
(never for a failed spawn), which the kernel really terminated with some status word `st`, which
`waitpid` reported with exactly that word, and the callback's arguments are that word decoded as at
process.c:166-172. -/
theorem exit_cb_true_status (ops : List Op) (e : ExitEv) (h : Log.cb e ∈ (runP {} ops).log) :
    e.id ∈ (runP {} ops).okIds ∧
    ∃ st, (e.id, st) ∈ (runP {} ops).exits ∧ Log.waited e.id st ∈ (runP {} ops).log ∧
      e.exitStatus = (decode st).1 ∧ e.termSignal = (decode st).2 := by
  have inv := inv_run inv_init ops
  obtain ⟨st, h1, h2, h3⟩ := inv.dec e h
  exact ⟨inv.okW _ _ h1, st, inv.truth _ _ h1, h1, h2, h3⟩

/-- **exit_once (liveness, coalescing).** In any reachable state, one SIGCHLD round reports *every*
tracked child that has terminated — however many there are at once (the statement is for all `id`
simultaneously, about the same round) —: exactly one `exit_cb` in total with the decoded status, the
child is reaped (gone from the kernel) and no longer tracked. -/
theorem exit_reported (ops : List Op) (id st : Nat)
    (ht : id ∈ (runP {} ops).tracked) (hz : (runP {} ops).kern id = .zombie st) :
    let s' := stepP (runP {} ops) .sigchld
    cbCount s'.log id = 1 ∧ Log.cb ⟨id, (decode st).1, (decode st).2⟩ ∈ s'.log ∧
    id ∉ s'.tracked ∧ s'.kern id = .gone := by
  have inv' := inv_step (inv_run inv_init ops) .sigchld
  have hgone : (stepP (runP {} ops) .sigchld).kern id = .gone := by
    rw [sigchld_kern, if_pos (mem_reapedIds.mpr ⟨ht, st, hz⟩)]
  have hcb : Log.cb ⟨id, (decode st).1, (decode st).2⟩ ∈ (stepP (runP {} ops) .sigchld).log :=
    cb_mem_sigchld.mpr (.inr ⟨id, st, ⟨ht, hz⟩, rfl⟩)
  refine ⟨?_, hcb, fun hin => inv'.alive id hin hgone, hgone⟩
  have h1 := inv'.cbw id
  have h2 := inv'.once id
  have h3 : 0 < cbCount (stepP (runP {} ops) .sigchld).log id :=
    List.length_pos_of_mem (List.mem_filter.mpr ⟨hcb, beq_self_eq_true id⟩)
  omega

/-- **tracked until reaped.** A successfully spawned child enters the tracked list, and leaves it only
by being reaped in a SIGCHLD round (having terminated) or by `uv_close` of its handle — in particular
not because *other* children exited, were spawned, or failed to spawn. -/
theorem tracked_until_reaped (s : PS) (op : Op) (id : Nat) (ht : id ∈ s.tracked) :
    id ∈ (stepP s op).tracked ∨ op = .closeHandle id ∨
      (op = .sigchld ∧ ∃ st, s.kern id = .zombie st) := by
  cases op with
  | spawnOk => exact Or.inl (by simp [stepP, ht])
  | spawnFail => exact Or.inl ht
  | childExit c st => exact Or.inl (by simp only [stepP]; split <;> exact ht)
  | closeHandle c =>
    by_cases h : id = c
    · exact Or.inr (Or.inl (by rw [h]))
    · exact Or.inl (by simp [stepP, ht, h])
  | sigchld =>
    by_cases hm : id ∈ reapedIds s
    · exact Or.inr (Or.inr ⟨rfl, (mem_reapedIds.mp hm).2⟩)
    · exact Or.inl (sigchld_tracked.mpr ⟨ht, hm⟩)

theorem spawn_ok_tracked (s : PS) : s.nspawned ∈ (stepP s .spawnOk).tracked := by simp [stepP]

/-- **spawn_failure_clean** (decision level, process.c:957-979 + 1057-1078): whatever errno the child
reported, `uv_spawn` returns that error; then, and when the read failed with EPIPE, it has reaped the
child itself and does not activate the handle; a failed `fork` is returned the same way, without
activation; in the history model a failed spawn's id is never tracked and never gets an `exit_cb`. -/
theorem spawn_failure_clean :
    (∀ e, 0 < e → (spawnParent (.errno e)).ret = -(e : Int) ∧ (spawnParent (.errno e)).ret ≠ 0 ∧
      (spawnParent (.errno e)).reapedSync = true ∧ (spawnParent (.errno e)).activated = false) ∧
    (spawnParent .epipe).reapedSync = true ∧ (spawnParent .epipe).activated = false ∧
    (∀ e, 0 < e → (spawnParent (.forkFailed e)).ret = -(e : Int) ∧ (spawnParent (.forkFailed e)).activated = false) ∧
    (∀ (ops : List Op) (ops' : List Op),
      let s := runP {} ops
      let s' := runP (stepP s .spawnFail) ops'
      s.nspawned ∉ s'.tracked ∧ cbCount s'.log s.nspawned = 0) := by
  refine ⟨fun e he => ⟨rfl, ?_, rfl, ?_⟩, rfl, rfl, fun e he => ⟨rfl, ?_⟩, fun ops ops' => ?_⟩
  · show -(e : Int) ≠ 0
    omega
  · show decide (-(e : Int) = 0) = false
    exact decide_eq_false (by omega)
  · show decide (-(e : Int) = 0) = false
    exact decide_eq_false (by omega)
  · have inv := inv_run inv_init ops
    have hinv := inv_run (inv_step inv .spawnFail) ops'
    have hnok := not_mem_okIds_runP ops' (stepP (runP {} ops) .spawnFail) (Nat.lt_succ_self _)
      fun h => Nat.lt_irrefl _ (inv.okLt _ h)
    exact ⟨fun h => hnok (hinv.okT _ h), (hinv.cbw _).trans (hinv.not_waited hnok)⟩

/-- **parent_table_init.** The table uv_spawn hands to the child has `max(stdio_count, 3)` entries, for
*any* stdio_count (inline array or heap block alike), and entry `i` is: the container's descriptor for
an inherit slot, the slot's own pipe end for UV_CREATE_PIPE, and `-1` for every UV_IGNORE slot and for
the padding slots — never a left-over value. -/
theorem parent_table_init (stdio : List Stdio) :
    (parentTable stdio).length = max stdio.length 3 ∧
    ∀ i, i < max stdio.length 3 →
      (parentTable stdio)[i]? = some (match stdio[i]? with
        | some (.inheritFd fd) => .fd fd
        | some .createPipe => .pipeEnd
        | _ => .fd (-1)) := by
  have key : ∀ (cs : List Stdio) (n : Nat), cs.length ≤ n →
      (fillTable cs (initTable n)).length = n ∧
      ∀ i, i < n → (fillTable cs (initTable n))[i]? = some (match cs[i]? with
        | some (.inheritFd fd) => .fd fd
        | some .createPipe => .pipeEnd
        | _ => .fd (-1)) := by
    intro cs
    induction cs with
    | nil =>
      intro n _
      exact ⟨List.length_replicate, fun i hi => by simp [fillTable, initTable, hi]⟩
    | cons c rest ih =>
      intro n hn
      cases n with
      | zero => cases hn
      | succ n =>
        obtain ⟨h1, h2⟩ := ih n (Nat.le_of_succ_le_succ hn)
        rw [fillTable_cons]
        refine ⟨congrArg (· + 1) h1, fun i hi => ?_⟩
        cases i with
        | zero => cases c <;> rfl
        | succ i => exact h2 i (Nat.lt_of_succ_lt_succ hi)
  exact key stdio (max stdio.length 3) (by omega)

example : parentTable [.ignore, .inheritFd 5, .createPipe, .ignore, .ignore, .ignore, .ignore, .ignore, .ignore, .inheritFd 1] =
    [.fd (-1), .fd 5, .pipeEnd, .fd (-1), .fd (-1), .fd (-1), .fd (-1), .fd (-1), .fd (-1), .fd 1] ∧
    parentTable [] = [.fd (-1), .fd (-1), .fd (-1)] := by decide +kernel

/-- non-vacuity: three children, two exit before the loop runs (one killed by SIGSEGV with core), one
SIGCHLD round reports both, the third later; a failed spawn in between gets nothing. -/
example :
    let s := runP {} [.spawnOk, .spawnOk, .spawnFail, .spawnOk, .childExit 0 (3 <<< 8), .childExit 3 (11 ||| 128),
                      .sigchld, .childExit 1 0, .sigchld, .sigchld]
    s.log = [.waited 0 768, .waited 3 139, .cb ⟨0, 3, 0⟩, .cb ⟨3, 0, 11⟩, .waited 1 0, .cb ⟨1, 0, 0⟩] ∧
    s.tracked = [] := by decide +kernel

end UvModel.ProcFd
