import UvModel.Accept
import UvModel.Lemmas.SendLemmas
/-! # C07 — a handle given to `uv_write2` rides on exactly one successful syscall of its request
(uv__write / uv__try_write, stream.c:754-898).  Quantified over every interleaving of `uv_write2`
submissions and write attempts with arbitrary kernel results (short transfers, EAGAIN, errors). -/
namespace UvModel.Accept

/-- **send_handle_once**: for every request, at most one *successful* sendmsg carried a descriptor
(a continuation after a short transfer never re-attaches it; a retry after EAGAIN does, nothing was sent). -/
theorem send_handle_once (ops : List SOp) (r : Nat) : carried (srun {} ops) r ≤ 1 :=
  (sinv_run ops {} sinv_init).once r

/-- … and exactly one as soon as any syscall of a request submitted with a handle succeeded — in
particular for every such request that completed with status 0: the receiver gets one descriptor per
sending write, never none. -/
theorem send_handle_exactly_once (ops : List SOp) (r : Nat) (hh : hadHandle (srun {} ops) r = true) :
    (1 ≤ succeeded (srun {} ops) r → carried (srun {} ops) r = 1) ∧
    ((r, (0 : Int)) ∈ (srun {} ops).done → carried (srun {} ops) r = 1) := by
  have h1 := sinv_run ops {} sinv_init
  have h2 := sentInv_run ops {} sinv_init sentInv_init
  have once hs := Nat.le_antisymm (h1.once r) (h2.exact r hh hs)
  exact ⟨once, fun hd => once (h2.fin r hd)⟩

/-- while the descriptor has not gone out, every attempt of the head request attaches it: a request
still holding its handle has had no successful syscall -/
theorem send_handle_kept_until_sent (ops : List SOp) (q : WReq) (hq : q ∈ (srun {} ops).queue)
    (hh : q.handle.isSome = true) : succeeded (srun {} ops) q.id = 0 :=
  (sinv_run ops {} sinv_init).fresh q hq hh

def exSend : SSt := srun {} [.enq 10 (some 7), .enq 5 none, .attempt 4, .attempt (-11), .attempt 3, .attempt 3, .attempt 5]
example : hadHandle exSend 0 = true ∧ carried exSend 0 = 1 ∧ succeeded exSend 0 = 3 ∧ carried exSend 1 = 0 ∧
    exSend.done = [(0, 0), (1, 0)] ∧
    exSend.log.map (·.2.1) = [some 7, none, none, none, none] := by decide +kernel

end UvModel.Accept
