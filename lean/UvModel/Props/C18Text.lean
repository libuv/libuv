import UvModel.Lemmas.PunyLemmas
import UvModel.Lemmas.Wtf8Lemmas
/-!
  C18, text half: property theorems about the models of /repo/src/idna.c
  (`UvModel/Utf8.lean`, `UvModel/Puny.lean`, `UvModel/Wtf8.lean`).
  Helper lemmas: `UvModel/Lemmas/BitArith.lean`, `Utf8Lemmas.lean`, `PunyStores.lean`, `PunyLemmas.lean`,
  `Wtf8Lemmas.lean`.  Bytes / code units are `Nat`s; `Bytes l` says every element is < 256.  Where a
  theorem needs the input to be shorter than 2^32 bytes (the C counters are 32-bit) it says so as a
  hypothesis; no other bound on the length is assumed.
-/
namespace UvModel.C18Text
open UvModel.Utf8

/-- `uv__utf8_decode1` returns the value `v` and advances by `n` **iff** the input starts with a
    well-formed sequence (Unicode Table 3-7) whose scalar value is `v` and whose length is `n`. -/
theorem utf8_accepts_iff_wellformed (l : List Nat) (hl : Bytes l) (v n : Nat) :
    decode1 l = (some v, n) ↔ spec l = some (v, n) :=
  decode1_iff_spec l hl v n

example : spec [0xF0, 0x9F, 0x98, 0x80, 0x41] = some (0x1F600, 4) := by decide
example : spec [0xEF, 0xBD, 0xA1] = some (0xFF61, 3) := by decide
example : decode1 [0xF4, 0x8F, 0xBF, 0xBF] = (some 0x10FFFF, 4) := by decide

/-- "-1 otherwise": anything that does not start with a well-formed sequence (ill-formed lead or
    trailing byte, overlong form, surrogate, above U+10FFFF, cut short by the end of the input) is
    rejected. -/
theorem utf8_rejects_illformed (l : List Nat) (hl : Bytes l) (h : spec l = none) :
    (decode1 l).1 = none := by
  cases hd : decode1 l with
  | mk r n =>
    cases r with
    | none => rfl
    | some v =>
      have := (utf8_accepts_iff_wellformed l hl v n).mp hd
      rw [h] at this; cases this

-- trailing bytes that are not continuation bytes although their XOR looks like one (idna.c:117 tests
-- each of them); overlongs; surrogates; above U+10FFFF
example : spec [0xE1, 0x41, 0x41] = none ∧ (decode1 [0xE1, 0x41, 0x41]).1 = none := by decide
example : spec [0xF1, 0x20, 0x41, 0xC1] = none ∧ (decode1 [0xF1, 0x20, 0x41, 0xC1]).1 = none := by decide
example : spec [0xC0, 0x80] = none ∧ spec [0xE0, 0x80, 0x80] = none ∧ spec [0xED, 0xA0, 0x80] = none ∧
    spec [0xF4, 0x90, 0x80, 0x80] = none := by decide

/-- A sequence cut short by the end of the input is rejected: a lead byte
    that announces more trailing bytes than remain never yields a value, whatever those bytes are. -/
theorem utf8_truncated_rejected (a : Nat) (rest : List Nat) (hb : Bytes (a :: rest)) (ha : 128 ≤ a)
    (h : rest.length < need a) : (decode1 (a :: rest)).1 = none := by
  rw [decode1_short ha h]

example : (decode1 [0xE2, 0x82]).1 = none ∧ (decode1 [0xF1, 0x9F, 0x98]).1 = none := by decide


open UvModel.Puny

/-- `toascii_bounded`: whatever the input, valid or not, and whatever the result (success or any
    error): the bytes stored never reach `de` (`out.length ≤ cap`; since stores only append, this
    holds at every intermediate point too), and on success the return value is the number of bytes
    stored, the last of them the NUL — inside the buffer. -/
theorem toascii_bounded (s : List Nat) (cap : Nat) :
    (toascii s cap).2.cap = cap ∧ (toascii s cap).2.out.length ≤ cap ∧
    (0 ≤ (toascii s cap).1 → ∃ pre, (toascii s cap).2.out = pre ++ [0] ∧
        (toascii s cap).1 = ((pre.length + 1 : Nat) : Int) ∧ pre.length + 1 ≤ cap) := by
  have h := toascii_par s cap cap
  exact ⟨(h.le (Nat.zero_le _)).1, (h.le (Nat.zero_le _)).2, h.success⟩

/-- every store of the label encoder is bounded as well (any starting position `b` in the buffer) -/
theorem toascii_label_bounded (bytes : List Nat) (b : Buf) (h : b.out.length ≤ b.cap) :
    (label bytes b).2.cap = b.cap ∧ b.out <+: (label bytes b).2.out ∧
    (label bytes b).2.out.length ≤ b.cap := by
  have he := (label_par bytes (Par.refl b b)).2.cap_prefix_le
  exact ⟨he.1, he.2.1, he.2.2 h⟩

/-- the only results: a length, UV_EINVAL, UV_E2BIG (32-bit overflow of `delta`), or the model's
    out-of-fuel marker (excluded by `toascii_fuel_suffices` below for byte strings < 2^32) -/
theorem toascii_result_codes (s : List Nat) (cap : Nat) :
    0 ≤ (toascii s cap).1 ∨ (toascii s cap).1 = UV_EINVAL ∨ (toascii s cap).1 = UV_E2BIG ∨
      (toascii s cap).1 = FUEL_OUT := by
  unfold toascii
  split
  · right; left; rfl
  · exact scan_rc _ _ _

/-- `toascii_bounded`, second half — "UV_EINVAL when it does not fit": the outcome depends on the
    destination size only through "does the result fit".  If the conversion succeeds with `n` bytes
    (NUL included) in a destination of `cap'` bytes, then every destination of at least `n` bytes
    receives exactly the same bytes and returns `n`, and every destination of fewer than `n` bytes
    returns UV_EINVAL.  (Proof: both runs perform the same stores, `toascii_par` in PunyStores; a destination
    keeps as many of them as it has room for.) -/
theorem toascii_fits_iff (s : List Nat) (cap cap' : Nat) (h : 0 ≤ (toascii s cap').1) :
    ((toascii s cap').1 ≤ (cap : Int) → (toascii s cap).1 = (toascii s cap').1 ∧
        (toascii s cap).2.out = (toascii s cap').2.out) ∧
    ((cap : Int) < (toascii s cap').1 → (toascii s cap).1 = UV_EINVAL) := by
  rcases toascii_par s cap cap' with ⟨h1, e, -⟩ | ⟨c, c', ⟨l, rfl, rfl⟩, hr, hr'⟩
  · omega
  · obtain ⟨a1, a2⟩ := addNul_putAll l cap
    obtain ⟨a1', a2'⟩ := addNul_putAll l cap'
    rw [hr'] at h; rw [hr, hr']
    by_cases hc' : cap' ≤ l.length
    · rw [a1' hc'] at h; exact absurd h (by decide)
    · rw [a2' (by omega)]
      refine ⟨fun hle => ?_, fun hgt => a1 (by simp only [] at hgt; omega)⟩
      rw [a2 (by simp only [] at hle; omega)]
      exact ⟨rfl, rfl⟩

/-- Fuel suffices: the model's outer Punycode loop is given `len + 1` passes; every pass encodes at
    least one of the remaining code points (`todo` = number of code points `≥ n`, strictly
    decreasing), so for every byte string shorter than 2^32 the out-of-fuel marker is never the
    result — the model's `while (todo > 0)` is the C loop. -/
theorem toascii_fuel_suffices (s : List Nat) (cap : Nat) (hb : Bytes s) (hlen : s.length < 4294967296) :
    (toascii s cap).1 ≠ FUEL_OUT := by
  unfold toascii
  split
  · show UV_EINVAL ≠ FUEL_OUT; decide
  · exact scan_no_fuel [] s _ (by intro x hx; simp at hx) hb (by simpa using hlen)

/-- hence the only results are a length, UV_EINVAL and UV_E2BIG -/
theorem toascii_result_codes_exact (s : List Nat) (cap : Nat) (hb : Bytes s) (hlen : s.length < 4294967296) :
    0 ≤ (toascii s cap).1 ∨ (toascii s cap).1 = UV_EINVAL ∨ (toascii s cap).1 = UV_E2BIG := by
  rcases toascii_result_codes s cap with h | h | h | h
  · exact Or.inl h
  · exact Or.inr (Or.inl h)
  · exact Or.inr (Or.inr h)
  · exact absurd h (toascii_fuel_suffices s cap hb hlen)

/-- a destination too small for even the terminator is UV_EINVAL -/
example : (toascii [0x61] 1).1 = UV_EINVAL ∧ (toascii [0x61] 2) = (2, { out := [0x61, 0], cap := 2 }) := by
  constructor <;> simp [toascii, scan, decode1, isDot, label, decodeAll, countLoop, writeAscii, Buf.put,
    UV_EINVAL]

/-- `toascii_ascii_identity`: a label made of ASCII bytes only is stored unchanged, byte for byte,
    through the guarded stores (`putAll`), nothing else is stored, and the label function returns its
    length.  (`putAll_out`: when the label fits, the destination is exactly `b.out ++ bytes`.) -/
theorem toascii_ascii_identity (bytes : List Nat) (b : Buf) (h : ∀ x ∈ bytes, x < 128)
    (hlen : bytes.length < 4294967296) :
    label bytes b = ((bytes.length : Int), putAll b bytes) ∧
    (b.out.length + bytes.length ≤ b.cap → (label bytes b).2.out = b.out ++ bytes) := by
  have := label_ascii bytes b h hlen
  exact ⟨this, fun hc => by rw [this, (putAll_out bytes b).1, List.take_of_length_le (by omega)]⟩

example : label [0x77, 0x77, 0x77] { cap := 8 } = (3, { out := [0x77, 0x77, 0x77], cap := 8 }) :=
  (toascii_ascii_identity [0x77, 0x77, 0x77] { cap := 8 } (by intro x hx; simp at hx; omega) (by simp)).1

/-- `toascii_prefix_iff_nonascii` (per label, well-formed UTF-8 with scalar values `vs`):
    * if some code point is non-ASCII, the first four stores are "xn--" (as far as there is room);
    * if none is, exactly the label itself is stored — no prefix is added.
    (A literal "starts with xn-- iff non-ASCII" would be false for the ASCII label "xn--abc", which is
    copied unchanged.) -/
theorem toascii_prefix_iff_nonascii (bytes : List Nat) (b : Buf) (hb : Bytes bytes) (vs : List Nat)
    (hs : specAll bytes = some vs) (hlen : bytes.length < 4294967296) (hvl : vs.length < 4294967296) :
    ((∃ v ∈ vs, 128 ≤ v) → ((((b.put 120).put 110).put 45).put 45).out <+: (label bytes b).2.out) ∧
    ((∀ x ∈ bytes, x < 128) → (label bytes b).2 = putAll b bytes) := by
  refine ⟨fun hn => label_prefix bytes b hb vs hs hn hvl, fun ha => ?_⟩
  rw [label_ascii bytes b ha hlen]

-- "ü" (C3 BC, correspondence run: "xn--tda"): hypotheses hold, the prefix is stored
example : [120, 110, 45, 45] <+: (label [0xC3, 0xBC] { cap := 16 }).2.out := by
  have h := (toascii_prefix_iff_nonascii [0xC3, 0xBC] { cap := 16 } (by intro x hx; simp at hx; omega)
    [0xFC] (by simp [specAll, spec, isCont]) (by simp) (by simp)).1 ⟨0xFC, by simp, by omega⟩
  simpa [Buf.put] using h

/-- `toascii_rejects_illformed`: a host name that is not well-formed UTF-8 (`specAll = none`:
    some position does not start a Table 3-7 sequence — including a sequence cut short by the end
    of the string) is never converted: the result is an error.  (It is UV_EINVAL unless an earlier
    label already failed with UV_E2BIG.) -/
theorem toascii_rejects_illformed (s : List Nat) (cap : Nat) (hb : Bytes s) (h : specAll s = none) :
    (toascii s cap).1 < 0 := by
  unfold toascii
  split
  · show UV_EINVAL < 0; decide
  · exact scan_rejects [] s _ hb h

example : specAll [0x61, 0xE2, 0x82] = none ∧ specAll [0xE1, 0x41, 0x41] = none := by
  constructor <;> simp [specAll, spec, isCont, lo2, hi2]

open UvModel.Wtf8

/-- `utf16_wtf8_roundtrip`: for every list of non-zero UTF-16 code units — surrogate pairs, unpaired
    high or low surrogates in any position — in both length conventions (`z`: NUL-terminated / -1,
    `¬z`: explicit length), `uv_utf16_to_wtf8` (allocating mode) succeeds with some bytes `w` plus
    the terminator, reports `w.length`, and `uv_wtf8_to_utf16 w` gives the units back (plus the
    terminator). -/
theorem utf16_wtf8_roundtrip (z : Bool) (u : List Nat) (hu : Units u) :
    ∃ w, toWtf8 z u none = ⟨0, w ++ [0], w.length⟩ ∧ toUtf16 w = some (u ++ [0]) :=
  ⟨encU u, toWtf8_alloc z u hu, toUtf16_encU u hu⟩

example : Units [0xD83D, 0xDE00, 0xD800, 0x41, 0xDFFF, 0xDBFF] := by
  intro x hx; simp at hx; omega
example : encU [0xD83D, 0xDE00, 0xD800] = [0xF0, 0x9F, 0x98, 0x80, 0xED, 0xA0, 0x80] := by decide

/-- the same with a caller-supplied target of any sufficient size -/
theorem utf16_wtf8_roundtrip_provided (z : Bool) (u : List Nat) (hu : Units u) (n : Nat)
    (hn : lengthAsWtf8 z u ≤ n) :
    ∃ w, toWtf8 z u (some n) = ⟨0, w ++ [0], w.length⟩ ∧ toUtf16 w = some (u ++ [0]) :=
  ⟨encU u, toWtf8_provided z u hu n (by rw [← lengthAsWtf8_eq_encU z u hu]; exact hn), toUtf16_encU u hu⟩

/-- `length_functions_exact` (WTF-8 → UTF-16): for *every* byte string, `uv_wtf8_length_as_utf16`
    is -1 exactly when the converter fails, and otherwise the number of units the converter stores
    (terminator included). -/
theorem length_functions_exact_wtf8 (l : List Nat) :
    lengthAsUtf16 l = (toUtf16 l).map List.length := by
  rw [lengthAsUtf16_eq_toUtf16 l 0]; congr 1; funext us; omega

/-- `length_functions_exact` (UTF-16 → WTF-8): `uv_utf16_length_as_wtf8` is the number of bytes
    `uv_utf16_to_wtf8` stores before the terminator, which is also what it reports. -/
theorem length_functions_exact_utf16 (z : Bool) (u : List Nat) (hu : Units u) :
    (toWtf8 z u none).out.length = lengthAsWtf8 z u + 1 ∧ (toWtf8 z u none).reported = lengthAsWtf8 z u := by
  rw [toWtf8_alloc z u hu, lengthAsWtf8_eq_encU z u hu]; simp

end UvModel.C18Text
