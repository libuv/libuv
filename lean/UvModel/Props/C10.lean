import UvModel.Lemmas.UdpLemmas
/-!
# C10 — UDP: property theorems over the model `UvModel.Udp` (src/unix/udp.c, src/uv-common.c:456-533)

All theorems are universally quantified over the operation sequence (`Step` lists), the scripted user
callbacks (`Script`), the kernel outcome schedule (`SOut` lists, receive queues) and all sizes.
-/
namespace UvModel.Udp.C10
open UvModel.Udp

inductive Step
  | op (o : Op)                                   -- an API call from outside callbacks
  | env (outs : List SOut) (sizes : List Nat)     -- more kernel outcomes for the fd / a new alloc_cb script
  | run (q : List RItem)                          -- one loop iteration; q = socket receive queue offered to it
  | ioOut | ioIn (q : List RItem) | finishClose   -- the individual loop phases, in any order

def step (sc : Script) (s : H) : Step → H
  | .op o => applyOp s o
  | .env outs sizes => { s with souts := s.souts ++ outs, allocSizes := sizes }
  | .run q => (uvRun sc s q).1
  | .ioOut => ioOut sc s
  | .ioIn q => (ioIn sc s q).1
  | .finishClose => finishClose sc s

/-- a fresh handle (connected or not, RECVMMSG or not) -/
def init (conn mm : Bool) : H := { connected := conn, mmsg := mm }

def reach (sc : Script) (conn mm : Bool) (steps : List Step) : H := steps.foldl (step sc) (init conn mm)

theorem reach_inv (sc : Script) (conn mm : Bool) (steps : List Step) : HInv (reach sc conn mm steps) := by
  unfold reach
  suffices ∀ s, HInv s → HInv (steps.foldl (step sc) s) from this _ (hInv_init conn mm)
  induction steps with
  | nil => intro s h; exact h
  | cons st steps ih =>
    intro s h
    apply ih
    cases st with
    | op o => exact applyOp_inv s o h
    | env outs sizes => exact h.frame rfl
    | run q => exact uvRun_inv sc s q h
    | ioOut => exact ioOut_inv sc s h
    | ioIn q => exact ioIn_inv sc s q h
    | finishClose => exact finishClose_inv sc s h

/-- `uv__udp_sendmsgv` returning n > 0 means exactly datagrams 0..n-1 were handed to the OS — for every
batch size and every schedule of sendmsg/sendmmsg results (partial batches, EINTR, errors); a return
value ≤ 0 means nothing was sent. -/
theorem try_send2_prefix (all : List Dgram) (outs : List SOut) :
    ((sendmsgv all outs).ret > 0 →
        wireOf (sendmsgv all outs).log = all.take (sendmsgv all outs).ret.toNat
        ∧ (sendmsgv all outs).ret ≤ all.length)
    ∧ ((sendmsgv all outs).ret ≤ 0 → wireOf (sendmsgv all outs).log = []) := by
  obtain ⟨hw, hle, _⟩ := sendmsgv_spec all outs
  exact ⟨fun _ => ⟨hw, hle⟩, fun h => by rw [hw, Int.toNat_of_nonpos h]; rfl⟩

/-- the same at the API: `uv_udp_try_send2` on any reachable handle state returns r and hands exactly the
first r datagrams of the batch to the OS (none when r ≤ 0) -/
theorem try_send2_prefix_api (s : H) (hc : s.closing = false) (count : Nat) (bufs : List Nat) (dest : Nat) :
    ∃ r : Int, (applyOp s (.trySend2 count bufs dest)).trace = s.trace ++ [.ret r]
      ∧ (r > 0 → (applyOp s (.trySend2 count bufs dest)).wire
                  = s.wire ++ (mkDgrams s.nseq count bufs dest).take r.toNat)
      ∧ (r ≤ 0 → (applyOp s (.trySend2 count bufs dest)).wire = s.wire) := by
  obtain ⟨r, log, o, he, hw, _⟩ := applyOp_trySend2_eq hc count bufs dest
  rw [he]
  have hw' : wireOf (s.klog ++ log) = _ ++ _ := (wireOf_append ..).trans (congrArg _ hw)
  exact ⟨r, rfl, fun _ => hw', fun h => by rw [H.wire, emit, hw', Int.toNat_of_nonpos h]; exact List.append_nil _⟩

def batch (n : Nat) : List Dgram := (List.range n).map fun i => ⟨i, [8], 1⟩

/-- non-vacuity: 50 datagrams, every sendmmsg succeeds → returns 50, datagrams 0..49 on the wire in order
(/repo before 04512c2 advanced the index in both loops and returned 30, having sent 0–19 and 40–49) -/
example : (sendmsgv (batch 50) []).ret = 50 ∧ wireOf (sendmsgv (batch 50) []).log = batch 50 := by decide +kernel
/-- partial sendmmsg results: 20 taken, then 5 of 20, EINTR, 3, then EAGAIN → returns 28 = datagrams 0..27 -/
example : (sendmsgv (batch 50) [.sent 20, .sent 5, .err 4, .sent 3, .err 11]).ret = 28
    ∧ wireOf (sendmsgv (batch 50) [.sent 20, .sent 5, .err 4, .sent 3, .err 11]).log = batch 28 := by decide +kernel
/-- error on the first chunk: ENOBUFS is reported as UV_EAGAIN, nothing sent -/
example : (sendmsgv (batch 50) [.err 105]).ret = UV_EAGAIN ∧ wireOf (sendmsgv (batch 50) [.err 105]).log = [] := by
  decide +kernel

/-- an unsupported address family is rejected by uv__udp_prep_pkt before any system call: UV_EINVAL when nothing
was sent yet (/repo before 132f6ab took the value from a stale errno), the prefix count otherwise -/
example : (sendmsgv [⟨0, [8], 3⟩] []).ret = UV_EINVAL ∧ (sendmsgv [⟨0, [8], 1⟩, ⟨1, [8], 3⟩, ⟨2, [8], 1⟩] []).ret = UV_EINVAL
    ∧ (sendmsgv [⟨0, [8], 1⟩, ⟨1, [8], 3⟩, ⟨2, [8], 1⟩] []).log = [] := by decide +kernel
example : (sendmsgv ((batch 25).set 22 ⟨22, [8], 3⟩) []).ret = 20 := by decide +kernel

/-- `uv_udp_get_send_queue_size/count` equal the bytes/number of requests still owed a callback (completed
queue + write queue), and the handle's share of `loop->active_reqs` equals that number — in every
reachable state, also in the middle of callback-driven re-entrancy -/
theorem queue_counters_exact (sc : Script) (conn mm : Bool) (steps : List Step) :
    let s := reach sc conn mm steps
    s.sqCount = s.owed.length ∧ s.sqSize = ((s.owed.map Dgram.bytes).sum : Nat) ∧ s.activeReqs = s.owed.length := by
  have h := (reach_inv sc conn mm steps).1
  exact ⟨h.count, h.size, h.reqs⟩

/-- in particular the C `size_t` counters never underflow -/
theorem queue_counters_nonneg (sc : Script) (conn mm : Bool) (steps : List Step) :
    0 ≤ (reach sc conn mm steps).sqCount ∧ 0 ≤ (reach sc conn mm steps).sqSize := by
  have h := (reach_inv sc conn mm steps).1
  rw [h.count, h.size]; omega

/-- non-vacuity: two sends under EAGAIN stay queued (7+9 bytes / 2 requests), one loop iteration later both
were sent and called back -/
def exQueued : H := reach (fun _ _ => []) false false
  [.env [.err 11] [], .op (.send [7] 1 false), .op (.send [4, 5] 1 false)]
def exDrained : H := reach (fun _ _ => []) false false
  [.env [.err 11] [], .op (.send [7] 1 false), .op (.send [4, 5] 1 false), .run [], .run []]
example : exQueued.sqCount = 2 ∧ exQueued.sqSize = 16 ∧ exQueued.owed.map (·.seq) = [0, 1] := by decide +kernel
example : exDrained.sqCount = 0 ∧ exDrained.sqSize = 0 ∧ exDrained.cbs = [(0, 0), (1, 0)]
    ∧ exDrained.wire.map (·.seq) = [0, 1] := by decide +kernel

/-- every request accepted by `uv_udp_send` (return value 0) is, in submission order, either already
called back (exactly once — the sequence numbers are pairwise distinct), or in the completed queue, or in the
write queue; nothing else is ever called back -/
theorem send_cb_once (sc : Script) (conn mm : Bool) (steps : List Step) :
    let s := reach sc conn mm steps
    s.accepted.map (·.seq) = s.cbs.map (·.1) ++ s.owed.map (·.seq)
    ∧ (s.cbs.map (·.1) ++ s.owed.map (·.seq)).Nodup := by
  have h := (reach_inv sc conn mm steps).1
  refine ⟨h.part, ?_⟩
  rw [← h.part]
  have h1 : (List.map (·.seq) (reach sc conn mm steps).accepted).Sublist (List.range (reach sc conn mm steps).nseq) := by
    rw [← h.seqs]; exact h.acc.map _
  exact h1.nodup List.nodup_range

/-- the queue step of uv__udp_finish_close (the record update alone, any state) loses no request: every request still
in the write queue is moved to the completed queue with UV_ECANCELED before the completion run, the write queue is
empty and the requests owed a callback are the same -/
theorem close_cancels_queued (s : H) :
    let s' : H := { s with cq := s.cq ++ s.wq.map (fun d => (d, UV_ECANCELED)), wq := [] }
    s'.owed = s.owed ∧ s'.wq = [] ∧ ∀ d ∈ s.wq, (d, UV_ECANCELED) ∈ s'.cq := by
  refine ⟨by simp [H.owed, List.map_map, Function.comp_def], rfl, fun d hd => ?_⟩
  simp only [List.mem_append, List.mem_map]
  exact Or.inr ⟨d, hd, rfl⟩

/-- the status clause of send_cb_once, in every reachable state, for every send callback made so far
(`cbs` = (request id, status) pairs; `wire` = datagrams the kernel took; `klog` = every sendmsg/sendmmsg call
with the vector offered and its result; `cancelled` = ids of the requests that uv__udp_finish_close found still
in the write queue):
* status 0 exactly when the request's datagram was handed to the OS;
* otherwise the status is UV_ECANCELED for a request that was still queued at close, and for any other
  request it is the (EAGAIN/ENOBUFS-mapped) errno of a failed system call whose first datagram was that request;
* a request that was still queued at close always gets UV_ECANCELED. -/
theorem send_cb_status (sc : Script) (conn mm : Bool) (steps : List Step) :
    ∀ c ∈ (reach sc conn mm steps).cbs,
      (c.2 = 0 ↔ c.1 ∈ (reach sc conn mm steps).wire.map (·.seq))
      ∧ (c.2 ≠ 0 →
          (c.1 ∈ (reach sc conn mm steps).cancelled ∧ c.2 = UV_ECANCELED) ∨
          (c.1 ∉ (reach sc conn mm steps).cancelled ∧
            ∃ k ∈ (reach sc conn mm steps).klog, k.res < 0 ∧ k.offered.head?.map (·.seq) = some c.1 ∧ c.2 = mapErr k.res))
      ∧ (c.1 ∈ (reach sc conn mm steps).cancelled → c.2 = UV_ECANCELED) := by
  have h := (reach_inv sc conn mm steps).2
  intro c hc
  refine ⟨⟨fun h0 => (h.c1 c hc h0).1, fun hw => ?_⟩, fun hn => (h.c2 c hc hn).2, fun hcan => ?_⟩
  · by_cases h0 : c.2 = 0
    · exact h0
    · exact absurd hw (h.c2 c hc h0).1
  · by_cases h0 : c.2 = 0
    · exact absurd hcan (h.c1 c hc h0).2
    · rcases (h.c2 c hc h0).2 with ⟨_, h2⟩ | ⟨h1, _⟩
      · exact h2
      · exact absurd hcan h1

/-- non-vacuity: two requests queued under EAGAIN, handle closed: both get UV_ECANCELED, nothing sent;
and (exPinned below) EPERM pinned on request 0: status -1 = the errno of the call that carried it -/
def exCancelled : H := reach (fun _ _ => []) false false
  [.env [.err 11] [], .op (.send [7] 1 false), .op (.send [9] 1 false), .op .close, .run []]
example : exCancelled.cbs = [(0, -125), (1, -125)] ∧ exCancelled.cancelled = [0, 1] ∧ exCancelled.wire = [] := by
  decide +kernel

/-- the datagrams handed to the OS are an in-order subsequence of the datagrams submitted on the handle
(each one the submitted record itself: its buffers in order, its destination), and no datagram is handed
over twice -/
theorem dgram_at_most_once_in_order (sc : Script) (conn mm : Bool) (steps : List Step) :
    let s := reach sc conn mm steps
    s.wire.Sublist s.submitted ∧ (s.wire.map (·.seq)).Nodup := by
  have h := (reach_inv sc conn mm steps).1
  have h1 : (reach sc conn mm steps).wire.Sublist (reach sc conn mm steps).submitted :=
    (List.sublist_append_left _ _).trans h.sub
  refine ⟨h1, ?_⟩
  have := h1.map (·.seq)
  rw [h.seqs] at this
  exact this.nodup List.nodup_range

/-- non-vacuity: an error pinned on the head request (EPERM) drops that datagram only; the rest go out in order -/
def exPinned : H := reach (fun _ _ => []) false false
  [.env [.err 11, .err 1] [], .op (.send [7] 1 false), .op (.send [9] 1 false), .op (.send [6] 1 false),
   .run [], .run []]
example : exPinned.wire.map (·.seq) = [1, 2] ∧ exPinned.cbs = [(0, -1), (1, 0), (2, 0)] := by decide +kernel

/-- with requests still queued, `uv_udp_try_send` / `uv_udp_try_send2` make no system call at all and
return a negative value (UV_EAGAIN unless an argument check fails first) -/
theorem try_send_never_overtakes (s : H) (hc : s.closing = false) (hq : s.sqCount > 0) (bufs : List Nat) (dest count : Nat) :
    (applyOp s (.trySend bufs dest)).klog = s.klog
    ∧ (∃ r : Int, r < 0 ∧ (applyOp s (.trySend bufs dest)).trace = s.trace ++ [.ret r])
    ∧ (applyOp s (.trySend2 count bufs dest)).klog = s.klog
    ∧ (∃ r : Int, r < 0 ∧ (applyOp s (.trySend2 count bufs dest)).trace = s.trace ++ [.ret r]) := by
  obtain ⟨r, _, _, he, _, hb⟩ := applyOp_trySend_eq hc bufs dest
  obtain ⟨hr, rfl, rfl⟩ := hb hq
  obtain ⟨r2, _, _, he2, _, hb2⟩ := applyOp_trySend2_eq hc count bufs dest
  obtain ⟨hr2, rfl, rfl⟩ := hb2 hq
  rw [he, he2]
  exact ⟨List.append_nil _, ⟨r, hr, rfl⟩, List.append_nil _, ⟨r2, hr2, rfl⟩⟩

/-- every buffer obtained from alloc_cb during one `uv__udp_recvmsg` is handed back by exactly one recv_cb
that is not a UV_UDP_MMSG_CHUNK callback (the final UV_UDP_MMSG_FREE callback in recvmmsg mode; the data /
nread = 0 / error callback otherwise), before the next alloc_cb; chunk callbacks only point inside the
outstanding buffer; a refused allocation gets exactly one UV_ENOBUFS callback without buffer.  For every
user behaviour — including uv_udp_recv_stop / uv_close from inside any callback — every receive queue and
every buffer size. -/
theorem recv_buffer_handed_back_once {σ : Type} (u : RecvUser σ) (s : σ) (q : List RItem) :
    ∃ n, runP ⟨0, .idle⟩ (recvmsg u s q).evs = some ⟨n, .idle⟩ :=
  (recvLoop_handback u 0 s q 32 32 [] rfl).imp fun _ h => h.2

/-- a user that stops receiving in a chunk callback -/
def stopper : RecvUser Bool where
  alloc s := (s, 2 * DGRAM_MAX)
  cb s a := s && !hasChunk a.flags
  recvSet s := s
  fdOpen _ := true
  mmsg _ := true

/-- non-vacuity: uv_udp_recv_stop inside the first UV_UDP_MMSG_CHUNK callback: the second datagram is dropped
(the user stopped) but the buffer still comes back through UV_UDP_MMSG_FREE (/repo before 0737511 skipped it) -/
example : (recvmsg stopper true [.dg ⟨10, false, 1⟩, .dg ⟨20, false, 2⟩]).evs =
    [.alloc 131072, .cb ⟨10, some ⟨0, 0, 65536⟩, 1, 8⟩, .cb ⟨0, some ⟨0, 0, 131072⟩, 0, 16⟩] := by decide +kernel

/-- non-vacuity for the positive theorem: RECVMMSG handle, 3 chunks of room, two datagrams then EAGAIN -/
def plainUser (mm : Bool) (len : Nat) : RecvUser Unit where
  alloc s := (s, len)
  cb s _ := s
  recvSet _ := true
  fdOpen _ := true
  mmsg _ := mm
example : (recvmsg (plainUser true (3 * DGRAM_MAX)) () [.dg ⟨10, false, 1⟩, .dg ⟨70000, true, 2⟩]).evs =
    [.alloc 196608, .cb ⟨10, some ⟨0, 0, 65536⟩, 1, 8⟩, .cb ⟨65536, some ⟨0, 65536, 65536⟩, 2, 10⟩,
     .cb ⟨0, some ⟨0, 0, 196608⟩, 0, 16⟩, .alloc 196608, .cb ⟨0, some ⟨1, 0, 196608⟩, 0, 0⟩] := by decide +kernel

/-- each `uv__udp_recvmsg` invocation terminates within its 32-iteration budget — for every buffer size
(also RECVMMSG handles given buffers below 64 KiB, which take the plain recvmsg path), every receive queue and
every user behaviour: the model's fuel is never exhausted and there are at most 32 alloc_cb calls -/
theorem recv_progress {σ : Type} (u : RecvUser σ) (s : σ) (q : List RItem) :
    (recvmsg u s q).spun = false ∧ (recvmsg u s q).evs.countP isAlloc ≤ 32 := by
  obtain ⟨n, hn, hp⟩ := recvLoop_handback u 0 s q 32 32 [] rfl
  have : n = 0 + _ := runP_allocs hp
  exact ⟨recvLoop_terminates u 0 s q 32 32 [] (by decide) (by decide), by unfold recvmsg; omega⟩

/-- non-vacuity: RECVMMSG handle with a 1000-byte buffer and one datagram waiting: delivered through recvmsg,
then EAGAIN ends the invocation (/repo before 0fe2fa8 did not terminate here) -/
example : (recvmsg (plainUser true 1000) () [.dg ⟨50, false, 7⟩]).evs =
    [.alloc 1000, .cb ⟨50, some ⟨0, 0, 1000⟩, 7, 0⟩, .alloc 1000, .cb ⟨0, some ⟨1, 0, 1000⟩, 0, 0⟩] := by decide +kernel

/-- each datagram the kernel handed over during one `uv__udp_recvmsg` is delivered by exactly one recv_cb, in
kernel order, with the sender the kernel reported, UV_UDP_PARTIAL exactly when the kernel set MSG_TRUNC, and
nread = min(kernel length, buffer length); `pre` is what the invocation consumed from the socket queue and no
other callback carries an address.  Hypotheses: the handle is receiving on entry (libuv asserts it), alloc_cb
does not stop it (libuv would call a NULL recv_cb), no uv_udp_recv_stop inside a UV_UDP_MMSG_CHUNK callback
(otherwise the rest of the batch already read is dropped — accepted), kernel peers are real addresses. -/
theorem recv_payload_exact {σ : Type} (u : RecvUser σ) (s : σ) (q : List RItem)
    (hs : u.recvSet s = true) (hA : AllocKeeps u) (hC : NoStopInChunk u) (hq : ∀ d ∈ dgsOf q, d.peer ≠ 0) :
    ∃ pre, q = pre ++ (recvmsg u s q).q ∧
      (deliveries (recvmsg u s q).evs).length = (dgsOf pre).length ∧
      ∀ p ∈ (deliveries (recvmsg u s q).evs).zip (dgsOf pre), Rel p.1 p.2 := by
  obtain ⟨pre, h1, h2⟩ := recvLoop_delivers u 0 s q 32 32 [] hC hA q hq hs ⟨[], rfl, allRel_nil⟩
  exact ⟨pre, h1, h2⟩

/-- non-vacuity: truncated datagram into a 100-byte buffer, then one that fits, then EAGAIN -/
example : deliveries (recvmsg (plainUser false 100) () [.dg ⟨200, true, 3⟩, .err 4, .dg ⟨7, false, 5⟩]).evs =
    [⟨100, some ⟨0, 0, 100⟩, 3, 2⟩, ⟨7, some ⟨1, 0, 100⟩, 5, 0⟩] := by decide +kernel

end UvModel.Udp.C10
