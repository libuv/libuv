import UvModel.Lemmas.FsBufLemmas
/-!
# C11 — property theorems over the model of src/unix/fs.c (buffer lists) and the route tables

The hypotheses on the kernel's answers (`Bounded`, `Progress`, `NoError`) and `Consecutive`, `writtenAll` (the bytes the
kernel accepted, call by call) are defined in Lemmas/FsBufLemmas.lean.  Buffers are `List (List α)` for an arbitrary
byte type `α`.
-/
namespace UvModel.FsBuf
variable {α : Type}

/-! ## uv__fs_buf_offset -/

/-- `uv__fs_buf_offset(bufs, size)` for `size` ≤ the bytes in `bufs`: returns `k` such that the first
    `k` buffers hold at most `size` bytes (they are fully consumed) and are left untouched, buffer `k` is
    advanced by exactly the remainder `size − prefixBytes k` (which is 0 or smaller than that buffer, so
    it is not fully consumed), later buffers are untouched, `k` is the first index at which the count is
    used up, and what remains after stepping over `k` buffers is exactly the byte sequence minus its
    first `size` bytes. -/
theorem buf_offset_spec (bufs : List (List α)) (size : Nat) (h : size ≤ bufs.flatten.length) :
    prefixBytes bufs (bufOffset bufs size).1 ≤ size ∧
    (bufOffset bufs size).2 = bufs.take (bufOffset bufs size).1 ++
      (match bufs.drop (bufOffset bufs size).1 with
       | [] => []
       | b :: r => b.drop (size - prefixBytes bufs (bufOffset bufs size).1) :: r) ∧
    (∀ b r, bufs.drop (bufOffset bufs size).1 = b :: r →
      size - prefixBytes bufs (bufOffset bufs size).1 = 0 ∨
      size - prefixBytes bufs (bufOffset bufs size).1 < b.length) ∧
    (0 < (bufOffset bufs size).1 → prefixBytes bufs ((bufOffset bufs size).1 - 1) < size) ∧
    ((bufOffset bufs size).2.drop (bufOffset bufs size).1).flatten = bufs.flatten.drop size := by
  refine and_assoc.1 <| and_assoc.1 <| and_assoc.1 ⟨?_, bufOffset_flatten bufs size h⟩
  induction bufs generalizing size with
  | nil => simp [bufOffset]
  | cons b rest ih =>
    rw [List.flatten_cons, List.length_append] at h
    rw [bufOffset_cons]
    by_cases hc : 0 < size ∧ b.length ≤ size
    · obtain ⟨⟨⟨i1, i2⟩, i3⟩, i4⟩ := ih (size - b.length) (by omega)
      rw [if_pos hc]
      simp only [prefixBytes_cons_succ, Nat.sub_add_eq, List.take_succ_cons, List.drop_succ_cons, List.cons_append,
        Nat.add_sub_cancel]
      refine ⟨⟨⟨by omega, congrArg _ i2⟩, i3⟩, fun _ => ?_⟩
      cases hk : (bufOffset rest (size - b.length)).1 with
      | zero => exact hc.1
      | succ k =>
        rw [hk] at i4
        have : prefixBytes rest k < size - b.length := i4 k.succ_pos
        rw [prefixBytes_cons_succ]
        omega
    · rw [if_neg hc]
      simp
      omega

/-- non-vacuity: 4 bytes into [0,3,0,4] consumes three buffers and trims the fourth by one byte -/
example : bufOffset [[], [1, 2, 3], [], [4, 5, 6, 7]] 4 = (3, [[], [1, 2, 3], [], [5, 6, 7]]) := by decide +kernel
/-- exactly at a boundary: trailing empty buffers are *not* stepped over (they are dealt with by the
    zero-result branch of the caller) -/
example : bufOffset [[1, 2, 3], [], [4]] 3 = (1, [[1, 2, 3], [], [4]]) := by decide +kernel

/-! ## uv__fs_write_all -/

/-- **write_all_complete.**  For every IOV_MAX > 0, every buffer list (any number of buffers — also more
    than IOV_MAX —, any lengths incl. zero), every offset and every schedule of kernel answers in which
    each answered call is bounded by its iovec and makes progress when it can:
    * the bytes accepted by the kernel, call after call, are a prefix of the buffers' bytes in order
      (no byte twice, none skipped, none out of order);
    * every call is issued at `off` + (bytes accepted so far) when `off ≥ 0` (and always with the
      current-position call when `off < 0`);
    * either no call reported an error and then *every* byte was written and the result is the total
      byte count, or some call failed with `e ≠ EINTR` and the result is `-e` if nothing had been
      written and the short count otherwise. -/
theorem write_all_complete (iovmax : Nat) (hi : 0 < iovmax) (os : List Outcome) (off : Int)
    (bufs : List (List α))
    (hB : Bounded (writeAll iovmax os off bufs).calls) (hP : Progress (writeAll iovmax os off bufs).calls) :
    writtenAll (writeAll iovmax os off bufs).calls <+: bufs.flatten ∧
    Consecutive off (writeAll iovmax os off bufs).calls ∧
    ((NoError (writeAll iovmax os off bufs).calls ∧
      writtenAll (writeAll iovmax os off bufs).calls = bufs.flatten ∧
      (writeAll iovmax os off bufs).result = (bufs.flatten.length : Int)) ∨
     (∃ e, e ≠ EINTR ∧ (∃ c ∈ (writeAll iovmax os off bufs).calls, c.out = .fail e) ∧
      (writeAll iovmax os off bufs).result =
        (if (writtenAll (writeAll iovmax os off bufs).calls).length = 0 then -(e : Int)
         else ((writtenAll (writeAll iovmax os off bufs).calls).length : Int)))) := by
  obtain ⟨h1, h2, h3⟩ := writeLoop_complete iovmax hi os off bufs 0 hB hP
  refine ⟨h1, h2, h3.imp ?_ ?_⟩
  · rintro ⟨a, b, c⟩
    refine ⟨a, b, ?_⟩
    rw [WRes.result, writeAll, c, mapResult_of_ne (by omega)]
    exact Int.zero_add _
  · rintro ⟨e, a, b, c, d⟩
    refine ⟨e, a, b, ?_⟩
    rw [WRes.result, writeAll, c, d, Int.zero_add]
    split
    · next hw => rw [if_pos (by omega)]; rfl
    · next hw => rw [if_neg (by omega), mapResult_of_ne (by omega)]

/-- corollary in the property's wording: unless the OS reports an error, every byte of the buffer
    list is written, in order, exactly once, and the result is the byte count -/
theorem write_all_complete_no_error (iovmax : Nat) (hi : 0 < iovmax) (os : List Outcome) (off : Int)
    (bufs : List (List α))
    (hB : Bounded (writeAll iovmax os off bufs).calls) (hP : Progress (writeAll iovmax os off bufs).calls)
    (hN : NoError (writeAll iovmax os off bufs).calls) :
    writtenAll (writeAll iovmax os off bufs).calls = bufs.flatten ∧
    (writeAll iovmax os off bufs).result = (bufs.flatten.length : Int) := by
  rcases (write_all_complete iovmax hi os off bufs hB hP).2.2 with ⟨_, b, c⟩ | ⟨e, a, ⟨c, hc, hce⟩, _⟩
  · exact ⟨b, c⟩
  · exact absurd (hN c hc e hce) a

/-- the input of defect L7 (without the zero-result skip of fs.c:1661-1670 the loop returns 0 here): 1029 empty
    buffers followed by "hello", IOV_MAX = 1024, the kernel answers 0 to the two all-empty vectors: all five
    bytes are written, result 5 -/
example :
    let r := writeAll 1024 [.ok 0, .ok 0, .ok 5] (-1) (List.replicate 1029 [] ++ [['h', 'e', 'l', 'l', 'o']])
    r.result = 5 ∧ writtenAll r.calls = ['h', 'e', 'l', 'l', 'o'] ∧ r.calls.length = 3 := by decide +kernel

/-- non-vacuity of the hypotheses and of both branches: short writes inside a buffer and at a
    boundary with an EINTR in between (complete), and an ENOSPC after 2 bytes (short count) -/
example :
    let r := writeAll 2 [.ok 2, .fail EINTR, .ok 1, .ok 4] 10 [[1, 2, 3], [], [4, 5, 6, 7]]
    r.result = 7 ∧ writtenAll r.calls = [1, 2, 3, 4, 5, 6, 7] ∧ r.calls.map (·.off) = [10, 12, 12, 13] := by
  decide +kernel
example :
    let r := writeAll 2 [.ok 2, .fail 28] 10 [[1, 2, 3], [], [4, 5, 6, 7]]
    r.result = 2 ∧ writtenAll r.calls = [1, 2] := by decide +kernel
example : (writeAll 2 [.fail 28] 10 [[1, 2, 3]]).result = -28 := by decide +kernel

/-- **write_all_terminates.**  For *every* schedule (no hypothesis on the answers): the number of system
    calls that are not EINTR retries is at most bytes + buffers — each round strictly decreases the
    remaining bytes or the remaining buffers (or leaves the loop) — and consequently a script holding that
    many non-EINTR answers is never exhausted: whatever follows it is not looked at. -/
theorem write_all_terminates (iovmax : Nat) (os extra : List Outcome) (off : Int) (bufs : List (List α)) :
    ((writeAll iovmax os off bufs).calls.filter (fun c => notEintr c.out)).length
      ≤ bufs.flatten.length + bufs.length ∧
    (bufs.flatten.length + bufs.length ≤ (os.filter notEintr).length →
      writeAll iovmax (os ++ extra) off bufs = writeAll iovmax os off bufs) :=
  writeLoop_work_bound iovmax os extra off bufs 0

example : ((writeAll 2 [.ok 1, .ok 1, .ok 1, .ok 0, .ok 1] (-1) [[1, 2, 3], [], [4]]).calls.length = 5) := by
  decide +kernel

/-- **eintr_transparent** (write): deleting every EINTR answer from the schedule — wherever they are,
    in particular any finite prefix — changes neither the result, nor errno, nor the final offset, nor
    the sequence of non-EINTR calls (same iovecs, same offsets, same bytes accepted). -/
theorem eintr_transparent (iovmax : Nat) (os : List Outcome) (off : Int) (bufs : List (List α)) :
    writeAll iovmax (os.filter notEintr) off bufs =
      { writeAll iovmax os off bufs with
        calls := (writeAll iovmax os off bufs).calls.filter (fun c => notEintr c.out) } :=
  writeLoop_eintr_filter iovmax os off bufs 0

/-- the prefix form, for `req->result`: k EINTR answers in front do not change it -/
theorem eintr_prefix_transparent (iovmax k : Nat) (os : List Outcome) (off : Int) (bufs : List (List α)) :
    (writeAll iovmax (List.replicate k (.fail EINTR) ++ os) off bufs).result
      = (writeAll iovmax os off bufs).result := by
  have h : ∀ os', (writeAll iovmax (os'.filter notEintr) off bufs).result = (writeAll iovmax os' off bufs).result :=
    fun os' => by rw [eintr_transparent]; rfl
  rw [← h, List.filter_append, List.filter_replicate, notEintr_eintr, if_neg nofun, List.nil_append, h]

/-- **eintr_transparent** (`uv__fs_work`, every operation with `retry_on_eintr`): k EINTR answers in
    front change nothing but the number of calls -/
theorem eintr_transparent_work (k : Nat) (os : List Outcome) :
    workLoop true (List.replicate k (.fail EINTR) ++ os) = ((workLoop true os).1, (workLoop true os).2 + k) := by
  induction k with
  | zero => simp
  | succ k ih =>
    rw [List.replicate_succ, List.cons_append, workLoop]
    simp [ih]; omega

example : workLoop true [.fail EINTR, .fail EINTR, .ok 0] = (0, 3) := by decide +kernel
/-- UV_FS_READ / UV_FS_CLOSE are not retried: EINTR surfaces as UV_EINTR after one call -/
theorem work_no_retry (os : List Outcome) : workLoop false (.fail EINTR :: os) = (-4, 1) := by
  rfl

/-! ## uv__fs_read -/

/-- **read_count_exact.**  `uv_fs_read` issues exactly one system call, over the first
    min(nbufs, IOV_MAX) buffers in their order and with their lengths, at the given offset; the result
    is exactly what that call returned (`n`, or `-errno` — EINTR included, there is no retry). -/
theorem read_count_exact (iovmax : Nat) (hi : 0 < iovmax) (off : Int) (bufs : List (List α)) (hb : bufs ≠ [])
    (o : Outcome) (src : List α) :
    (∃ sys, (fsRead iovmax off bufs o src).calls = [⟨sys, off, bufs.take iovmax, o⟩] ∧
      some sys = readSys off (min iovmax bufs.length)) ∧
    (fsRead iovmax off bufs o src).result = (match o with | .ok n => (n : Int) | .fail e => -(e : Int)) := by
  cases hs : readSys off (bufs.take iovmax).length with
  | none =>
    exact ((List.take_eq_nil_iff.1 (List.eq_nil_of_length_eq_zero ((readSys_none _ _).1 hs))).elim
      (Nat.ne_of_gt hi) hb).elim
  | some sys =>
    have hs' : some sys = readSys off (min iovmax bufs.length) := by rw [← hs, List.length_take]
    cases o with
    | ok n =>
      rw [fsRead_some hs]
      exact ⟨⟨sys, rfl, hs'⟩, mapResult_of_ne (r := n) (by omega) 0⟩
    | fail e =>
      rw [fsRead_some hs]
      exact ⟨⟨sys, rfl, hs'⟩, mapResult_neg_one e⟩

/-- **read_fills_in_order.**  With the kernel's readv semantics (`scatter`, assumed) and an answer `n`
    that is at most the capacity handed over and at most what the file holds from the read position:
    afterwards the buffers, read in order, hold exactly the file's first `n` bytes from that position
    followed by their old contents; no buffer changes its length; buffers beyond IOV_MAX are untouched. -/
theorem read_fills_in_order (iovmax : Nat) (off : Int) (bufs : List (List α)) (n : Nat) (src : List α)
    (hs : readSys off (bufs.take iovmax).length ≠ none)
    (hn : n ≤ (bufs.take iovmax).flatten.length) (hsrc : n ≤ src.length) :
    (fsRead iovmax off bufs (.ok n) src).bufs.flatten = src.take n ++ bufs.flatten.drop n ∧
    (fsRead iovmax off bufs (.ok n) src).bufs.map List.length = bufs.map List.length ∧
    (fsRead iovmax off bufs (.ok n) src).bufs.drop iovmax = bufs.drop iovmax := by
  cases h : readSys off (bufs.take iovmax).length with
  | none => exact absurd h hs
  | some sys =>
    rw [fsRead_some h]
    dsimp only
    have hl : (src.take n).length = n := List.length_take_of_le hsrc
    have hsl : (scatter (bufs.take iovmax) (src.take n)).length = (bufs.take iovmax).length := by
      simpa using congrArg List.length (scatter_lengths (bufs.take iovmax) (src.take n))
    refine ⟨?_, ?_, ?_⟩
    · rw [List.flatten_append, scatter_flatten _ _ (by rw [hl]; exact hn), hl, List.append_assoc,
        ← List.drop_append_of_le_length hn, ← List.flatten_append, List.take_append_drop]
    · rw [List.map_append, scatter_lengths, ← List.map_append, List.take_append_drop]
    · rcases Nat.le_total iovmax bufs.length with h | h
      · exact List.drop_left' (by rw [hsl, List.length_take, Nat.min_eq_left h])
      · rw [List.drop_eq_nil_of_le h, List.append_nil,
          List.drop_eq_nil_of_le (by rw [hsl]; exact Nat.le_trans (List.length_take_le' _ _) h)]

example :
    let r := fsRead 2 0 [[0, 0, 0], [], [0, 0]] (.ok 3) [7, 8, 9, 10, 11]
    r.result = 3 ∧ r.bufs = [[7, 8, 9], [], [0, 0]] := by decide +kernel
example :
    let r := fsRead 1024 (-1) [[0, 0], [0, 0, 0]] (.ok 4) [7, 8, 9, 10, 11]
    r.result = 4 ∧ r.bufs = [[7, 8], [9, 10, 0]] ∧ r.calls.map (·.sys) = [.readv] := by decide +kernel

/-! ## (b) route choice and result mapping (decision tables) -/

/-- the enumeration used below really is every operation, each once -/
theorem op_all_complete (op : Op) : op ∈ Op.all := by cases op <;> decide +kernel
theorem op_all_nodup : Op.all.Nodup := by decide +kernel

/-- **route_exhaustive.**  Under every configuration every operation takes exactly one route, and which
    one is characterised completely: synchronous iff no callback; io_uring iff callback, the front end has
    a submitter whose own precondition holds, and `uv__iou_get_sqe` hands out an SQE; thread pool in every
    other case with a callback. -/
theorem route_exhaustive (c : Cfg) (op : Op) :
    (route c op = .sync ↔ c.hasCb = false) ∧
    (route c op = .uring ↔ c.hasCb = true ∧ uringPrecond c op = some true ∧ ringOk c = true) ∧
    (route c op = .pool ↔ c.hasCb = true ∧ ¬(uringPrecond c op = some true ∧ ringOk c = true)) := by
  unfold route
  cases hcb : c.hasCb <;> simp
  · cases hp : uringPrecond c op with
    | none => simp
    | some b => cases b <;> cases hr : ringOk c <;> simp

/-- io_uring is never used without the SQPOLL loop option, the positive environment variable, a
    kernel ≥ 5.10.186 and a successfully created ring -/
theorem uring_needs_sqpoll (c : Cfg) (op : Op) (h : route c op = .uring) :
    c.sqpollFlag = true ∧ c.envPositive = true ∧ c.ringInitOk = true ∧ c.kernel ≥ 0x050ABA ∧ c.sqeFree = true := by
  have := ((route_exhaustive c op).2.1.1 h).2.2
  simp only [ringOk, Bool.and_eq_true, decide_eq_true_eq] at this
  obtain ⟨⟨⟨⟨a, b⟩, c'⟩, d⟩, e⟩ := this
  exact ⟨a, c', d, b, e⟩

/-- exactly these 15 operations can go to io_uring at all (on a new enough kernel with a usable ring) -/
theorem uring_ops :
    Op.all.filter (fun op => route ⟨true, true, true, true, true, 0x061200, true⟩ op == .uring)
      = [.close, .fdatasync, .fstat, .fsync, .ftruncate, .lstat, .link, .mkdir, .open, .read, .rename,
         .stat, .symlink, .unlink, .write] := by decide +kernel

/-- the two range checks of `uv__iou_fs_close` (linux.c:845-849) as written amount to "kernel ≥ 6.1.0"
    (the second bound is 0x050A00 = 5.10.0 although its comment says 5.16.0) -/
theorem close_uring_iff (c : Cfg) : uringPrecond c .close = some true ↔ c.kernel ≥ 0x060100 := by
  simp [uringPrecond]; omega

/-- a write with more than IOV_MAX buffers never goes to io_uring (it needs the chunking loop of
    `uv__fs_write_all`); a read does (it is capped, like `uv__fs_read`) -/
theorem big_write_not_uring (c : Cfg) (h : c.nbufsLeIovmax = false) : route c .write ≠ .uring := by
  intro hr
  have := ((route_exhaustive c .write).2.1.1 hr).2.1
  simp [uringPrecond, h] at this

/-- completion: only `-EOPNOTSUPP` (-95) is re-posted to the thread pool -/
theorem fallback_iff (r : Int) : completeRoute r = .pool ↔ r = -95 := by
  unfold completeRoute; split <;> simp [*]

/-- **result_mapping** (fs.c:1750-1759): `-1` becomes `-errno`, anything else is passed through;
    `req->ptr = &req->statbuf` exactly for a successful stat/fstat/lstat -/
theorem result_mapping (r : Int) (errno : Nat) (op : Op) :
    (r = -1 → mapResult r errno = -(errno : Int)) ∧ (r ≠ -1 → mapResult r errno = r) ∧
    (setsStatPtr op r = true ↔ r = 0 ∧ (op = .stat ∨ op = .fstat ∨ op = .lstat)) := by
  refine ⟨fun h => h ▸ mapResult_neg_one errno, fun h => mapResult_of_ne h errno, ?_⟩
  simp [setsStatPtr, or_assoc]

example : route ⟨true, true, true, true, true, 0x061200, true⟩ .mkdir = .uring := by decide +kernel
example : route ⟨true, true, true, true, true, 0x050E00, true⟩ .mkdir = .pool := by decide +kernel
example : route ⟨false, true, true, true, true, 0x061200, true⟩ .mkdir = .sync := by decide +kernel
example : route ⟨true, false, true, true, true, 0x061200, true⟩ .read = .pool := by decide +kernel

end UvModel.FsBuf
