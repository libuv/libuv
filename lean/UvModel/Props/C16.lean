import UvModel.Lemmas.FaultLemmas
import UvModel.Generated.RetryCensus
/-!
# C16 — resource exhaustion and interrupted system calls: property theorems

Statement (properties.jsonl C16): a single allocation failure or a system call failing with
EINTR / EAGAIN / ENOBUFS / EMFILE / ENFILE / ENOMEM leaves the API call either successful with the same
observable outcome (EINTR retried transparently, would-block retried on readiness) or returning the
corresponding UV_E* code, never unbalancing request/handle accounting or leaking memory/descriptors.
-/
namespace UvModel.Fault

/-- **retry_eintr_transparent**: whatever finite number `n` of EINTR answers precedes the kernel's real
answer stream `g`, the loop returns exactly what the uninterrupted call returns (`g 0`), after exactly
`n + 1` attempts, for every fuel that covers the prefix. -/
theorem retry_eintr_transparent (g : Nat → Outcome) (n fuel : Nat) (hg : (g 0).isEintr = false) (hfuel : n < fuel) :
    retryEintr (interrupt n g) fuel = some (n, g 0) ∧
    (retryEintr (interrupt n g) fuel).map (·.2) = (retryEintr g 1).map (·.2) := by
  have hn : interrupt n g n = g 0 := by simp [interrupt]
  have h : retryEintr (interrupt n g) fuel = some (n, g 0) :=
    (retryFrom_eq_some _ fuel 0).2 ⟨hn.symm, hn ▸ hg, n.zero_le, by omega, fun j _ hj => by simp [interrupt, hj]; rfl⟩
  have h1 : retryEintr g 1 = some (0, g 0) := if_neg (Bool.eq_false_iff.1 hg)
  rw [h, h1]
  exact ⟨rfl, rfl⟩

example : retryEintr (interrupt 3 (fun _ => .ok 42)) 10 = some (3, .ok 42) := by decide +kernel
example : retryEintr (interrupt 2 (fun _ => .err EAGAIN)) 5 = some (2, .err EAGAIN) := by decide +kernel

/-- the loop terminates (for some fuel) iff the EINTR prefix is finite -/
theorem retry_terminates_iff (f : Nat → Outcome) :
    (∃ fuel, (retryEintr f fuel).isSome = true) ↔ ∃ n, (f n).isEintr = false := by
  constructor
  · rintro ⟨fuel, h⟩
    obtain ⟨⟨k, o⟩, hr⟩ := Option.isSome_iff_exists.1 h
    exact ⟨k, ((retryFrom_eq_some f fuel 0).1 hr).2.1⟩
  · rintro ⟨n, h⟩
    exact ⟨n + 1, retryFrom_isSome f h (n + 1) 0 n.zero_le (by omega)⟩

/-- the value returned is never EINTR, and every attempt before the returned one was interrupted -/
theorem retry_never_surfaces_eintr (f : Nat → Outcome) (fuel k : Nat) (o : Outcome)
    (h : retryEintr f fuel = some (k, o)) : o.isEintr = false ∧ ∀ j, j < k → (f j).isEintr = true := by
  obtain ⟨h1, h2, _, _, h4⟩ := (retryFrom_eq_some f fuel 0).1 h
  exact ⟨h1 ▸ h2, fun j hj => h4 j j.zero_le hj⟩

example : retryEintr (fun i => if i < 2 then .err EINTR else .ok 7) 5 = some (2, .ok 7) := by decide +kernel

/-- the retry loops the property is anchored on (properties.jsonl C16 `mechanism`; in /repo: stream.c:808-815, 1063-1081,
core.c:566-572, udp.c:272-275, 1281-1283, fs.c:1701-1749) plus the other loops on the data and descriptor paths:
each is an instance of `retryEintr` -/
def anchoredRetrySites : List (String × String × String × String) := [
  ("unix/stream.c", "uv__try_write", "sendmsg", "loop"), ("unix/stream.c", "uv__try_write", "uv__writev", "loop"),
  ("unix/stream.c", "uv__read", "read", "loop"), ("unix/stream.c", "uv__read", "uv__recvmsg", "loop"),
  ("unix/core.c", "uv__accept", "accept", "loop"), ("unix/core.c", "uv__nonblock_ioctl", "ioctl", "loop"),
  ("unix/core.c", "uv__cloexec", "fcntl", "loop"), ("unix/core.c", "uv__slurp", "read", "loop"),
  ("unix/udp.c", "uv__udp_recvmsg", "recvmsg", "loop"), ("unix/udp.c", "uv__udp_recvmmsg", "recvmmsg", "loop"),
  ("unix/udp.c", "uv__udp_sendmsg1", "sendmsg", "loop"), ("unix/udp.c", "uv__udp_sendmsgv", "sendmmsg", "loop"),
  ("unix/udp.c", "uv__udp_connect", "connect", "loop"),
  ("unix/tcp.c", "uv__tcp_connect", "connect", "loop"), ("unix/pipe.c", "uv_pipe_connect2", "connect", "loop"),
  ("unix/fs.c", "uv__fs_work", "X", "loop"), ("unix/fs.c", "uv__fs_write_all", "uv__fs_write", "loop"),
  ("unix/process.c", "uv__wait_children", "waitpid", "loop"), ("unix/process.c", "uv__spawn_and_init_child", "read", "loop"),
  ("unix/signal.c", "uv__signal_handler", "write", "loop"), ("unix/signal.c", "uv__signal_event", "read", "continue"),
  ("unix/async.c", "uv__async_io", "read", "continue"), ("unix/async.c", "uv__async_send", "write", "loop"),
  ("unix/linux.c", "uv__inotify_read", "read", "loop")]

/-- Tie A: every anchored retry loop is still present in the working tree's sources (the census is regenerated from
/repo by checks/c16.py; a loop that loses its `while (… == -1 && errno == EINTR)` makes this fail) -/
theorem census_contains_anchored_sites :
    anchoredRetrySites.all (fun e => UvModel.Generated.retryCensus.contains e) = true := by decide +kernel

/-- **eagain_defers**: the trace of completed requests and the remaining queue depend only on how many
attempts the kernel accepted, not on where EAGAIN/ENOBUFS answers are interleaved -/
theorem eagain_defers (s : WState) (rs : List Resp) :
    (runW s rs).done = s.done ++ s.queue.take (accepts rs) ∧ (runW s rs).queue = s.queue.drop (accepts rs) := by
  induction rs generalizing s with
  | nil => simp [runW, accepts]
  | cons r rs ih =>
    obtain ⟨h1, h2⟩ := ih (attempt s r)
    rw [show runW s (r :: rs) = runW (attempt s r) rs from rfl, h1, h2]
    cases r <;> cases hq : s.queue <;> simp [attempt, hq, accepts]

/-- once readiness has arrived often enough, the final trace is that of the run without any would-block -/
theorem eagain_same_final_trace (s : WState) (rs : List Resp) (h : s.queue.length ≤ accepts rs) :
    (runW s rs).done = (runW s (List.replicate s.queue.length .accept)).done ∧ (runW s rs).queue = [] := by
  obtain ⟨h1, h2⟩ := eagain_defers s rs
  obtain ⟨h3, _⟩ := eagain_defers s (List.replicate s.queue.length .accept)
  rw [h1, h2, h3, accepts_replicate]
  simp [List.take_of_length_le h, List.drop_eq_nil_of_le h]

/-- a would-block answer never loses the wakeup: while requests are pending after an attempt, POLLOUT is armed -/
theorem pending_stays_armed (s : WState) (rs : List Resp) (r : Resp) :
    (runW s (rs ++ [r])).queue ≠ [] → (runW s (rs ++ [r])).pollout = true := by
  rw [runW, List.foldl_append]
  exact attempt_pending_armed _ r

example : (runW ⟨[1, 2, 3], [], false⟩ [.wouldblock EAGAIN, .accept, .wouldblock ENOBUFS, .accept, .accept]).done = [1, 2, 3] := by decide +kernel
example : (runW ⟨[1, 2], [], false⟩ [.accept, .wouldblock EAGAIN]).pollout = true := by decide +kernel

/-- **fault_atomic** (generic form): for an operation whose every error exit undoes what preceded it
(`balanced`, a decidable property of the effect list mirrored from the C source), any single fault — whichever
fault point `k`, whichever errno `e > 0` — either does not stop the operation (return 0, the fault-free effect)
or makes it return a negative code, `errCode kind e` for one of the two fault kinds (the statement does not say it is
the failing step's kind), with counters, queues and ledger exactly as before. -/
theorem fault_atomic (op : Op) (hb : balanced op = true) (st : D) (k e : Nat) (he : 0 < e) :
    ((runFrom op st (some (k, e))).2 = 0 ∧ (runFrom op st (some (k, e))).1 = st + total op) ∨
    ((runFrom op st (some (k, e))).1 = st ∧ (runFrom op st (some (k, e))).2 < 0 ∧
       ∃ kind, (runFrom op st (some (k, e))).2 = errCode kind e) := by
  rcases runFrom_balanced op hb (D.add_zero st).symm k with h | ⟨kind, h⟩ <;> rw [h]
  · exact .inl ⟨rfl, rfl⟩
  · exact .inr ⟨rfl, errCode_neg kind e he, kind, rfl⟩

/-- without a fault every operation has its `total` effect and returns 0 -/
theorem fault_free_effect (op : Op) (st : D) : runFrom op st none = (st + total op, 0) := by
  induction op generalizing st with
  | nil => rw [runFrom, total, D.add_zero]
  | cons s rest ih => cases hs : s.fault <;> simp only [runFrom, hs, total, ih, D.add_assoc]

theorem uv_write2_balanced (nbufs : Nat) : balanced (uvWrite2 nbufs) = true := by
  unfold uvWrite2; split <;> decide
theorem udp_send_balanced (nbufs : Nat) (wasActive : Bool) : balanced (udpSend nbufs wasActive) = true := by
  unfold udpSend; cases wasActive <;> split <;> decide
theorem fs_op_balanced (async : Bool) (a : FsAlloc) : balanced (fsOp async a) = true := by
  cases async <;> cases a <;> decide
theorem queue_work_balanced : balanced queueWork = true := by decide +kernel
theorem getaddrinfo_balanced : balanced getaddrinfoAsync = true := by decide +kernel
theorem pipe_bind_balanced : balanced pipeBind = true := by decide +kernel
theorem fs_poll_start_balanced : balanced fsPollStart = true := by decide +kernel
theorem fs_event_start_balanced (newWd : Bool) : balanced (fsEventStart newWd) = true := by cases newWd <;> decide

/-- `uv_spawn` before the fork: for every number of stdio pipes and both array placements, each failing socketpair
(and the failing array allocation) leaves no descriptor and no allocation behind -/
theorem uv_spawn_pre_balanced (npipes : Nat) (heap : Bool) : balanced (uvSpawnPre npipes heap) = true := by
  cases heap
  · exact spawnPairs_balanced false npipes 0
  · exact balancedFrom_cons rfl rfl (spawnPairs_balanced true npipes 0)

/-- `uv_spawn` when the fork itself fails (fault point number `heap + npipes`): the code is returned, the handle is not
started, nothing is registered, the array is freed, and exactly the `npipes` parent ends remain — inside the caller's
stream handles (process.c:1046-1052: by design the streams are opened even then) -/
theorem uv_spawn_fork_failure (npipes : Nat) (heap : Bool) (st : D) (e : Nat) :
    runFrom (uvSpawn npipes heap) st (some ((if heap then 1 else 0) + npipes, e)) =
      (st + ⟨0, 0, (npipes : Int), 0, 0, 0⟩, -(e : Int)) := by
  obtain ⟨hnf, htot⟩ : nFaultPoints (uvSpawnPre npipes heap) = (if heap then 1 else 0) + npipes ∧
      total (uvSpawnPre npipes heap) = ⟨0, (if heap then 1 else 0), 2 * (npipes : Int), 0, 0, 0⟩ := by
    cases heap <;> simp [uvSpawnPre, nFaultPoints, total, spawnPairs_nFaultPoints, spawnPairs_total] <;> d_arith
  rw [uvSpawn, ← Nat.add_zero (_ + npipes), ← hnf, runFrom_append_skip, htot]
  simp only [runFrom, errCode]
  congr 1
  cases heap <;> d_arith

/-- `uv_os_environ`: for every environment size, a failing copy frees exactly the names copied so far and the array -/
theorem os_environ_balanced (n : Nat) : balanced (osEnviron n) = true :=
  balancedFrom_cons rfl rfl (environCopies_balanced n 0)

/-- **fault_atomic** for the catalogue: `uv_write2`, `uv__udp_send`, `uv_fs_*`, `uv_queue_work`, `uv_getaddrinfo`,
`uv_pipe_bind`, `uv_spawn` (up to the fork), `uv_fs_poll_start`, `uv_fs_event_start`, `uv_os_environ`, for all their parameters -/
theorem catalogue_fault_atomic (nbufs npipes nenv : Nat) (wasActive heap async newWd : Bool) (a : FsAlloc)
    (st : D) (k e : Nat) (he : 0 < e) :
    ∀ op ∈ [uvWrite2 nbufs, udpSend nbufs wasActive, fsOp async a, queueWork, getaddrinfoAsync, pipeBind,
            uvSpawnPre npipes heap, fsPollStart, fsEventStart newWd, osEnviron nenv],
      ((runFrom op st (some (k, e))).2 = 0 ∧ (runFrom op st (some (k, e))).1 = st + total op) ∨
      ((runFrom op st (some (k, e))).1 = st ∧ (runFrom op st (some (k, e))).2 < 0 ∧
         ∃ kind, (runFrom op st (some (k, e))).2 = errCode kind e) := by
  intro op hop
  apply fault_atomic _ _ st k e he
  simp only [List.mem_cons, List.not_mem_nil, or_false] at hop
  rcases hop with rfl | rfl | rfl | rfl | rfl | rfl | rfl | rfl | rfl | rfl
  · exact uv_write2_balanced _
  · exact udp_send_balanced _ _
  · exact fs_op_balanced _ _
  · exact queue_work_balanced
  · exact getaddrinfo_balanced
  · exact pipe_bind_balanced
  · exact uv_spawn_pre_balanced _ _
  · exact fs_poll_start_balanced
  · exact fs_event_start_balanced _
  · exact os_environ_balanced _

example : runFrom (uvWrite2 6) ⟨3, 10, 7, 2, 1, 0⟩ (some (0, ENOMEM)) = (⟨3, 10, 7, 2, 1, 0⟩, -12) := by decide +kernel
example : runFrom (uvWrite2 6) ⟨3, 10, 7, 2, 1, 0⟩ none = (⟨4, 11, 7, 2, 2, 0⟩, 0) := by decide +kernel
example : runFrom (uvSpawn 3 true) ⟨0, 5, 9, 1, 1, 0⟩ (some (2, EMFILE)) = (⟨0, 5, 9, 1, 1, 0⟩, -24) := by decide +kernel
example : runFrom (uvSpawn 3 true) ⟨0, 5, 9, 1, 1, 0⟩ (some (4, ENOMEM)) = (⟨0, 5, 12, 1, 1, 0⟩, -12) := by decide +kernel
example : runFrom (uvSpawn 3 true) ⟨0, 5, 9, 1, 1, 0⟩ none = (⟨0, 5, 12, 2, 2, 0⟩, 0) := by decide +kernel
example : runFrom (osEnviron 4) ⟨0, 2, 3, 0, 0, 0⟩ (some (3, ENOMEM)) = (⟨0, 2, 3, 0, 0, 0⟩, -12) := by decide +kernel
example : runFrom pipeBind D.zero (some (2, ENOMEM)) = (D.zero, -12) := by decide +kernel

/-! ### what the model says about the code before the recorded fixes -/

/-- seeded revert L5: `uv_write2` before fix 78db063 is not fault-atomic — the ENOMEM return leaves
`active_reqs` incremented (the loop then stays alive for ever) -/
theorem uv_write2_old_not_atomic : runFrom (uvWrite2Old 5) D.zero (some (0, ENOMEM)) = (⟨1, 0, 0, 0, 0, 0⟩, -12) ∧
    balanced (uvWrite2Old 5) = false := by decide +kernel

/-- seeded revert L22: `uv_fs_poll_start` before fix 4ff8de0 leaves the freed context's timer in the handle queue -/
theorem fs_poll_start_old_not_atomic : runFrom fsPollStartOld D.zero (some (1, ENOMEM)) = (⟨0, 0, 0, 0, 1, 0⟩, -12) ∧
    balanced fsPollStartOld = false := by decide +kernel

/-- mutation "drop the uv__close on the uv_pipe_bind error path": a descriptor leaks -/
theorem pipe_bind_no_close_leaks : runFrom pipeBindNoClose D.zero (some (2, ENOMEM)) = (⟨0, 0, 1, 0, 0, 0⟩, -12) := by decide +kernel

/-- seeded revert L24: `uv_fs_event_start` before fix d34fc71 — when the path is new to the loop and the watcher_list
allocation fails, UV_ENOMEM is returned but the kernel watch created by inotify_add_watch stays -/
theorem fs_event_start_old_watch_leak : balanced (fsEventStartOld true) = false ∧
    runFrom (fsEventStartOld true) D.zero (some (1, ENOMEM)) = (⟨0, 0, 0, 0, 0, 1⟩, -12) := by decide +kernel

/-- `uv_pipe_connect2`: a failing socket()/connect() is never returned; the call returns 0, the request is
registered (exactly one callback is owed) and the callback carries the mapped code -/
theorem pipe_connect2_always_owes_callback (newSock : Bool) (st : D) (f : Fault) :
    (pipeConnect2 newSock st f).2.1 = 0 ∧ (pipeConnect2 newSock st f).1.reqs = st.reqs + 1 ∧
    (∀ k e, f = some (k, e) → k < (if newSock then 2 else 1) → (pipeConnect2 newSock st f).2.2 = -(e : Int)) := by
  refine ⟨?_, ?_, fun k e hf hk => ?_⟩
  · unfold pipeConnect2; split <;> rfl
  · unfold pipeConnect2; split <;> simp only [D.add_reqs, Int.add_zero]
  · subst hf
    cases newSock
    · obtain rfl : k = 0 := by simpa using hk
      rfl
    · rcases k with _ | _ | k
      · rfl
      · rfl
      · simp at hk; omega

/-- every submitted operation of the run is balanced, and injected errnos are real (positive) errnos -/
def allBalanced (acts : List Act) : Prop :=
  ∀ a ∈ acts, match a with
    | .submit op f => balanced op = true ∧ ∀ k e, f = some (k, e) → 0 < e
    | .complete _ => True

/-- **accounting_survives_faults**: for every sequence of (balanced) operations under every fault schedule —
any number of faults, any fault points, any errnos — interleaved with completions in any order, the accounting
state equals the initial state plus exactly what the successfully submitted, not yet completed operations hold.
Failed calls contribute nothing. -/
theorem accounting_survives_faults (acts : List Act) (hb : allBalanced acts) :
    ∀ (st0 st : D) (infl : List D), st = st0 + sumD infl →
      (runActs (st, infl) acts).1 = st0 + sumD (runActs (st, infl) acts).2 := by
  induction acts with
  | nil => exact fun _ _ _ h => h
  | cons a rest ih =>
    intro st0 st infl h
    have ha := hb a List.mem_cons_self
    have ih := ih (fun a' ha' => hb a' (List.mem_cons_of_mem _ ha')) st0
    have push (op : Op) : st + total op = st0 + sumD (total op :: infl) := by
      rw [h, sumD, D.add_assoc, D.add_comm (sumD infl)]
    rw [runActs, List.foldl_cons, ← runActs]
    refine ih _ _ ?_
    cases a with
    | submit op f =>
      rcases f with _ | ⟨k, e⟩
      · simp only [fault_free_effect]
        exact push op
      · rcases runFrom_balanced (e := e) op ha.1 (D.add_zero st).symm k with hr | ⟨kind, hr⟩ <;> simp only [hr]
        · exact push op
        · rw [if_neg (Int.ne_of_lt (errCode_neg kind e (ha.2 k e rfl)))]
          exact h
    | complete i =>
      cases hi : infl[i]? <;> simp only [hi]
      · exact h
      · rw [h, sumD_eraseIdx hi, ← D.add_assoc, D.add_neg_cancel]

/-- consequences for the loop: `active_reqs` is the initial count plus the number of callbacks owed by in-flight
requests (`sumD_reqs_nonneg`: that sum is not negative when no in-flight entry has negative `reqs`); and once everything
in flight has completed, counters and ledger are exactly the initial ones (the loop can finish; nothing leaked). -/
theorem reqs_eq_owed_and_drained (acts : List Act) (hb : allBalanced acts) (st0 : D) :
    (runActs (st0, []) acts).1.reqs = st0.reqs + (sumD (runActs (st0, []) acts).2).reqs ∧
    ((runActs (st0, []) acts).2 = [] → (runActs (st0, []) acts).1 = st0) := by
  have h := accounting_survives_faults acts hb st0 st0 [] (D.add_zero st0).symm
  exact ⟨congrArg D.reqs h, fun hnil => by rw [h, hnil]; exact D.add_zero st0⟩

theorem sumD_reqs_nonneg : ∀ (l : List D), (∀ d ∈ l, 0 ≤ d.reqs) → 0 ≤ (sumD l).reqs := by
  intro l
  induction l with
  | nil => exact fun _ => Int.le_refl 0
  | cons d ds ih =>
    exact fun h => Int.add_nonneg (h d List.mem_cons_self) (ih fun d' hd' => h d' (List.mem_cons_of_mem _ hd'))

-- a schedule with two faults, a success and a completion: uv_write2(ENOMEM), uv_spawn(EMFILE at the 2nd pair),
-- uv_write2 ok, fs_poll_start(ENOMEM at the path copy), completion of the write
example : runActs (⟨0, 0, 3, 1, 0, 0⟩, []) [.submit (uvWrite2 6) (some (0, ENOMEM)), .submit (uvSpawnPre 2 false) (some (1, EMFILE)),
    .submit (uvWrite2 6) none, .submit fsPollStart (some (1, ENOMEM)), .complete 0] = (⟨0, 0, 3, 1, 0, 0⟩, []) := by decide +kernel
example : (runActs (⟨0, 0, 3, 1, 0, 0⟩, []) [.submit (uvWrite2 6) none, .submit getaddrinfoAsync (some (0, ENOMEM)),
    .submit queueWork none]).1.reqs = 2 := by decide +kernel

end UvModel.Fault
