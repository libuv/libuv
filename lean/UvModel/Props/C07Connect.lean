import UvModel.Accept
import UvModel.Lemmas.ConnectLemmas
/-! # C07 — connect requests complete exactly once, with the right status
(uv__tcp_connect / uv_pipe_connect2 / uv__stream_connect / uv__stream_destroy) -/
namespace UvModel.Accept

/-- **connect_cb_exactly_once**, part "never twice" (every operation sequence, no side condition):
no connect request ever gets a second callback, callbacks only go to requests whose submitting call
returned 0, and after `uv__stream_destroy` nothing is pending. -/
theorem connect_cb_never_twice (ops : List COp) :
    ((crun {} ops).cbs.map (·.1)).Nodup ∧
    (∀ r ∈ (crun {} ops).cbs.map (·.1), r ∈ (crun {} ops).accepted) ∧
    ((crun {} ops).destroyed = true → (crun {} ops).connectReq = none) := by
  have h := cinv_run ops {} cinv_init
  exact ⟨h.nodup, fun _ => h.mem_accepted, fun hd => (h.flags hd).2⟩

/-- the full statement of "exactly once": every accepted request is completed or still pending, and
completed at most once -/
def connect_cb_exactly_once_full : Prop :=
  ∀ ops : List COp, let c := crun {} ops
    (c.cbs.map (·.1)).Nodup ∧ ∀ r ∈ c.accepted, r ∈ c.cbs.map (·.1) ∨ c.connectReq = some r

/-- the code as it is: `uv_pipe_connect2` overwrites a pending `connect_req` (pipe.c:331-338; no
`UV_EALREADY` check as in tcp.c:288), so a second connect on the same pipe loses the first request.
Witness replayed on the real library (request 0 never called back, loop stays alive). -/
theorem connect_cb_exactly_once_full_false : ¬ connect_cb_exactly_once_full := by
  intro h
  have := (h [.pipeConnect 0 0 (-2), .pipeConnect 0 0 (-2), .io 0, .close, .destroy]).2 0 (by decide)
  revert this; decide

/-- **connect_cb_exactly_once** (`_partial`: for programs that do not start a pipe connect while one is
pending on the same handle): every request whose submitting call returned 0 is either still pending
or has had its one callback; once the handle is closed and destroyed, all of them have. -/
theorem connect_cb_exactly_once_partial (ops : List COp) (ho : noOverlap {} ops = true) :
    ((crun {} ops).cbs.map (·.1)).Nodup ∧
    (∀ r ∈ (crun {} ops).accepted, r ∈ (crun {} ops).cbs.map (·.1) ∨ (crun {} ops).connectReq = some r) ∧
    ((crun {} ops).destroyed = true → ∀ r ∈ (crun {} ops).accepted, r ∈ (crun {} ops).cbs.map (·.1)) := by
  have h := cinv_run ops {} cinv_init
  have hn := nonelost_run ops {} rfl ho
  refine ⟨h.nodup, fun _ => hn.mem h, fun hd r hr => ?_⟩
  rcases hn.mem h hr with h1 | h1
  · exact h1
  · rw [(h.flags hd).2] at h1; cases h1

example : noOverlap {} [.tcpConnect 0 (-115), .write 1, .io (-111), .close, .destroy] = true ∧
    (crun {} [.tcpConnect 0 (-115), .write 1, .io (-111), .close, .destroy]).cbs = [(0, -111)] ∧
    (crun {} [.tcpConnect 0 (-115), .write 1, .io (-111), .close, .destroy]).wcbs = [(1, ECANCELED)] := by decide +kernel

/-- status: the callback reports 0 exactly when SO_ERROR is 0 and no error was parked in
`delayed_error`; otherwise it reports that error (EINPROGRESS: no callback yet) -/
theorem connect_status (c : Conn) (r : Nat) (so : Int) (hc : c.closing = false) (hr : c.connectReq = some r) :
    let st := if c.delayedError != 0 then c.delayedError else so
    (st = EINPROGRESS → (streamConnect c so).cbs = c.cbs ∧ (streamConnect c so).connectReq = some r) ∧
    (st ≠ EINPROGRESS → (streamConnect c so).cbs = c.cbs ++ [(r, st)] ∧ (streamConnect c so).connectReq = none) ∧
    (st = 0 ↔ (c.delayedError = 0 ∧ so = 0)) := by
  rcases c with ⟨req, de, nx, closing⟩
  subst hc hr
  unfold streamConnect
  -- the status is `delayed_error` or SO_ERROR; from there on the two cases read the same
  cases hd : de != 0 <;> simp only [Bool.false_eq_true, ↓reduceIte] <;>
    refine ⟨fun h => by rw [h]; exact ⟨rfl, rfl⟩, fun h => ?_, by simp at hd; simp [hd]⟩
  all_goals
    rw [if_neg (by simpa using h)]
    exact iteInduction (motive := fun x : Conn => x.cbs = _ ∧ x.connectReq = none) (fun _ => ⟨rfl, rfl⟩) fun _ => ⟨rfl, rfl⟩

/-- closed before completion: `uv__stream_destroy` completes the pending request with UV_ECANCELED -/
theorem connect_cancelled_on_close (c : Conn) (r : Nat) (hr : c.connectReq = some r)
    (hc : c.closing = true) (hd : c.destroyed = false) :
    (connDestroy c).cbs = c.cbs ++ [(r, ECANCELED)] ∧ (connDestroy c).connectReq = none := by
  simp [connDestroy, hc, hd, hr, flushWrites]

/-- errors of connect(2) other than EINPROGRESS/ECONNREFUSED are returned synchronously by
`uv__tcp_connect` and no request is registered; ECONNREFUSED is parked and the call returns 0 -/
theorem tcp_connect_sync_vs_delayed (c : Conn) (e : Int) (hc : c.closing = false) (hn : c.connectReq = none)
    (hd : c.delayedError = 0) :
    (e ≠ 0 → e ≠ EINPROGRESS → e ≠ ECONNREFUSED → tcpConnect c 0 e = ({ c with fdOpen := true, connectCalls := c.connectCalls + 1 }, e)) ∧
    ((tcpConnect c 0 ECONNREFUSED).2 = 0 ∧ (tcpConnect c 0 ECONNREFUSED).1.delayedError = ECONNREFUSED ∧
     (tcpConnect c 0 ECONNREFUSED).1.fed = true ∧ (tcpConnect c 0 ECONNREFUSED).1.connectReq = some c.nextReq) := by
  refine ⟨fun h0 h1 h2 => ?_, ?_⟩
  · simp [tcpConnect, hc, hn, hd, h0, h1, h2]
  · simp [tcpConnect, hc, hn, hd, ECONNREFUSED, EINPROGRESS]

/-- `uv_pipe_connect2`: *every* connect(2) result other than 0 / EINPROGRESS (EAGAIN of a full backlog, ENOENT,
ECONNREFUSED, EACCES, …) is parked in `delayed_error`, the call returns 0, the callback is forced on the
next tick and then reports exactly that error — never 0 — whatever SO_ERROR says -/
theorem pipe_connect_errors_via_callback (c : Conn) (r so : Int) (hc : c.closing = false)
    (h0 : r ≠ 0) (h1 : r ≠ EINPROGRESS) :
    (pipeConnect c 0 0 r).2 = 0 ∧ (pipeConnect c 0 0 r).1.delayedError = r ∧ (pipeConnect c 0 0 r).1.fed = true ∧
    (pipeConnect c 0 0 r).1.connectReq = some c.nextReq ∧
    (streamConnect (pipeConnect c 0 0 r).1 so).cbs = c.cbs ++ [(c.nextReq, r)] := by
  have hs : (pipeConnect c 0 0 r) =
      ({ c with fdOpen := true, connectCalls := c.connectCalls + 1, delayedError := r, connectReq := some c.nextReq,
                nextReq := c.nextReq + 1, accepted := c.accepted ++ [c.nextReq], fed := true }, 0) := by
    simp [pipeConnect, hc, h0, h1]
  rw [hs]
  refine ⟨rfl, rfl, rfl, rfl, ?_⟩
  simp only [streamConnect, hc, flushWrites]
  simp [h0, h1]
  split <;> simp

example : (streamConnect (pipeConnect {} 0 0 EAGAIN).1 0).cbs = [(0, EAGAIN)] := by decide +kernel

/-- a client handle whose `uv_tcp_bind` hit EADDRINUSE (deferred, bind returned 0): `uv_tcp_connect` returns 0
*without reaching connect(2)* — no connection can come into being — and the callback reports the bind
error whatever the kernel would say; so "status ≠ 0" and "not established" coincide (tcp.c:291-292) -/
theorem tcp_connect_after_deferred_bind_error (c : Conn) (r so : Int) (hc : c.closing = false)
    (hn : c.connectReq = none) :
    (tcpBind c EADDRINUSE).2 = 0 ∧
    (tcpConnect (tcpBind c EADDRINUSE).1 0 r).2 = 0 ∧
    (tcpConnect (tcpBind c EADDRINUSE).1 0 r).1.connectCalls = c.connectCalls ∧
    (streamConnect (tcpConnect (tcpBind c EADDRINUSE).1 0 r).1 so).cbs = c.cbs ++ [(c.nextReq, EADDRINUSE)] := by
  have hb : tcpBind c EADDRINUSE = ({ c with fdOpen := true, delayedError := EADDRINUSE }, 0) := by
    simp [tcpBind, hc, EADDRINUSE]
  rw [hb]
  simp [tcpConnect, streamConnect, hc, hn, EADDRINUSE, EINPROGRESS, flushWrites]

example : (crun {} [.tcpBind EADDRINUSE, .tcpConnect 0 0, .io 0]).cbs = [(0, EADDRINUSE)] ∧
    (crun {} [.tcpBind EADDRINUSE, .tcpConnect 0 0, .io 0]).connectCalls = 0 ∧
    (crun {} [.tcpBind 0, .tcpConnect 0 EINPROGRESS, .io 0]).cbs = [(0, 0)] ∧
    (crun {} [.tcpBind 0, .tcpConnect 0 EINPROGRESS, .io 0]).connectCalls = 1 := by decide +kernel

/-- `streamConnect` is `connPre`, an empty callback, `connPost` -/
theorem streamConnect_eq_pre_post (c : Conn) (so : Int) :
    streamConnect c so = connPost (connPre c so).1 (connPre c so).2 := by
  unfold streamConnect connPre
  rcases c with ⟨_ | req, de, nx, _ | _⟩
  · rfl
  · rfl
  · cases de != 0
    · simp only [Bool.false_eq_true, ↓reduceIte]
      cases so == EINPROGRESS <;> rfl
    · simp only [↓reduceIte]
      cases de == EINPROGRESS <;> rfl
  · rfl

/-- **retry from the failure callback**: when a connect fails and the user's callback re-submits a connect on the
same handle (tcp or pipe), the new request is registered with POLLOUT armed and is still pending with POLLOUT
armed after `uv__stream_connect` returns — the stop of POLLOUT for the failed attempt happens *before* the
callback, so it cannot cancel the retry's interest; hence the retry's completion will be seen -/
theorem connect_retry_from_failure_callback_stays_armed (c : Conn) (req : Nat) (so r : Int) (e : Int)
    (hc : c.closing = false) (hr : c.connectReq = some req) (hd : c.delayedError = 0)
    (he : (connPre c so).2 = some e) (hneg : e < 0) (hr' : r = 0 ∨ r = EINPROGRESS) :
    let c1 := (connPre c so).1
    (let c2 := (tcpConnect c1 0 r).1
     (tcpConnect c1 0 r).2 = 0 ∧ (connPost c2 (some e)).pollout = true ∧ (connPost c2 (some e)).connectReq = some c.nextReq) ∧
    (let c2 := (pipeConnect c1 0 0 r).1
     (pipeConnect c1 0 0 r).2 = 0 ∧ (connPost c2 (some e)).pollout = true ∧ (connPost c2 (some e)).connectReq = some c.nextReq) := by
  have hso : so ≠ EINPROGRESS ∧ e = so := by
    simp [connPre, hc, hr, hd] at he
    by_cases h : so = EINPROGRESS <;> simp_all
  obtain ⟨hne, rfl⟩ := hso
  have h1 : (connPre c e).1 = { c with connectReq := none, fed := false, cbs := c.cbs ++ [(req, e)], pollout := false } := by
    simp [connPre, hc, hr, hd, hne, hneg]
  rw [h1]
  rcases hr' with rfl | rfl <;>
    simp [tcpConnect, pipeConnect, connPost, hc, hd, hneg, flushWrites, EINPROGRESS]

example : (connPost (tcpConnect (connPre (tcpConnect {} 0 EINPROGRESS).1 ECONNREFUSED).1 0 EINPROGRESS).1 (some ECONNREFUSED)).pollout = true ∧
    (connPost (tcpConnect (connPre (tcpConnect {} 0 EINPROGRESS).1 ECONNREFUSED).1 0 EINPROGRESS).1 (some ECONNREFUSED)).connectReq = some 1 := by decide +kernel

end UvModel.Accept
