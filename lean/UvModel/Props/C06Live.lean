import UvModel.Lemmas.StreamRLemmas
/-! C06 — what the model says towards "reading stops only on UV_EOF, a read error, uv_read_stop() or uv_close()".
    Two state facts, no statement about a later poll delivering (that is left to the harness).

    `reading_implies_armed`: in every reachable state, UV_HANDLE_READING implies that the watcher is armed for POLLIN
    and read_cb is set, which is the condition under which `ioPoll` hands POLLIN / POLLHUP / POLLERR to uv__read and its
    loop is entered.  `refusal_keeps_reading`: from any state that is reading and armed, a refused alloc_cb (UV_ENOBUFS)
    whose read_cb neither stops nor closes leaves the stream reading and armed, with the kernel buffer untouched.
    `callReadCb_starts_keep` is the part about the callback, for any nread; the EAGAIN and data rounds are not stated. -/
namespace UvModel.Props.C06Live
open UvModel.StreamR

/-- **While UV_HANDLE_READING is set the watcher is armed for POLLIN and read_cb is set**, in every state any program,
    user, event sequence and read-outcome schedule can reach.  Reading is therefore never left "set but deaf". -/
theorem reading_implies_armed (u : User) (ipc : Bool) (ops : List Op) :
    (exec u (start ipc) ops).reading = true →
      (exec u (start ipc) ops).pollin = true ∧ (exec u (start ipc) ops).hasCb = true :=
  (coupled_run u ipc ops).armed

/-- uv_read_start on a stream that is already reading changes nothing but the trace (UV_EALREADY / UV_EINVAL),
    so a read_cb that only calls it leaves the stream reading and armed -/
theorem callReadCb_starts_keep (u : User) (s : St) (n : Int) (buf : Option Nat) (b : List Byte)
    (hk : ∀ op ∈ u.cbS s.nCb, op = CbOp.start) (h : s.reading = true ∧ s.pollin = true ∧ s.hasCb = true) :
    (callReadCb u s n buf b).reading = true ∧ (callReadCb u s n buf b).pollin = true ∧
    (callReadCb u s n buf b).hasCb = true :=
  List.foldlRecOn (motive := fun s => s.reading = true ∧ s.pollin = true ∧ s.hasCb = true)
    (b := emit { s with nCb := s.nCb + 1 } (.readCb n buf b)) _ doOp h
    fun s h op hop => by
      rw [hk op hop]
      simp only [doOp, readStart, h.1]
      split <;> exact h

/-- **UV_ENOBUFS is not a stop condition.**  When alloc_cb refuses (NULL base / zero length) and the read callback that
    receives UV_ENOBUFS neither stops nor closes (it may call uv_read_start again, which answers UV_EALREADY), the round
    of uv__read leaves UV_HANDLE_READING set, POLLIN armed, read_cb set and the kernel buffer untouched: the pending
    bytes and the end of the stream are delivered by the following iterations (level-triggered POLLIN). -/
theorem refusal_keeps_reading (u : User) (s : St) (hr : s.reading = true) (hp : s.pollin = true) (hc : s.hasCb = true)
    (hz : u.allocS s.nAlloc = 0) (hk : ∀ op ∈ u.cbS s.nCb, op = CbOp.start) :
    (readRound u s).1.reading = true ∧ (readRound u s).1.pollin = true ∧ (readRound u s).1.hasCb = true ∧
    (readRound u s).1.kbuf = s.kbuf ∧ (readRound u s).2 = false := by
  obtain ⟨h1, h2, h3⟩ := callReadCb_starts_keep u (emit { s with nAlloc := s.nAlloc + 1 } (.alloc s.nAlloc 0))
    UV_ENOBUFS (some s.nAlloc) [] hk ⟨hr, hp, hc⟩
  simp only [readRound, hz, if_true]
  exact ⟨h1, h2, h3, (same_callReadCb u).2.1, trivial⟩

/-- non-vacuity + the end-to-end shape: a refusal in the middle of the data, a read_cb that just returns; the rest of
    the bytes and UV_EOF arrive on the following iterations -/
example : (exec { allocS := fun k => if k = 1 then 0 else 2, cbS := fun _ => [] } (start false)
      [.start, .peerW [1, 2, 3], .peerShut, .poll { inn := true } [], .poll { inn := true } [], .poll { inn := true } []]).trace =
    [.ret .start 0, .peerW [1, 2, 3], .peerShut, .alloc 0 2, .readCb 2 (some 0) [1, 2], .alloc 1 0, .readCb (-105) (some 1) [],
     .alloc 2 2, .readCb 1 (some 2) [3], .alloc 3 2, .readCb (-4095) (some 3) []] := by decide +kernel

example : (readRound { allocS := fun _ => 0, cbS := fun _ => [.start] }
    { reading := true, pollin := true, hasCb := true, kbuf := [1, 2] }).1.reading = true := by decide +kernel

end UvModel.Props.C06Live
