import UvModel.Lemmas.AsyncCloseLiveness
import UvModel.Lemmas.AsyncMemory
import UvModel.Generated.AsyncSeq
/-! # C09 — uv_async_send: property theorems (model: UvModel.Async, invariants: UvModel.Lemmas.Async*)

`Reachable s` = s is reached from `init nh ns` (any number of handles and sender threads) by ANY list of
actions, i.e. every interleaving of sender steps, loop-thread steps, uv_close calls (between polls or inside
a callback) and close callbacks.  Signal-handler sends are the interleavings in which the interrupted thread
does not step while the handler's send runs. -/
namespace UvModel.Props.C09
open UvModel.Async

/-! ## Tie A: the order of operations in the source equals the order the model executes -/
theorem send_seq_matches_source : Generated.AsyncSeq.asyncSendSeq = senderProgram := by decide
theorem wakeup_seq_matches_source : Generated.AsyncSeq.asyncWakeupSeq = wakeupProgram := by decide
theorem io_seq_matches_source : Generated.AsyncSeq.asyncIoSeq = ioProgram := by decide
theorem spin_seq_matches_source : Generated.AsyncSeq.asyncSpinSeq = spinProgram := by decide
theorem close_seq_matches_source : Generated.AsyncSeq.asyncCloseSeq = closeProgram := by decide
theorem fork_seq_matches_source : Generated.AsyncSeq.asyncForkSeq = forkProgram := by decide

/-! ## no lost wake-up -/

/-- For every open handle with the pending flag set, the wake-up is not lost: the eventfd is readable, or a
sender sits between its successful exchange and its eventfd write, or the loop thread is inside
uv__async_io and has not yet passed the handle. -/
theorem no_lost_wakeup {s : State} (hr : Reachable s) (h : Nat)
    (hp : (s.hs h).pending ≠ 0) (ho : (s.hs h).closing = false) :
    s.efd > 0 ∨ atWrite s ∨ willScan s h :=
  (inv_reachable hr).W h hp ho

/-- The loop never blocks while it owes a callback: loop in epoll with the eventfd at 0 and no sender about to
write it ⇒ no open handle has pending set. -/
theorem never_blocks_owing {s : State} (hr : Reachable s) (hl : s.lpc = .idle) (he : s.efd = 0)
    (hs : ¬ atWrite s) (h : Nat) (ho : (s.hs h).closing = false) : (s.hs h).pending = 0 := by
  by_cases hp : (s.hs h).pending = 0
  · exact hp
  · rcases no_lost_wakeup hr h hp ho with h1 | h1 | h1
    · omega
    · exact absurd h1 hs
    · simp [willScan, hl] at h1

/-- a state in which the hypotheses of `no_lost_wakeup` hold non-trivially: sender 0 has exchanged pending
0→1 on handle 0 and is preempted before writing the eventfd, the loop is asleep -/
example : let s := run (init 1 2) [.begin 0 0, .snd 0, .snd 0, .snd 0]
    (s.hs 0).pending = 1 ∧ s.efd = 0 ∧ s.lpc = .idle ∧ (s.snd[0]?.map (·.pc)) = some .write := by decide +kernel

/-- ... and one where the loop has drained the eventfd and a second send arrives before the scan reaches h -/
example : let s := run (init 1 2) [.begin 0 0, .snd 0, .snd 0, .snd 0, .snd 0, .snd 0, .loop, .loop, .begin 1 0, .snd 1]
    (s.hs 0).pending = 1 ∧ s.efd = 0 ∧ s.lpc = .scan 0 ∧ (s.snd[1]?.map (·.sent)) = some true := by decide +kernel

/-- EINTR / EAGAIN on the wake-up write are inputs of the model: an interrupted write is retried (no state change, the
sender is still "between exchange and write", so `no_lost_wakeup` keeps holding), a saturated counter answers EAGAIN and
is non-zero.  Here the counter saturates at 1: the second effective send gets EAGAIN and the loop is still woken. -/
example : let s := run (init 2 2 0) [.begin 0 0, .snd 0, .snd 0, .snd 0, .eintr (some 0), .eintr (some 0), .snd 0,
                                     .begin 1 1, .snd 1, .snd 1, .snd 1, .snd 1]
    s.efd = 1 ∧ (s.hs 0).pending = 1 ∧ (s.hs 1).pending = 1 ∧ (s.snd[1]?.map (·.pc)) = some .dec := by decide +kernel

/-! ## every send is followed by a callback -/

/-- After uv_async_send returned on an open handle: either a callback that started after the call began has
run (`seq ≤ seen`: it observed everything published before the call — the sequence number is taken when the
call begins, `seen` is the number of sends begun when the latest callback started), or the flag is still
pending and the wake-up is not lost, so the loop thread cannot stay blocked and will reach the handle. -/
theorem send_then_callback {s : State} (hr : Reachable s) (t : Nat) (x : Sender) (hx : s.snd[t]? = some x)
    (hidle : x.pc = .idle) (hsent : x.sent = true) (ho : (s.hs x.h).closing = false) :
    x.seq ≤ (s.hs x.h).seen ∨ ((s.hs x.h).pending ≠ 0 ∧ (s.efd > 0 ∨ atWrite s ∨ willScan s x.h)) := by
  rcases (inv_reachable hr).J t x hx (Or.inr (Or.inr ⟨hidle, hsent⟩)) ho with h1 | h1
  · exact Or.inl h1
  · exact Or.inr ⟨h1, no_lost_wakeup hr x.h h1 ho⟩

/-- visibility at quiescence: when the loop is blocked and nobody is about to wake it, every returned send on
an open handle has been observed by a callback that started after the send began -/
theorem quiescent_all_sends_seen {s : State} (hr : Reachable s) (hl : s.lpc = .idle) (he : s.efd = 0)
    (hs : ¬ atWrite s) (t : Nat) (x : Sender) (hx : s.snd[t]? = some x) (hidle : x.pc = .idle)
    (hsent : x.sent = true) (ho : (s.hs x.h).closing = false) : x.seq ≤ (s.hs x.h).seen := by
  rcases send_then_callback hr t x hx hidle hsent ho with h1 | ⟨h1, _⟩
  · exact h1
  · exact absurd (never_blocks_owing hr hl he hs x.h ho) h1

example : let s := run (init 1 1) [.begin 0 0, .snd 0, .snd 0, .snd 0, .snd 0, .snd 0, .loop, .loop, .loop, .loop]
    s.lpc = .idle ∧ s.efd = 0 ∧ (s.snd[0]?.map (fun x => (x.sent, x.seq))) = some (true, 1) ∧ (s.hs 0).seen = 1 ∧ (s.hs 0).cbs = 1 := by
  decide +kernel

/-- While a callback is owed on an open handle the system is never stuck: the loop thread can step, or (loop
asleep with the eventfd at 0, or spinning in uv__async_spin for another handle) a sender inside uv_async_send can. -/
theorem no_deadlock_while_owing {s : State} (hr : Reachable s) (h : Nat)
    (hp : (s.hs h).pending ≠ 0) (ho : (s.hs h).closing = false) :
    (step? s .loop).isSome = true ∨ ∃ t, (step? s (.snd t)).isSome = true :=
  owed_implies_some_thread_enabled (inv_reachable hr) h hp ho

/-- Liveness under weak fairness.  `s`: any reachable state in which an open handle `h` has a send owed and no
uv_close is in the middle of uv__async_spin; `σ`: any infinite continuation (sender steps, new sends, loop steps,
close callbacks, EINTR answers — no uv_close, no fork) in which the loop thread and every sender thread are scheduled again and again.
Then the callback of `h` starts.  (Measure: `mu` = 2·(loop steps until the scan reaches `h`, counting a full
extra pass when the scan is already past `h`) + 1 while the loop sleeps with the eventfd at 0; sender steps never
increase it, the helpful thread — the loop, or the sender parked at the eventfd write — strictly decreases it.) -/
theorem send_then_callback_liveness {s : State} (hr : Reachable s) (h : Nat)
    (hp : (s.hs h).pending ≠ 0) (ho : (s.hs h).closing = false) (hnc : noClosePc s)
    (σ : Nat → Act) (hσ : ∀ n h', σ n ≠ .close h') (hσf : ∀ n, σ n ≠ .fork)
    (fairL : ∀ n, ∃ m, m ≥ n ∧ σ m = .loop)
    (fairS : ∀ n t, t < s.snd.length → ∃ m, m ≥ n ∧ σ m = .snd t) :
    ∃ n, ((runN σ n s).hs h).cbs > (s.hs h).cbs := by
  have hσ' : ∀ n, notClose (σ n) := fun n => notClose_of (hσ n) (hσf n)
  exact liveness_aux σ hσ' s h _ fairL fairS (mu s h) 0 (Nat.le_refl _) ⟨inv_reachable hr, hp, ho, rfl, hnc⟩

/-- hypotheses are satisfiable in the interesting case: sender preempted between exchange and eventfd write, loop asleep -/
example : let s := run (init 2 2) [.begin 0 1, .snd 0, .snd 0, .snd 0]
    (s.hs 1).pending ≠ 0 ∧ (s.hs 1).closing = false ∧ s.lpc = .idle ∧ s.efd = 0 ∧ noClosePc s := by
  refine ⟨by decide, by decide, by decide, by decide, ?_⟩
  have hl : (run (init 2 2) [.begin 0 1, .snd 0, .snd 0, .snd 0]).lpc = .idle := by decide +kernel
  intro h' r; rw [hl]; constructor <;> simp

/-- FULL liveness statement: the same without `noClosePc s`, i.e. also when `s` is in the middle of a uv_close of
ANOTHER handle (loop thread parked in uv__async_spin).  It holds (`send_then_callback_liveness_full_holds`): that phase
has a measure of its own, `nu` (Lemmas/AsyncCloseLiveness); `rankL` and `mu` are 0 there and are not used. -/
def send_then_callback_liveness_full : Prop :=
  ∀ s, Reachable s → ∀ h, (s.hs h).pending ≠ 0 → (s.hs h).closing = false →
    ∀ σ : Nat → Act, (∀ n h', σ n ≠ .close h') → (∀ n, σ n ≠ .fork) →
      (∀ n, ∃ m, m ≥ n ∧ σ m = .loop) → (∀ n t, t < s.snd.length → ∃ m, m ≥ n ∧ σ m = .snd t) →
      ∃ n, ((runN σ n s).hs h).cbs > (s.hs h).cbs

/-! ### fork
`Act.fork` continues in the child after uv_loop_fork: `Reachable` is closed under it, so every theorem of this file
holds for sends made in the child (no lost wake-up on the fresh eventfd, delivery, liveness from any post-fork state).
Sends that were undelivered at fork time are dropped in the child by uv__async_fork (pending cleared) — by design. -/

/-- non-vacuous: a send undelivered at fork time (pending = 1, eventfd = 1); in the child the flag and the new
eventfd are clear, the next send takes the slow path again, wakes the loop and gets its callback -/
example : let s := run (init 1 1) [.begin 0 0, .snd 0, .snd 0, .snd 0, .snd 0, .snd 0, .fork]
    (s.hs 0).pending = 0 ∧ s.efd = 0 ∧ (s.hs 0).cbs = 0 := by decide +kernel
example : let s := run (init 1 1) [.begin 0 0, .snd 0, .snd 0, .snd 0, .snd 0, .snd 0, .fork,
                                   .begin 0 0, .snd 0, .snd 0, .snd 0, .snd 0, .snd 0, .loop, .loop, .loop, .loop]
    (s.hs 0).cbs = 1 ∧ (s.hs 0).seen = 2 ∧ s.lpc = .idle ∧ s.efd = 0 := by decide +kernel

/-! ## the callback never runs without a send -/

/-- #callbacks(h) ≤ #sender exchanges that changed pending 0→1 on h -/
theorem cb_only_after_send {s : State} (hr : Reachable s) (h : Nat) : (s.hs h).cbs ≤ (s.hs h).x01 := by
  have := (inv_reachable hr).C h
  omega

/-- coalescing is real: two returned sends, one effective exchange, one callback -/
example : let s := run (init 1 2) [.begin 0 0, .snd 0, .snd 0, .snd 0, .begin 1 0, .snd 1, .snd 0, .snd 0, .loop, .loop, .loop, .loop]
    (s.hs 0).cbs = 1 ∧ (s.hs 0).x01 = 1 ∧ (s.hs 0).pub = 2 ∧ (s.hs 0).seen = 2 := by decide +kernel

/-! ## close -/

/-- once uv__async_close(h) has returned, h's callback never starts again, whatever happens next (in
particular never after the close callback, which requires uv__async_close to have returned) -/
theorem no_cb_after_close {s : State} (hr : Reachable s) (h : Nat) (hu : (s.hs h).unlinked = true)
    (acts : List Act) : ((run s acts).hs h).cbs = (s.hs h).cbs :=
  (closed_run (inv_reachable hr) hu acts).2

theorem close_cb_implies_closed {s : State} (hr : Reachable s) (h : Nat) (hf : (s.hs h).freed = true) :
    (s.hs h).unlinked = true :=
  (inv_reachable hr).L.freedUnl h hf

/-- non-vacuous: a handle closed from inside its own callback while a second send has set pending again -/
example : let s := run (init 1 2) [.begin 0 0, .snd 0, .snd 0, .snd 0, .snd 0, .snd 0, .loop, .loop, .loop,
                                   .begin 1 0, .snd 1, .snd 1, .snd 1, .snd 1, .snd 1, .close 0, .loop, .loop]
    (s.hs 0).unlinked = true ∧ (s.hs 0).pending = 1 ∧ s.efd = 1 ∧ (s.hs 0).cbs = 1 ∧ s.lpc = .inCb 0 := by decide +kernel

/-- uv_close is safe w.r.t. the loop's wake-up channel: after uv__async_close(h) returned no sender is about to
write (or will ever write, by `Reachable` being closed under steps) the eventfd on behalf of h — including
the senders that were already inside uv_async_send(h) when uv_close was called. -/
theorem close_safe_no_wakeup_write {s : State} (hr : Reachable s) (t : Nat) (x : Sender)
    (hx : s.snd[t]? = some x) (hu : (s.hs x.h).unlinked = true) : x.pc ≠ .write := by
  intro hp
  have := (inv_reachable hr).B.noWrite t x hx hp
  simp [hu] at this

/-- uv__async_spin really waits: the close cannot complete while a sender is between its two busy updates -/
theorem close_waits_for_critical_section {s : State} (hr : Reachable s) (h : Nat) (r : LRet)
    (hl : s.lpc = .closeSpin h r) (t : Nat) (x : Sender) (hx : s.snd[t]? = some x) (hh : x.h = h)
    (hc : x.pc = .xchg ∨ x.pc = .write ∨ x.pc = .dec) : step? s .loop = none := by
  have hb := (inv_reachable hr).B.busyEq h ((inv_reachable hr).L.cloPc h r (Or.inr hl)).2
  have hpos : 0 < s.snd.countP (critB h) :=
    List.countP_pos_iff.mpr ⟨x, List.mem_of_getElem? hx, by rcases hc with hc | hc | hc <;> simp [critB, hh, hc]⟩
  exact loop_blocked.mpr (.inr ⟨h, r, hl, by omega⟩)

example : let s := run (init 1 1) [.begin 0 0, .snd 0, .snd 0, .close 0, .loop]
    s.lpc = .closeSpin 0 .idle ∧ (s.snd[0]?.map (·.pc)) = some .xchg ∧ (s.hs 0).busy = 1 := by decide +kernel

/-! ### handle memory

Full-strength reading of "uv_close() is safe while a send on another thread is in progress" when the user
releases the handle in its close callback (the documented pattern): FALSE of the code.  The busy counter only
covers senders that have already executed `atomic_fetch_add(busy, 1)`; a sender preempted before that (before or
after its first load of `pending`) touches the handle after uv__async_close returned and after the close callback. -/
def close_safe_memory_full : Prop :=
  ∀ s, Reachable s → MemSafe s

/-- witness (replayed on the real code: harness schedule `s0 s0 c0 l l f s0`, ASan heap-use-after-free in
uv_async_send at async.c:105): sender loads pending = 0; loop thread closes, spins (busy = 0), unlinks and
runs the close callback; the sender is about to do `atomic_fetch_add(busy, 1)` on the released handle. -/
theorem close_safe_memory_full_false : ¬ close_safe_memory_full := by
  intro h
  have hm := h (run (init 1 1) [.begin 0 0, .snd 0, .close 0, .loop, .loop, .closeCbs]) ⟨1, 1, 2^64 - 3, _, rfl⟩
    0 { pc := .inc, h := 0, seq := 1, sent := false } (by decide) (by decide)
  revert hm
  decide +kernel

/-- Under the user contract "the close callback releases the handle only when no uv_async_send call on it is in
flight" (`Contract`; a send may not be *started* on a closing handle in any case — `step? (.begin ..)`), no thread
is ever inside uv_async_send on released memory. -/
theorem close_safe_memory_under_contract {s : State} (hr : ReachC s) : MemSafe s :=
  (reachC_inv hr).2

/-- the contract does not forbid closing while a send is in flight: here the close completes and the close
callback runs after the in-flight sender returned -/
example : ReachC (run (init 1 1) [.begin 0 0, .snd 0, .close 0, .loop, .loop, .snd 0, .snd 0, .snd 0, .closeCbs]) := by
  have h := ReachC.init 1 1 (2^64 - 3)
  have h := reachC_step h (.begin 0 0) nofun
  have h := reachC_step h (.snd 0) nofun
  have h := reachC_step h (.close 0) nofun
  have h := reachC_step h .loop nofun
  have h := reachC_step h .loop nofun
  have h := reachC_step h (.snd 0) nofun
  have h := reachC_step h (.snd 0) nofun
  have h := reachC_step h (.snd 0) nofun
  exact reachC_step h .closeCbs (contract_of_all_idle (by decide +kernel))

/-! ## full-strength liveness (start state may be in the middle of a uv_close) -/

/-- The FULL liveness statement holds: from EVERY reachable state in which an open handle `h` has a send owed —
including the states in which the loop thread is parked inside uv__async_spin(h') for another handle h', before the
`atomic_store(pending, 1)` or spinning on `busy` — every weakly fair continuation without further uv_close / fork
starts the callback of `h`.  Close phase: `nu` = Σ over the senders inside uv_async_send(h') of their remaining
steps + 2/1 for closeStore/closeSpin.  No send can begin on a closing handle (`step? (.begin ..)` requires
`closing = false`, the documented contract), so sender steps never increase it; a sender inside uv_async_send(h') is
helpful while there is one, afterwards busy(h') = 0 (`InvB.busyEq`) and the loop thread is helpful: the spin ends in a
state outside uv__async_spin with the callback of `h` still owed, where `liveness_aux` (measure `mu`) takes over. -/
theorem send_then_callback_liveness_full_holds : send_then_callback_liveness_full := by
  intro s hr h hp ho σ hσ hσf fairL fairS
  have hσ' : ∀ n, notClose (σ n) := fun n => notClose_of (hσ n) (hσf n)
  exact liveness_of_inv σ hσ' s h (inv_reachable hr) hp ho fairL fairS

/-- The general liveness theorem of this file: `send_then_callback_liveness_full` with its binders opened;
`send_then_callback_liveness` is the case `noClosePc s`. -/
theorem send_then_callback_liveness_any_state {s : State} (hr : Reachable s) (h : Nat)
    (hp : (s.hs h).pending ≠ 0) (ho : (s.hs h).closing = false)
    (σ : Nat → Act) (hσ : ∀ n h', σ n ≠ .close h') (hσf : ∀ n, σ n ≠ .fork)
    (fairL : ∀ n, ∃ m, m ≥ n ∧ σ m = .loop)
    (fairS : ∀ n t, t < s.snd.length → ∃ m, m ≥ n ∧ σ m = .snd t) :
    ∃ n, ((runN σ n s).hs h).cbs > (s.hs h).cbs :=
  send_then_callback_liveness_full_holds s hr h hp ho σ hσ hσf fairL fairS

/-- The spin itself terminates under weak fairness: from every reachable state in which the loop thread is inside
uv__async_spin(h') (so uv_close never hangs on in-flight senders) some later state has left it — stated for the case
the theorem needs (a callback of `h` owed); `j` is the first state outside the spin reached by the argument. -/
theorem close_spin_terminates {s : State} (hr : Reachable s) (h h' : Nat) (r : LRet)
    (hl : s.lpc = .closeStore h' r ∨ s.lpc = .closeSpin h' r)
    (hp : (s.hs h).pending ≠ 0) (ho : (s.hs h).closing = false)
    (σ : Nat → Act) (hσ : ∀ n h', σ n ≠ .close h') (hσf : ∀ n, σ n ≠ .fork)
    (fairL : ∀ n, ∃ m, m ≥ n ∧ σ m = .loop)
    (fairS : ∀ n t, t < s.snd.length → ∃ m, m ≥ n ∧ σ m = .snd t) :
    ∃ j, noClosePc (runN σ j s) ∧ ((runN σ j s).hs h).pending ≠ 0 ∧ ((runN σ j s).hs h).cbs = (s.hs h).cbs := by
  have hσ' : ∀ n, notClose (σ n) := fun n => notClose_of (hσ n) (hσf n)
  obtain ⟨j, hj⟩ := spin_ends σ hσ' s h (s.hs h).cbs h' r fairL fairS (nu s h') 0 (Nat.le_refl _)
    ⟨inv_reachable hr, hp, ho, rfl, hl⟩
  exact ⟨j, hj.pc, hj.pend, hj.cnt⟩

/-- non-vacuous for a start state inside the spin: sender 0 is inside the busy section of handle 1 (after its fetch_add, before the
exchange), sender 1 has completed a send on handle 0 (pending = 1, eventfd = 1), the loop thread called uv_close(1) and is
parked in the spin loop with busy(1) = 1: the loop thread cannot step (`step? s .loop = none`), `noClosePc` fails, a
callback of handle 0 is owed. -/
example : let s := run (init 2 2) [.begin 0 1, .snd 0, .snd 0, .begin 1 0, .snd 1, .snd 1, .snd 1, .snd 1, .snd 1,
                                   .close 1, .loop]
    (s.hs 0).pending ≠ 0 ∧ (s.hs 0).closing = false ∧ s.lpc = .closeSpin 1 .idle ∧ (s.hs 1).busy = 1 ∧
    (step? s .loop).isNone = true ∧ rem s 1 = 3 ∧ nu s 1 = 4 := by decide +kernel

/-- ... and a fair continuation from it: the in-flight sender leaves uv_async_send(1), the spin ends, the loop drains the
eventfd and the callback of handle 0 runs (handle 1 gets none: it is unlinked) -/
example : let s := run (init 2 2) [.begin 0 1, .snd 0, .snd 0, .begin 1 0, .snd 1, .snd 1, .snd 1, .snd 1, .snd 1,
                                   .close 1, .loop, .loop, .snd 0, .snd 0, .loop, .snd 0, .loop, .loop, .loop, .loop]
    (s.hs 0).cbs = 1 ∧ (s.hs 1).cbs = 0 ∧ (s.hs 1).unlinked = true ∧ (s.hs 0).seen = 1 := by decide +kernel

/-! ## coalescing bounds, callback entry -/

/-- #callbacks(h) ≤ #effective (0→1) exchanges(h) ≤ #uv_async_send calls begun on h: coalescing only ever merges sends,
it never invents a callback; with `send_then_callback` / the liveness theorem (≥ 1 callback after a burst) this
brackets the callback count from both sides. -/
theorem coalescing_bound {s : State} (hr : Reachable s) (h : Nat) :
    (s.hs h).cbs ≤ (s.hs h).x01 ∧ (s.hs h).x01 ≤ (s.hs h).pub := by
  refine ⟨cb_only_after_send hr h, ?_⟩
  have := sendsLe_reachable hr h
  omega

/-- both inequalities can be strict at once: three sends begun, the third still before its exchange, the first two
coalesced into one effective exchange, whose callback has not started yet -/
example : let s := run (init 1 3) [.begin 0 0, .snd 0, .snd 0, .snd 0, .begin 1 0, .snd 1, .begin 2 0]
    (s.hs 0).cbs = 0 ∧ (s.hs 0).x01 = 1 ∧ (s.hs 0).pub = 3 := by decide +kernel

/-- The callback is entered with the flag already cleared and having observed every send begun so far: the only
transition that changes a callback count is the loop thread's `atomic_exchange(&h->pending, 0)` having returned
non-zero (async.c:202-208); right after it pending(h) = 0, exactly one callback was added, `seen = pub`, and the
eventfd was not touched (it was drained before the scan started).  A send arriving during the callback therefore
finds pending = 0, takes the slow path and writes the eventfd again (`no_lost_wakeup`). -/
theorem callback_entry {s s' : State} {a : Act} {h : Nat} (hs : step? s a = some s')
    (hc : (s'.hs h).cbs ≠ (s.hs h).cbs) :
    a = .loop ∧ s.lpc = .scan h ∧ (s.hs h).pending ≠ 0 ∧ s'.lpc = .inCb h ∧ (s'.hs h).pending = 0 ∧
    (s'.hs h).cbs = (s.hs h).cbs + 1 ∧ (s'.hs h).seen = (s'.hs h).pub ∧ s'.efd = s.efd := by
  by_cases ha : a = .loop
  · subst ha
    rcases (step?_loop hs).hs_cases h with e | ⟨h1, h2, h3, h4, e⟩ | ⟨r, -, e⟩ | ⟨r, -, -, e⟩
    · exact absurd (by rw [e]) hc
    · rw [e]; exact ⟨rfl, h1, h2, h3, rfl, rfl, rfl, h4⟩
    · exact absurd (by rw [e]) hc
    · exact absurd (by rw [e]) hc
  · have e : s'.hs h = _ := nonloop_loopFieldsEq hs ha h
    exact absurd (by rw [e]) hc

/-- non-vacuous: the step that starts the callback of handle 0 -/
example : let s := run (init 1 1) [.begin 0 0, .snd 0, .snd 0, .snd 0, .snd 0, .snd 0, .loop, .loop]
    s.lpc = .scan 0 ∧ (s.hs 0).pending = 1 ∧ ((step s .loop).hs 0).cbs = 1 ∧ ((step s .loop).hs 0).pending = 0 ∧
    (step? s .loop).isSome = true := by decide +kernel

end UvModel.Props.C09
