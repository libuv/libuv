import UvModel.CustomSem
/-! C20, custom semaphore (uv__custom_sem_*, glibc < 2.21): "uv_sem_t never lets more waiters through than
the initial value plus posts (uv_sem_trywait returns UV_EAGAIN at zero)", for every program of every
thread and every interleaving of the schedule points (lock / trylock / unlock / cond_wait / wake-up /
signal / operation start), spurious wake-ups included.  What is assumed is the POSIX meaning of the mutex
and of the condition variable as encoded in `UvModel.CustomSem.step`/`enabled` (glibc's contract). -/
namespace UvModel.CustomSem

/-- token conservation: acquisitions + counter = initial value + posts, and the C `unsigned` counter is
    never decremented at zero (no wrap) -/
def Inv (n : Nat) (s : St) : Prop := 0 ≤ s.value ∧ (s.acq : Int) + s.value = (n : Int) + s.posts

theorem afterLock_inv {n : Nat} {op : Op} {v v' : Int} {a p a' p' : Nat} {pc : Pc}
    (he : afterLock op v a p = (v', a', p', pc)) (h : 0 ≤ v ∧ (a : Int) + v = n + p) :
    0 ≤ v' ∧ (a' : Int) + v' = n + p' := by
  cases op <;> simp only [afterLock] at he <;> split at he <;> cases he <;> omega

theorem step_inv (n : Nat) (s : St) (i : Nat) (h : Inv n s) : Inv n (step s i).1 := by
  -- a step either leaves the three counters alone or sets them to what `afterLock` returns
  unfold step
  split
  · exact h
  · split
    · exact h
    · split; exact afterLock_inv ‹_› h
    · split
      · split; exact afterLock_inv ‹_› h
      · exact h
    · exact h
    · exact h
    · split; exact afterLock_inv ‹_› h
    · split <;> exact h

theorem spurious_inv (n : Nat) (s : St) (j : Nat) (h : Inv n s) : Inv n (spurious s j).1 := by
  unfold spurious
  split
  · split <;> exact h
  · exact h

theorem drain_inv (n : Nat) (fuel : Nat) (s : St) (h : Inv n s) : Inv n (drain s fuel).1 := by
  induction fuel generalizing s with
  | zero => exact h
  | succ f ihf =>
    simp only [drain]
    split
    · exact h
    · exact ihf _ (step_inv n s _ h)

theorem run_inv (n : Nat) (cs : List Choice) (fuel : Nat) (s : St) (h : Inv n s) : Inv n (run s cs fuel).1 := by
  induction cs generalizing s with
  | cons c cs ih =>
    cases c with
    | wake j => simp only [run]; exact ih _ (spurious_inv n s j h)
    | thread i =>
      simp only [run]
      split
      · exact h
      · exact ih _ (step_inv n s _ h)
  | nil => exact drain_inv n fuel s h

/-- **the property**: whatever the threads' programs, the schedule (spurious wake-ups included) and its
    length, the semaphore has let through at most `initial + posts` acquisitions, its counter never
    wrapped, and `acquisitions + counter = initial + posts` (no token invented, none lost). -/
theorem never_more_than_initial_plus_posts (n : Nat) (progs : List (List Op)) (cs : List Choice) (fuel : Nat) :
    let s := (run (init n progs) cs fuel).1
    s.acq ≤ n + s.posts ∧ 0 ≤ s.value ∧ (s.acq : Int) + s.value = (n : Int) + s.posts := by
  obtain ⟨h0, h1⟩ := run_inv n cs fuel (init n progs) (by simp [Inv, init])
  exact ⟨by omega, h0, h1⟩

/-- `uv_sem_trywait` at zero: the operation ends with `UV_EAGAIN` and takes nothing -/
theorem trywait_at_zero (a p : Nat) : afterLock .trywait 0 a p = (0, a, p, .atUnlock UV_EAGAIN) := by
  simp [afterLock]

/-- `uv_sem_wait` at zero blocks: the only continuation is `cond_wait`; whenever it is woken (signal or
    spuriously) and the counter is still zero it goes back to sleep -/
theorem wait_at_zero_blocks (a p : Nat) : afterLock .wait 0 a p = (0, a, p, .atCondWait) := by
  simp [afterLock]

/-- an acquisition is only ever granted on a positive counter -/
theorem acquire_needs_token (op : Op) (v : Int) (a p : Nat) (h : (afterLock op v a p).2.1 = a + 1) :
    v ≠ 0 ∧ (afterLock op v a p).1 = v - 1 := by
  cases op <;> simp only [afterLock] at h ⊢ <;> split at h <;> simp_all

/-- non-vacuity: the race of seeded change C20-14 (a waiter takes the last token between another thread's
    start of trywait and its trylock) — in the code as it is, the late trywait gets UV_EAGAIN -/
example :
    let r := run (init 1 [[.trywait], [.wait]]) [.thread 0, .thread 1, .thread 1, .thread 1, .thread 0, .thread 0] 10
    r.1.acq = 1 ∧ r.1.value = 0 ∧ stuck r.1 = false := by decide +kernel

/-- finding (liveness, outside the property text): two sleepers, two posts before the first sleeper runs —
    the second post sees `value == 2`, sends no signal, and the second sleeper stays blocked although a
    token is available (the harness reproduces this on the real code: `left 1 … stuck 1`). -/
example :
    let r := run (init 0 [[.wait], [.wait], [.post, .post]])
      ([0, 0, 0, 1, 1, 1, 2, 2, 2, 2, 2, 2, 2].map Choice.thread) 50
    stuck r.1 = true ∧ r.1.value = 1 ∧ r.1.acq = 1 ∧ r.1.posts = 2 := by decide +kernel

end UvModel.CustomSem
