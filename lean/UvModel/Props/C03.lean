import UvModel.Lemmas.LoopCountInv
import UvModel.Lemmas.LoopPollBound
import UvModel.Lemmas.LoopWatcherCount
import UvModel.Lemmas.LoopRunOrder
/-!
  C03 — phase order and blocking rules, over the LoopModel.
-/
namespace UvModel.Props.C03
open UvModel.HandleKernels UvModel.Loop

theorem runTimeout_eq (mode : Mode) (cs : Bool) (bt : Int) :
    runTimeout mode cs bt = if mode = .nowait ∨ (mode = .once ∧ cs = false) then 0 else bt := by
  cases mode <;> cases cs <;> rfl

theorem backendTimeout_eq (st : Bool) (ah ar : Int) (pe ie rc cn : Bool) (next : Int) :
    backendTimeout st ah ar pe ie rc cn next =
      if st = true ∨ ie = false ∨ cn = false ∨ pe = false ∨ rc = true ∨ (ah ≤ 0 ∧ ar ≤ 0) then 0 else next := by
  unfold backendTimeout hasActiveHandles hasActiveReqs
  rw [← ite_not]
  simp only [Bool.and_eq_true, Bool.or_eq_true, Bool.not_eq_true', decide_eq_true_eq, Classical.not_and_iff_not_or_not,
    not_or, gt_iff_lt, Int.not_lt, Bool.not_eq_false, Bool.not_eq_true, or_comm, or_left_comm]

/-- `timeout_rule`: the timeout `uv_run` hands to the poller is 0 in UV_RUN_NOWAIT, after `uv_stop`, while an
    idle handle is active, while a close callback is pending, while the pending queue is non-empty, when nothing
    active-and-referenced and no request exists, and in UV_RUN_ONCE when the iteration started with a non-empty
    pending queue or idle list (`cs = false`); otherwise it is `uv__next_timeout` (−1 without timers, else
    min(due − now, INT_MAX): theorems of C04). -/
theorem timeout_rule (mode : Mode) (cs : Bool) (s : State) :
    pollTimeout mode cs s =
      if mode = .nowait ∨ (mode = .once ∧ cs = false) ∨ s.stop = true ∨ s.idle ≠ [] ∨ s.closing ≠ [] ∨
         s.pending ≠ [] ∨ (s.c.ah ≤ 0 ∧ s.ar ≤ 0) then 0
      else Timer.nextTimeout s.tm := by
  unfold pollTimeout backendTimeoutS pendingEmpty closingNull
  rw [runTimeout_eq, backendTimeout_eq]
  by_cases h : mode = .nowait ∨ (mode = .once ∧ cs = false)
  · rw [if_pos h, if_pos (h.elim .inl fun h => .inr (.inl h))]
  · rw [if_neg h]
    simp only [List.isEmpty_eq_false_iff, Bool.false_eq_true, false_or, ← or_assoc, or_iff_right h]

/-- blocking is possible: DEFAULT mode, a referenced active handle, nothing else going on -/
example : pollTimeout .default true { c := { ah := 1 }, tm := { time := 10, heap := #[⟨25, 0, 2⟩] } } = 15 := by decide
example : pollTimeout .nowait true { c := { ah := 1 }, tm := { time := 10, heap := #[⟨25, 0, 2⟩] } } = 0 := by decide
example : pollTimeout .once true { c := { ah := 1 }, idle := [3], tm := { time := 10, heap := #[⟨25, 0, 2⟩] } } = 0 := by decide

/-- `backend_timeout_api`: `uv_backend_timeout()` reports the same bound, or 0 while descriptor registrations
    are still waiting in the watcher queue -/
theorem backend_timeout_api (s : State) :
    (applyOp s .getBackendTimeout).2 = (if s.closed then none else
      some (if s.watcherQ ≠ [] then 0 else pollTimeout .default true s)) := by
  unfold applyOp
  by_cases hc : s.closed = true
  · rw [if_pos hc, if_pos hc]; rfl
  · rw [if_neg hc, if_neg hc]
    show some (uvBackendTimeout s.watcherQ.isEmpty (backendTimeoutS s)) = _
    cases s.watcherQ <;> rfl

/-! ### uv_stop -/
/-- the flag is forgotten when `uv_run` returns -/
theorem stop_cleared (sc : Script) (mode : Mode) (fuel : Nat) (s s' : State) (r : Bool)
    (h : uvRun sc mode fuel s = some (s', r)) : s'.stop = false := by
  unfold uvRun at h
  simp only at h
  split at h
  · simp at h
  · simp only [Option.some.injEq, Prod.mk.injEq] at h
    rw [← h.1]

/-- `uv_stop` before `uv_run`: zero iterations, no initial timer pass, no event, return value = liveness -/
theorem stop_before_run (sc : Script) (mode : Mode) (fuel : Nat) (s : State) (hs : s.stop = true) :
    uvRun sc mode (fuel + 1) s = some ({ (if !alive s then updateTime s else s) with stop := false }, alive s) := by
  cases ha : alive s <;> simp [uvRun, initialTimers, runLoop, runCond, ha, hs, updateTime]

/-- `uv_stop` during an iteration of UV_RUN_DEFAULT: the iteration is completed (its timer phase is the last
    thing `iteration` does) and the loop is left right after it -/
theorem stop_during_iteration (sc : Script) (fuel : Nat) (s : State) (r : Bool)
    (hc : runCond r s.stop = true) (hh : s.halted = false) (hs : (iteration sc .default s).stop = true) :
    runLoop sc .default (fuel + 2) s r = some (iteration sc .default s, alive (iteration sc .default s)) := by
  unfold runLoop
  simp only [hc, hh, Bool.not_true, Bool.or_self, Bool.false_eq_true, if_false]
  have : (Mode.default == Mode.once || Mode.default == Mode.nowait) = false := by decide
  simp only [this, Bool.false_eq_true, if_false]
  unfold runLoop
  simp [runCond, hs]

/-- UV_RUN_ONCE / UV_RUN_NOWAIT run exactly one iteration when the loop is alive and not stopped -/
theorem once_one_iteration (sc : Script) (mode : Mode) (fuel : Nat) (s : State) (r : Bool) (hm : mode ≠ .default)
    (hc : runCond r s.stop = true) (hh : s.halted = false) :
    runLoop sc mode (fuel + 1) s r = some (iteration sc mode s, alive (iteration sc mode s)) := by
  unfold runLoop
  simp only [hc, hh, Bool.not_true, Bool.or_self, Bool.false_eq_true, if_false]
  cases mode <;> simp_all

/-! ### the timeout loop of uv__io_poll -/
/-- `block_bound`, step form: when the loop goes back to `epoll_pwait` after an empty or interrupted poll
    with a finite timeout, the new timeout is the remaining time `real_timeout − (time − base)`, positive, and —
    for a monotone clock — never more than what was left before. -/
theorem block_bound_step (c c' : PollCtl) (time : Nat) (h : updateTimeout c time = some c')
    (hmono : c.base ≤ time) (hfin : c.timeout ≠ -1) :
    c'.timeout = c.realTimeout - ((time : Int) - c.base) ∧ 0 < c'.timeout ∧ c'.timeout ≤ c.realTimeout ∧
    c'.realTimeout = c'.timeout ∧ c'.base = c.base := by
  rcases Phases.updateTimeout_some h with ⟨h1, _⟩ | ⟨_, hpos, rfl⟩
  · exact absurd h1 hfin
  · exact ⟨rfl, hpos, by show _ - _ ≤ _; omega, rfl, rfl⟩

/-- an unlimited timeout stays unlimited; a zero timeout ends the loop -/
theorem block_bound_edges (c : PollCtl) (time : Nat) :
    (c.timeout = 0 → updateTimeout c time = none) ∧ (c.timeout = -1 → updateTimeout c time = some c) := by
  constructor
  · intro h; simp [updateTimeout, h]
  · intro h; simp [updateTimeout, h]

/-- the control variables `uv__io_poll` starts its timeout loop with: with UV_METRICS_IDLE_TIME `timeout = 0`,
    `reset`, and the user's timeout kept in `userTimeout`; without it the user's timeout at once -/
theorem block_bound_metrics (sc : Script) (s : State) (t : Int) :
    ioPoll sc s t = pollLoop sc ((flushWatchers s).oracle.length + 1) (flushWatchers s)
      (if (flushWatchers s).metrics then
        { timeout := 0, realTimeout := t, userTimeout := t, reset := true, base := (flushWatchers s).tm.time, count := 48 }
       else { timeout := t, realTimeout := t, userTimeout := 0, reset := false, base := (flushWatchers s).tm.time, count := 48 }) := rfl

/-- the bound with a weaker hypothesis: only "the clock never reads below `loop->time`" is assumed.  FALSE of the model:
    `uv__update_time` stores the clock reading modulo 2^64 (`Timer.updateTime`), so a reading ≥ 2^64 makes
    `loop->time` jump back below `base` and `real_timeout − (time − base)` grows beyond the user's timeout
    (`block_bound_statement_false`).  A real `uv__hrtime()/1e6` is a `uint64_t`, i.e. < 2^64: `block_bound`. -/
def block_bound_statement : Prop :=
  ∀ (sc : Script) (s : State) (t : Int), (∀ r ∈ s.oracle, s.tm.time ≤ r.clock) →
    ∀ it tmo r, Event.poll it tmo r ∈ (ioPoll sc s t).trace → Event.poll it tmo r ∉ s.trace →
      tmo = 0 ∨ tmo = t ∨ (0 < tmo ∧ tmo ≤ t)

/-- counterexample: `loop->time` = 10, timeout 5; the first `epoll_pwait` is interrupted with the clock at 2^64
    (⇒ `loop->time` = 0), the second one is entered with timeout 5 − (0 − 10) = 15 -/
theorem block_bound_statement_false : ¬ block_bound_statement := by
  intro h
  have ht : (ioPoll (fun _ _ _ => []) { tm := { time := 10 }, oracle := [{ eintr := true, clock := 2 ^ 64 }, { clock := 2 ^ 64 + 20 }] } 5).trace =
      [.poll 0 15 { clock := 2 ^ 64 + 20 }, .poll 0 5 { eintr := true, clock := 2 ^ 64 }] := by rfl
  have := h (fun _ _ _ => []) { tm := { time := 10 }, oracle := [{ eintr := true, clock := 2 ^ 64 }, { clock := 2 ^ 64 + 20 }] } 5
    (by decide) 0 15 { clock := 2 ^ 64 + 20 } (by rw [ht]; exact List.mem_cons_self) (by simp)
  omega

/-- `block_bound`, corrected: every clock reading during the call is a `uint64_t` not below `loop->time` -/
def block_bound_corrected : Prop :=
  ∀ (sc : Script) (s : State) (t : Int), (∀ r ∈ s.oracle, s.tm.time ≤ r.clock ∧ r.clock < Timer.U64) →
    ∀ it tmo r, Event.poll it tmo r ∈ (ioPoll sc s t).trace → Event.poll it tmo r ∉ s.trace →
      tmo = 0 ∨ tmo = t ∨ (0 < tmo ∧ tmo ≤ t)

/-- `block_bound`: whatever the callbacks dispatched inside `uv__io_poll` do (for every script, every sequence of
    poll results), each timeout handed to `epoll_pwait` is 0, the caller's timeout, or positive and below it -/
theorem block_bound : block_bound_corrected := by
  intro sc s t h it tmo r hm hn
  obtain ⟨new, ht, hp⟩ := Phases.ioPoll_ext True t sc s s (Phases.TrExt.refl _ s) (fun _ => h)
  rw [ht] at hm
  rcases List.mem_append.1 hm with h1 | h1
  · exact hp _ h1 trivial
  · exact absurd h1 hn

/-- UV_METRICS_IDLE_TIME, timeout 10 at time 100, three interrupted polls (clock 100, 103, 104), then a quiet one:
    the timeouts handed to the poller are 0, 10, 7, 3 (`real_timeout -= time − base` with `base` fixed) -/
example :
    let s : State := initLoop 100 true [{ eintr := true, clock := 100 }, { eintr := true, clock := 103 }, { eintr := true, clock := 104 }, { clock := 120 }]
    (∀ r ∈ s.oracle, s.tm.time ≤ r.clock ∧ r.clock < Timer.U64) ∧
    (ioPoll (fun _ _ _ => []) s 10).trace.reverse.filterMap (fun e => match e with | .poll _ t r => some (t, r.clock) | _ => none) =
      [(0, 100), (10, 103), (7, 104), (3, 120)] := by
  decide +kernel

/-! ### loop watchers -/
/-- `uv__run_idle/prepare/check` detach the list; a handle started during the phase goes to the head of the
    *loop* list, never into the detached queue, so it cannot be called in this iteration -/
theorem watcher_start_not_in_detached (s : State) (k : WKind) (id : Nat) :
    (watcherStart s k id).watcherLocal = s.watcherLocal := by
  unfold watcherStart
  split
  · rfl
  · simp only [hStart, withKernel]
    cases k <;> rfl

/-- a handle stopped during the phase leaves the detached queue: it is not called any more -/
theorem watcher_stop_leaves_detached (s : State) (k : WKind) (id : Nat)
    (ha : ((getF s id).map (·.active)).getD false = true) :
    id ∉ (watcherStop s k id).watcherLocal := by
  unfold watcherStop
  simp only [ha, Bool.not_true, Bool.false_eq_true, if_false, hStop, withKernel]
  cases k <;> simp [setWList]

/-- `uv__run_idle/prepare/check` detach the loop list and walk the detached queue -/
theorem runWatchers_detaches (sc : Script) (k : WKind) (s : State) :
    runWatchers sc k s = runWatchersLoop sc k ((wList s k).length + 1)
      (setWList { s with watcherLocal := wList s k } k []) := by
  unfold runWatchers
  cases k <;> rfl

def watcher_once_statement : Prop :=
  ∀ (sc : Script) (k : WKind) (s : State) (id : Nat), (wList s k).Nodup →
    ((runWatchers sc k s).trace.filter (fun e => match e with
      | .cb _ kk i _ _ => kk == wCb k && i == id | _ => false)).length ≤
    (s.trace.filter (fun e => match e with | .cb _ kk i _ _ => kk == wCb k && i == id | _ => false)).length + 1

def phase_order_statement : Prop :=
  ∀ (sc : Script) (mode : Mode) (s : State),
    let evs := ((iteration sc mode s).trace.take ((iteration sc mode s).trace.length - s.trace.length)).reverse
    let phases := evs.filterMap (fun e => match e with | .cb ph _ _ _ _ => some ph | _ => none)
    phases.Pairwise (fun a b => a.ctorIdx ≤ b.ctorIdx)

/-- `watcher_once`: one pass of `uv__run_idle/prepare/check` invokes the callback of any handle at most once,
    whatever the callbacks do (stop, restart, close themselves or each other) -/
theorem watcher_once : watcher_once_statement := by
  intro sc k s id hn
  exact Phases.runWatchers_cnt (fun e => match e with | .cb _ kk i _ _ => kk == wCb k && i == id | _ => false)
    (fun _ _ => rfl) (fun _ => rfl) rfl k id (fun _ _ _ _ _ => rfl) sc s hn

/-- `watcher_once`, the "exactly once" half: an idle/prepare/check handle that is in the loop list when its phase
    starts, whose record exists, and that no callback running in the phase stops or closes (= it stays ACTIVE from
    the first to the last event of its phase) is called exactly once in that phase — whatever else the callbacks
    do (stop / restart / close other watchers, start new ones, …). -/
theorem watcher_exactly_once (sc : Script) (k : WKind) (s : State) (id : Nat) (hn : (wList s k).Nodup)
    (hh : s.halted = false) (hm : id ∈ wList s k) (hp : (getH s id).isSome)
    (hsc : ∀ key occ g, ∀ o ∈ sc key occ g, o ≠ Op.stop id ∧ o ≠ Op.close id) :
    ((runWatchers sc k s).trace.filter (fun e => match e with
      | .cb _ kk i _ _ => kk == wCb k && i == id | _ => false)).length =
    (s.trace.filter (fun e => match e with | .cb _ kk i _ _ => kk == wCb k && i == id | _ => false)).length + 1 :=
  Phases.runWatchers_cnt_eq (fun e => match e with | .cb _ kk i _ _ => kk == wCb k && i == id | _ => false)
    (fun _ _ => rfl) (fun _ => rfl) rfl k id (fun _ _ _ _ _ => rfl) sc hsc s hn hh hm ((getH_isSome_iff s id).mp hp)

/-- `watcher_exactly_once` again -/
theorem watcher_once_exactly (sc : Script) (k : WKind) (s : State) (id : Nat) (hn : (wList s k).Nodup)
    (hh : s.halted = false) (hm : id ∈ wList s k) (hp : (getH s id).isSome)
    (hsc : ∀ key occ g, ∀ o ∈ sc key occ g, o ≠ Op.stop id ∧ o ≠ Op.close id) :
    ((runWatchers sc k s).trace.filter (fun e => match e with
      | .cb _ kk i _ _ => kk == wCb k && i == id | _ => false)).length =
    (s.trace.filter (fun e => match e with | .cb _ kk i _ _ => kk == wCb k && i == id | _ => false)).length + 1 :=
  watcher_exactly_once sc k s id hn hh hm hp hsc

/-- two idle handles; the callback of the first stops and restarts the *other* one: handle 3 is never stopped, it
    is called exactly once -/
example :
    let s0 := ([Op.init .idle, .init .idle, .start 2 0 0, .start 3 0 0].foldl stepOp (initLoop 0 false []))
    let sc : Script := fun key occ _ => if key = .h 3 ∧ occ = 0 then [.stop 2, .start 2 0 0] else []
    ((runWatchers sc .idle s0).trace.filter (fun e => match e with
      | .cb _ kk i _ _ => kk == wCb .idle && i == 3 | _ => false)).length = 1 := by decide +kernel

/-- `phase_order`: within one loop iteration the callbacks come phase by phase — pending, idle, prepare, poll,
    pending (again), check, closing, timers — for every script, mode and sequence of poll results -/
theorem phase_order : phase_order_statement := by
  intro sc mode s
  obtain ⟨new, ht, hp, _⟩ := Phases.iteration_mono sc mode s
  simp only
  rw [ht, List.length_append, Nat.add_sub_cancel, List.take_left' rfl]
  exact hp

/-- one iteration touching seven phases: a completed udp send (pending), idle (stops itself), prepare, an async
    wakeup (poll), check, a close callback, a due timer -/
example :
    let s0 := [Op.init .idle, .init .prepare, .init .check, .init .timer, .init .idle, .init .async, .init .udp,
      .start 2 0 0, .start 3 0 0, .start 4 0 0, .start 5 0 0, .close 6, .asyncSend 7, .udpSend 8].foldl stepOp
      (initLoop 0 false [{ batch := [(.async, 1)], clock := 5 }])
    let sc : Script := fun key occ _ => if key = .h 2 ∧ occ = 0 then [.stop 2] else []
    ((iteration sc .default s0).trace.take ((iteration sc .default s0).trace.length - s0.trace.length)).reverse.filterMap
      (fun e => match e with | .cb ph k i _ _ => some (ph, k, i) | _ => none) =
    [(.pending, .udpSend, 0), (.idle, .idle, 2), (.prepare, .prepare, 3), (.poll, .async, 7), (.check, .check, 4),
     (.closing, .close, 6), (.timers, .timer, 5)] := by
  decide +kernel

/-- three idle handles; the first one's callback stops the second and restarts itself... every handle at most
    once, in list order (head insertion: last started first) -/
example :
    let s0 := ([Op.init .idle, .init .idle, .init .idle, .start 2 0 0, .start 3 0 0, .start 4 0 0].foldl stepOp (initLoop 0 false []))
    let sc : Script := fun key occ _ => if key = .h 4 ∧ occ = 0 then [.stop 3, .stop 4, .start 4 0 0] else []
    ((runWatchers sc .idle s0).trace.reverse.filterMap (fun e => match e with | .cb _ _ i _ _ => some i | _ => none)) = [4, 2] := by
  decide +kernel

/-- `phase_order` for a whole `uv_run` (every mode, script, fuel, sequence of poll results): the new part of the
    trace, oldest first, is `seg0 ++ segs.flatten` where
    (1) `seg0` is the initial timer pass: its callbacks all have phase `timers0`, and it contains no callback at all
        unless `initialTimers mode (alive s) s.stop` (UV_RUN_DEFAULT, loop alive, no `uv_stop` pending);
    (2) every `seg ∈ segs` is the event list of one loop iteration: its callback phases are in order
        (pending, idle, prepare, poll, pending2, check, closing, timers) and none is `timers0`.
    `Phases.phasesOf l` = the phases of the `cb` events of `l`, in order. -/
theorem phase_order_default_initial (sc : Script) (mode : Mode) (fuel : Nat) (s s' : State) (r : Bool)
    (h : uvRun sc mode fuel s = some (s', r)) :
    ∃ (seg0 : List Event) (segs : List (List Event)),
      s'.trace.reverse = s.trace.reverse ++ seg0 ++ segs.flatten ∧
      (∀ p ∈ Phases.phasesOf seg0, p = Phase.timers0) ∧
      (initialTimers mode (alive s) s.stop = false → Phases.phasesOf seg0 = []) ∧
      ∀ seg ∈ segs, (Phases.phasesOf seg).Pairwise (fun a b => a.ctorIdx ≤ b.ctorIdx) ∧
        Phase.timers0 ∉ Phases.phasesOf seg :=
  Phases.uvRun_trace sc mode fuel s s' r h

/-- UV_RUN_DEFAULT: a due timer fires in the initial pass (and re-arms itself for 1 ms); first iteration: idle,
    check, the timer again (phase `timers`); second iteration: idle, which stops idle and check — the loop ends.
    `none` marks the `iterBegin` events.  Phases are ordered inside each iteration, not across iterations. -/
example :
    let s0 := [Op.init .timer, .init .idle, .init .check, .start 2 0 0, .start 3 0 0, .start 4 0 0].foldl stepOp
      (initLoop 0 false [{ clock := 1 }, { clock := 2 }])
    let sc : Script := fun key occ _ =>
      if key = .h 3 ∧ occ = 1 then [.stop 3, .stop 4] else if key = .h 2 ∧ occ = 0 then [.start 2 1 0] else []
    (uvRun sc .default 5 s0).map (fun p => (p.2, (p.1.trace.reverse.drop s0.trace.length).filterMap
      (fun e => match e with | .cb ph _ i _ _ => some (some (ph, i)) | .iterBegin => some none | _ => none))) =
    some (false, [some (.timers0, 2), none, some (.idle, 3), some (.check, 4), some (.timers, 2), none, some (.idle, 3)]) := by
  decide +kernel

/-! ### uv_backend_timeout from inside the idle phase (recorded finding `backend-timeout-inside-idle-phase`) -/
/-- what the property text asks for: 0 whenever *some idle handle is active* -/
def backend_timeout_idle_statement : Prop :=
  ∀ (s : State) (id : Nat), s.closed = false →
    (getH s id).map (·.kind) = some .idle → (getF s id).map (·.active) = some true →
    (applyOp s .getBackendTimeout).2 = some 0

/-- FALSE of the code: `uv__run_idle` detaches the list; inside the first idle callback (which stops its own handle)
    the second idle handle is active but sits in the detached queue, and `uv_backend_timeout()` answers -1
    (reproduced on the implementation: corpus/C03/backend-timeout-in-idle-phase.txt) -/
theorem backend_timeout_idle_statement_false : ¬ backend_timeout_idle_statement := by
  intro h
  -- the state inside uv__run_idle after the first handle (id 3) was popped, re-appended and stopped itself
  let s0 := flushWatchers ([Op.init .idle, .init .idle, .start 2 0 0, .start 3 0 0].foldl stepOp (initLoop 0 false []))
  let s1 := (applyOp { s0 with watcherLocal := [2], idle := [3] } (.stop 3)).1
  have := h s1 2 (by decide +kernel) (by decide +kernel) (by decide +kernel)
  revert this
  decide +kernel

/-- the same through the real phase function: the idle callback of h1 (id 3) stops itself and asks -/
example :
    let s0 := flushWatchers ([Op.init .idle, .init .idle, .start 2 0 0, .start 3 0 0].foldl stepOp (initLoop 0 false []))
    let sc : Script := fun key occ _ => if key = .h 3 ∧ occ = 0 then [.stop 3, .getBackendTimeout] else []
    ((runWatchers sc .idle s0).trace.filterMap (fun e => match e with
        | .op .getBackendTimeout r => some r | _ => none)) = [some (-1)] := by decide +kernel

/-- corrected statement: 0 whenever the *loop's* idle list is non-empty, i.e. outside the idle phase for every active
    idle handle, inside it for the handles already called (and re-appended) or started during the phase -/
theorem backend_timeout_idle_corrected (s : State) (hc : s.closed = false) (hi : s.idle ≠ []) :
    (applyOp s .getBackendTimeout).2 = some 0 := by
  rw [backend_timeout_api]
  simp only [hc, Bool.false_eq_true, if_false]
  split
  · rfl
  · rw [timeout_rule]; simp [hi]

end UvModel.Props.C03
