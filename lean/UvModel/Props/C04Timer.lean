import UvModel.Timer
import UvModel.Lemmas.TimerLemmas
/-!
  C04 (timer part): property theorems about the model of src/timer.c.

  Helper lemmas, the invariant `WF`, the event type `Ev`/`step`/`exec`, and the
  specification functions `collected` / `fired` / `runCollected` / `runFired`
  (tied to the model's `ready` / `trace` fields by `collect_exact` and
  `fired_is_trace` below) live in UvModel/Lemmas/TimerLemmas.lean.

  Every theorem is for every state satisfying `WF` (which `wf_invariant` shows
  to be every reachable state), every script of callback operations and every
  fuel; handle ids mentioned by operations must exist (`Ev.ok`, `ScriptOk`) —
  the C API takes handle pointers, there is no such thing as a dangling id.
-/
namespace UvModel.Timer
open UvModel.Heap

/-- saturation: the due time computed by `uv_timer_start` is `min (time + timeout) (2^64-1)`
    as natural numbers, for all 64-bit `time` and `timeout` (no wrap-around). -/
theorem clamp_saturates (time timeout : Nat) (ht : time < U64) (hto : timeout < U64) :
    clampC time timeout = min (time + timeout) (U64 - 1) := by
  unfold clampC
  generalize U64 = m at *
  by_cases h : time + timeout < m
  · rw [Nat.mod_eq_of_lt h, if_neg (Nat.not_lt.2 (Nat.le_add_left _ _))]
    exact (Nat.min_eq_left (Nat.le_sub_one_of_lt h)).symm
  · have hm := Nat.le_of_not_lt h
    rw [Nat.mod_eq_sub_mod hm, Nat.mod_eq_of_lt (by omega), if_pos (by omega)]
    exact (Nat.min_eq_right (Nat.le_trans (Nat.sub_le _ _) hm)).symm

/-- `uv_timer_get_due_in` = due − now, 0 when past -/
theorem dueIn_correct (s : S) (id : Nat) :
    dueIn s id = (getT s id).timeout - s.time := by
  unfold dueIn
  simp only []
  split
  · exact (Nat.sub_eq_zero_of_le ‹_›).symm
  · rfl

/-! Scenario of the non-vacuity examples: three timers (#0 due 10, #1 due 10 repeat 5, #2 due 12),
  clock at 15; the first callback of the pass (#0's) stops #1 — already collected — and restarts #0
  itself with timeout 0. -/

def exEvs : List Ev :=
  [.op (.start 0 10 0), .op (.start 1 10 5), .op (.start 2 12 0), .time 15]
def exS : S := exec (init 3) exEvs
def exSc : Script := fun k => if k = 0 then [.stop 1, .start 0 0 0] else []
def noSc : Script := fun _ => []

theorem exEvs_ok : ∀ ev ∈ exEvs ++ [Ev.run exSc], ev.ok 3 := by
  intro ev hev
  simp only [exEvs, List.cons_append, List.nil_append, List.mem_cons, List.not_mem_nil,
    or_false] at hev
  rcases hev with rfl | rfl | rfl | rfl | rfl
  · show 0 < 3; decide
  · show 1 < 3; decide
  · show 2 < 3; decide
  · trivial
  · intro k o ho
    unfold exSc at ho
    split at ho
    · simp only [List.mem_cons, List.not_mem_nil, or_false] at ho
      rcases ho with rfl | rfl <;> decide
    · cases ho


/-! ## the invariant -/

/-- `WF` (heap order; heap entries = active handles with matching due time and start id;
    ids and start ids pairwise distinct, start ids below the counter; ready queue holds
    distinct, inactive, non-closing handles; closing handles are inactive; active handles have a
    callback) holds after
    every list of outside operations, clock updates and timer passes with arbitrary
    callback scripts, and the ready queue is empty between events. -/
theorem wf_invariant (n : Nat) (evs : List Ev) (hok : ∀ ev ∈ evs, ev.ok n) :
    WF (exec (init n) evs) ∧ (exec (init n) evs).ready = [] := by
  have h := exec_wf (init n) evs (init_wf n) rfl (by simpa [init] using hok)
  exact ⟨h.1, h.2.1⟩

/-- the single-step form: each operation, clock update and pass preserves `WF` -/
theorem wf_preserved (s : S) (hw : WF s) :
    (∀ o : Op, o.id < s.ts.size → WF (applyOp s o)) ∧ (∀ t, WF (updateTime s t)) ∧
    (∀ f, WF (collect s f)) ∧
    (∀ sc f, ScriptOk s.ts.size sc → WF (fire sc s f)) ∧
    (∀ sc, ScriptOk s.ts.size sc → WF (runTimers sc s)) :=
  ⟨fun o ho => applyOp_wf s o hw ho, fun t => updateTime_wf s t hw, fun f => (collects s f).wf hw,
   fun sc f h => (fires sc s f).wf hw h, fun sc h => runTimers_wf sc s hw h⟩

example : WF exS ∧ exS.ready = [] :=
  wf_invariant 3 exEvs (fun ev h => exEvs_ok ev (List.mem_append_left _ h))
example : WF (exec (init 3) (exEvs ++ [.run exSc])) := (wf_invariant 3 _ exEvs_ok).1
example : exS.heap = #[⟨10, 0, 0⟩, ⟨10, 1, 1⟩, ⟨12, 2, 2⟩] ∧ exS.time = 15 := by decide +kernel

/-! ## trace = fired ids -/

/-- the callbacks recorded by `fire` are exactly `fired`, each at the unchanged loop time -/
theorem fired_is_trace (sc : Script) (s : S) (f : Nat) :
    (fire sc s f).trace = ((fired sc s f).map (fun id => (id, s.time))).reverse ++ s.trace ∧
    (fire sc s f).time = s.time ∧ (fire sc s f).ncb = s.ncb + (fired sc s f).length :=
  ⟨(fires sc s f).fired.trace, (fires sc s f).fired.time, (fires sc s f).fired.ncb⟩

/-- … and those of a whole pass are `runFired` -/
theorem runFired_is_trace (sc : Script) (s : S) :
    (runTimers sc s).trace = ((runFired sc s).map (fun id => (id, s.time))).reverse ++ s.trace ∧
    (runTimers sc s).time = s.time ∧ (runTimers sc s).ready = [] :=
  ⟨(runTimers_fired sc s).trace, (runTimers_fired sc s).time, runTimers_ready sc s⟩

/-- across events: the ids of the trace are exactly the ids invoked by the passes, in order -/
theorem trace_is_fired (s : S) (evs : List Ev) :
    (exec s evs).trace.map (·.1) = (execFired s evs).reverse ++ s.trace.map (·.1) := by
  obtain ⟨l, hl, hm⟩ := exec_trace s evs
  rw [hl, List.map_append, hm]

example : runFired exSc exS = [0, 2] ∧ (runTimers exSc exS).trace = [(2, 15), (0, 15)] := by
  decide +kernel

/-! ## the first loop -/

/-- with fuel `heap.size + 1` (or more) `collect` moves exactly the due entries: nothing due is
    left, what was taken is (as a multiset) the due part of the heap, what remains is the rest,
    and the ids were appended to the ready queue in the order taken. -/
theorem collect_exact (s : S) (f : Nat) (hw : WF s) (hf : s.heap.size + 1 ≤ f) :
    (∀ e ∈ (collect s f).heap.toList, e.timeout > s.time) ∧
    (collected s f).Perm (s.heap.toList.filter (fun e => decide (e.timeout ≤ s.time))) ∧
    (collect s f).heap.toList.Perm (s.heap.toList.filter (fun e => !decide (e.timeout ≤ s.time))) ∧
    (collect s f).ready = s.ready ++ (collected s f).map (·.id) := by
  have h := collects s f
  have hnd := h.none_due hw hf
  have hd := h.due_le
  have P := h.perm hw
  exact ⟨hnd,
    perm_filter_of_split _ P (fun e he => by simpa using hd e he) (fun e he => by simpa using hnd e he),
    perm_filter_of_split _ (P.trans List.perm_append_comm) (fun e he => by simpa using hnd e he)
      (fun e he => by simpa using hd e he),
    h.ready hw⟩

/-- pass order: the entries come out of the heap strictly increasing in `(due, startId)`
    (so: by due time, ties by start order), and the callbacks invoked by the second loop are a
    subsequence of that order (callbacks can only take handles out of the ready queue). -/
theorem pass_order (sc : Script) (s : S) (hw : WF s) (hr : s.ready = []) :
    (runCollected s).Pairwise (fun a b => a.timeout < b.timeout ∨
        (a.timeout = b.timeout ∧ a.startId < b.startId)) ∧
    (collect s (s.heap.size + 1)).ready = (runCollected s).map (·.id) ∧
    (runFired sc s).Sublist ((runCollected s).map (·.id)) :=
  ⟨(collects s _).sorted hw, runCollected_ready s hw hr, runFired_sublist sc s hw hr⟩

/-- same for any fuel and any starting ready queue -/
theorem collect_order (s : S) (f : Nat) (hw : WF s) :
    (collected s f).Pairwise (fun a b => a.timeout < b.timeout ∨
        (a.timeout = b.timeout ∧ a.startId < b.startId)) :=
  (collects s f).sorted hw

example : runCollected exS = [⟨10, 0, 0⟩, ⟨10, 1, 1⟩, ⟨12, 2, 2⟩] ∧
    runFired noSc exS = [0, 1, 2] ∧ (collect exS 4).heap = #[] := by decide +kernel
/-- a pass that leaves something behind -/
example : runCollected (updateTime exS 11) = [⟨10, 0, 0⟩, ⟨10, 1, 1⟩] ∧
    (collect (updateTime exS 11) 4).heap = #[⟨12, 2, 2⟩] := by decide +kernel

/-! ## never early -/

/-- every callback of a pass is for a handle that was active with due time `≤` the loop time at
    the start of the pass, and is recorded with exactly that loop time -/
theorem never_early (sc : Script) (s : S) (hw : WF s) (hr : s.ready = []) :
    ∀ x ∈ (runTimers sc s).trace, x ∈ s.trace ∨
      (x.2 = s.time ∧ x.1 ∈ runFired sc s ∧ (getT s x.1).active = true ∧ (getT s x.1).timeout ≤ s.time) := by
  intro x hx
  rw [(runTimers_fired sc s).trace] at hx
  refine (List.mem_append.1 hx).symm.imp_right fun h => ?_
  obtain ⟨id, hid, rfl⟩ := List.mem_map.1 (List.mem_reverse.1 h)
  exact ⟨rfl, hid, runFired_mem sc s hw hr id hid⟩

/-- the first loop only takes due entries (any fuel) -/
theorem collect_only_due (s : S) (f : Nat) (hw : WF s) :
    ∀ e ∈ collected s f, e ∈ s.heap.toList ∧ e.timeout ≤ s.time ∧ (getT s e.id).timeout = e.timeout :=
  fun e he => ⟨(collects s f).mem hw e he, (collects s f).due_le e he,
    (hw.ent e ((collects s f).mem hw e he)).2.1⟩

/-- general form: a timer started at loop time `s.time` with `timeout`; then any events (outside
    operations, clock updates, whole passes with any callbacks) that neither re-arm it nor invoke
    it; if a pass then invokes it, the loop time is `≥ min (s.time + timeout) (2^64-1)`. -/
theorem never_early_general (sc : Script) (s : S) (id timeout rp : Nat) (evs : List Ev) (hw : WF s)
    (hr : s.ready = []) (hlt : id < s.ts.size) (hc : (getT s id).closing = false)
    (hto : timeout < U64) (hok : ∀ ev ∈ evs, ev.ok s.ts.size)
    (hn : ∀ ev ∈ evs, ¬ ev.rearms id) (hnf : id ∉ execFired (start s id timeout rp).1 evs)
    (hf : id ∈ runFired sc (exec (start s id timeout rp).1 evs)) :
    (exec (start s id timeout rp).1 evs).time ≥ min (s.time + timeout) (U64 - 1) := by
  have hs1 := start_same s id timeout rp
  have h2 := exec_wf _ evs (start_wf s id timeout rp hw hlt) (hs1.ready_nil hr)
    (by rw [hs1.size]; exact hok)
  have h3 : (getT (exec (start s id timeout rp).1 evs) id).timeout = clampC s.time timeout :=
    (exec_quiet _ evs id (.inr ⟨hn, hnf⟩)).timeout.trans
      (congrArg T.timeout (start_handle s id timeout rp hlt hc).1)
  rw [← clamp_saturates s.time timeout hw.time_lt hto, ← h3]
  exact (runFired_mem sc _ h2.1 h2.2.1 id hf).2

/-- in particular: a timer started at loop time `s.time` with `timeout`, if its callback is invoked by
    the pass after the next clock update, sees a loop time `≥ min (s.time + timeout) (2^64-1)`. -/
theorem never_early_since_start (sc : Script) (s : S) (id timeout rp now : Nat) (hw : WF s)
    (hr : s.ready = []) (hlt : id < s.ts.size) (hc : (getT s id).closing = false)
    (hto : timeout < U64)
    (hf : id ∈ runFired sc (updateTime (start s id timeout rp).1 now)) :
    (updateTime (start s id timeout rp).1 now).time ≥ min (s.time + timeout) (U64 - 1) :=
  never_early_general sc s id timeout rp [.time now] hw hr hlt hc hto
    (fun _ h => List.mem_singleton.1 h ▸ trivial) (fun _ h => List.mem_singleton.1 h ▸ fun f => f)
    List.not_mem_nil hf

example : execFired (init 3) (exEvs ++ [.run exSc, .run noSc]) = [0, 2, 0] ∧
    (exec (init 3) (exEvs ++ [.run exSc, .run noSc])).trace = [(0, 15), (2, 15), (0, 15)] := by
  decide +kernel
example : ∀ x ∈ (runTimers exSc exS).trace, x.2 = 15 ∧ (getT exS x.1).timeout ≤ 15 := by decide +kernel
/-- not yet due: nothing fires -/
example : runFired exSc (updateTime exS 9) = [] := by decide +kernel

/-! ## late joiners wait -/

/-- no timer operation ever adds to the ready queue -/
theorem ready_never_grows (s : S) (o : Op) (ops : List Op) :
    (applyOp s o).ready.Sublist s.ready ∧ (ops.foldl applyOp s).ready.Sublist s.ready :=
  ⟨(applyOp_same s o).ready, (ops_same ops s).ready⟩

/-- the second loop only invokes handles that sit in the ready queue when it starts, in queue
    order, each at most once; in particular never an *active* handle -/
theorem fire_only_ready (sc : Script) (s : S) (f : Nat) (hw : WF s) :
    (fired sc s f).Sublist s.ready ∧ (fired sc s f).Nodup ∧
    ∀ id, (getT s id).active = true → id ∉ fired sc s f := by
  refine ⟨(fires sc s f).sublist, (fires sc s f).sublist.nodup hw.rdyNodup, fun id ha h => ?_⟩
  exact absurd ha (Bool.eq_false_iff.1 (hw.rdy id ((fires sc s f).sublist.subset h)).1)

/-- a timer started (any timeout, including 0) at any point of the second loop — i.e. in any
    well-formed state `s` reached inside a callback — is not in the ready queue afterwards, and
    the second loop resumed from that state does not invoke it (the rest of the callback cannot
    put it back: `ready_never_grows`) -/
theorem late_joiners_wait (sc : Script) (s : S) (id timeout rp f : Nat) (hw : WF s) :
    id ∉ (start s id timeout rp).1.ready ∧ id ∉ fired sc (start s id timeout rp).1 f := by
  have h1 : id ∉ (start s id timeout rp).1.ready :=
    start_cases (fun s' => id ∉ s'.ready) s id timeout rp
      (fun hc h => absurd hc (Bool.eq_false_iff.1 (hw.rdy id h).2.1))
      fun _ => by rw [arm_ready]; exact stop_not_ready s id hw
  exact ⟨h1, not_fired sc _ f h1⟩

/-- same for `uv_timer_again` called from a callback -/
theorem late_joiners_wait_again (sc : Script) (s : S) (id f : Nat) (hw : WF s)
    (hrep : (getT s id).rep ≠ 0) (hcb : (getT s id).hasCb = true) :
    id ∉ (again s id).1.ready ∧ id ∉ fired sc (again s id).1 f := by
  have h1 : id ∉ (again s id).1.ready := by
    rw [again_fst, if_pos ⟨hcb, hrep⟩]
    intro h
    exact stop_not_ready s id hw ((start_same _ _ _ _).ready.subset h)
  exact ⟨h1, not_fired sc _ f h1⟩

/-- pass level: the invoked ids are among the collected ones, each at most once -/
theorem pass_fires_collected_once (sc : Script) (s : S) (hw : WF s) (hr : s.ready = []) :
    (runFired sc s).Sublist ((runCollected s).map (·.id)) ∧ (runFired sc s).Nodup := by
  refine ⟨runFired_sublist sc s hw hr, ?_⟩
  exact (fires sc _ _).sublist.nodup ((collects s _).wf hw).rdyNodup

/-- #0 is restarted with timeout 0 by its own callback: invoked once in this pass, waits in the
    heap (due 15 = now) and is invoked by the next pass -/
example : runFired exSc exS = [0, 2] ∧ (runTimers exSc exS).heap = #[⟨15, 3, 0⟩] ∧
    runFired noSc (runTimers exSc exS) = [0] := by decide +kernel

/-! ## stop / close prevent the callback -/

/-- after `uv_timer_stop` the handle is inactive, in neither the heap nor the ready queue, and
    neither the rest of the current pass nor the next pass invokes it -/
theorem stop_prevents (sc : Script) (s : S) (id : Nat) (hw : WF s) :
    (getT (stop s id) id).active = false ∧ id ∉ (stop s id).ready ∧
    (∀ e ∈ (stop s id).heap.toList, e.id ≠ id) ∧
    (∀ f, id ∉ fired sc (stop s id) f) ∧
    (s.ready = [] → id ∉ runFired sc (stop s id)) := by
  refine ⟨stop_inactive_after s id, stop_not_ready s id hw,
    (stop_wf s id hw).ne_of_inactive (stop_inactive_after s id), ?_, ?_⟩
  · exact fun f => not_fired sc _ f (stop_not_ready s id hw)
  · intro hr h
    have ha := (runFired_mem sc _ (stop_wf s id hw) ((stop_same s id).ready_nil hr) id h).1
    rw [stop_inactive_after] at ha; cases ha

/-- an inactive (stopped, never started, fired one-shot) timer is not invoked by any later pass
    as long as nobody calls `start`/`again` on it -/
theorem inactive_until_rearmed (s : S) (id : Nat) (evs : List Ev) (hw : WF s) (hr : s.ready = [])
    (hi : (getT s id).active = false) (hok : ∀ ev ∈ evs, ev.ok s.ts.size)
    (hn : ∀ ev ∈ evs, ¬ ev.rearms id) :
    (getT (exec s evs) id).active = false ∧ ∀ x ∈ (exec s evs).trace, x.1 = id → x ∈ s.trace :=
  exec_never_fires s id evs hw hr hi hok (.inr hn)

/-- `uv_close` on a timer: stopped as above, marked closing; `uv_timer_start` then fails with
    UV_EINVAL and leaves the state alone -/
theorem close_prevents (sc : Script) (s : S) (id : Nat) (hw : WF s) (hlt : id < s.ts.size) :
    (getT (close s id) id).active = false ∧ (getT (close s id) id).closing = true ∧
    id ∉ (close s id).ready ∧ (∀ e ∈ (close s id).heap.toList, e.id ≠ id) ∧
    (∀ f, id ∉ fired sc (close s id) f) ∧
    (∀ to rp, start (close s id) id to rp = (close s id, -22)) := by
  have hg : getT (close s id) id = { getT (stop s id) id with closing := true } := by
    rw [close_getT, if_pos ⟨rfl, hlt⟩]
  have hi : (getT (close s id) id).active = false := by rw [hg]; exact stop_inactive_after s id
  have hnr : id ∉ (close s id).ready := by rw [close_ready]; exact stop_not_ready s id hw
  exact ⟨hi, by rw [hg], hnr, (close_wf s id hw).ne_of_inactive hi,
    fun f => not_fired sc _ f hnr,
    fun to rp => by rw [start_eq, if_pos (by rw [hg])]⟩

/-- a closing handle is never invoked again, whatever anybody does afterwards (no hypothesis on
    the later events: `start` is refused, `again` cannot re-arm it) -/
theorem closed_never_fires (s : S) (id : Nat) (evs : List Ev) (hw : WF s) (hr : s.ready = [])
    (hc : (getT s id).closing = true) (hok : ∀ ev ∈ evs, ev.ok s.ts.size) :
    ∀ x ∈ (exec s evs).trace, x.1 = id → x ∈ s.trace :=
  (exec_never_fires s id evs hw hr (hw.closing id hc) hok (.inl hc)).2

/-- #1 is collected, then stopped by #0's callback: not invoked (although due) -/
example : 1 ∈ (runCollected exS).map (·.id) ∧ 1 ∉ runFired exSc exS ∧
    (getT (runTimers exSc exS) 1).active = false := by decide +kernel
example : (getT (close exS 2) 2).closing = true ∧ runFired noSc (close exS 2) = [0, 1] ∧
    (start (close exS 2) 2 0 0).2 = -22 := by decide +kernel

/-! ## repeat -/

/-- one round of the second loop is: pop, `uv_timer_again`, record, run callback number `ncb`
    from the state `preCb`, continue -/
theorem fire_round (sc : Script) (s : S) (f id : Nat) (rest : List Nat) (hr : s.ready = id :: rest) :
    fire sc s (f + 1) = fire sc ((sc s.ncb).foldl applyOp (preCb s id rest)) f ∧
    (preCb s id rest).trace = (id, s.time) :: s.trace := by
  have h := again_same { s with ready := rest } id
  refine ⟨?_, ?_⟩
  · rw [(fire_cons sc s f id rest hr).1]
    unfold fireStep
    rw [h.ncb]
  · show (id, _) :: _ = (id, _) :: _
    rw [h.time, h.trace]

/-- a handle popped with `repeat ≠ 0` (the value in force at that moment) is, when its callback
    starts, active again with due time `clampC now repeat` = `min (now + repeat) (2^64-1)` and a
    fresh start id, and sits in the heap with exactly that key -/
theorem repeat_rearm (s : S) (id : Nat) (rest : List Nat) (hw : WF s) (hr : s.ready = id :: rest)
    (hrep : (getT s id).rep ≠ 0) :
    (getT (preCb s id rest) id).active = true ∧
    (getT (preCb s id rest) id).timeout = clampC s.time (getT s id).rep ∧
    (getT (preCb s id rest) id).rep = (getT s id).rep ∧
    (getT (preCb s id rest) id).startId = s.counter ∧
    (⟨clampC s.time (getT s id).rep, s.counter, id⟩ : Ent) ∈ (preCb s id rest).heap.toList ∧
    ((getT s id).rep < U64 →
      (getT (preCb s id rest) id).timeout = min (s.time + (getT s id).rep) (U64 - 1)) := by
  have hrd := hw.rdy id (hr ▸ List.mem_cons_self)
  have h := again_rearm { s with ready := rest } id hrd.2.2 hrep hrd.2.1
  rw [preCb_getT, preCb_heap, h.1]
  dsimp only
  exact ⟨rfl, rfl, rfl, rfl, h.2, clamp_saturates _ _ hw.time_lt⟩

/-- with `repeat = 0` the handle is not re-armed: inactive and absent from the heap when its
    callback starts -/
theorem repeat_zero (s : S) (id : Nat) (rest : List Nat) (hw : WF s) (hr : s.ready = id :: rest)
    (hrep : (getT s id).rep = 0) :
    (getT (preCb s id rest) id).active = false ∧
    (∀ e ∈ (preCb s id rest).heap.toList, e.id ≠ id) ∧ (preCb s id rest).heap = s.heap := by
  have hi := (hw.rdy id (hr ▸ List.mem_cons_self)).1
  rw [preCb_getT, preCb_heap, again_norep_eq { s with ready := rest } id hrep]
  exact ⟨hi, hw.ne_of_inactive hi, rfl⟩

/-- #1 (repeat 5) fires at 15 and is re-armed for 20; #0 and #2 (repeat 0) are not -/
example : (runTimers noSc exS).heap = #[⟨20, 3, 1⟩] ∧
    (getT (runTimers noSc exS) 0).active = false := by decide +kernel
/-- the repeat value in force at that moment: changed by an earlier callback of the same pass -/
example : (runTimers (fun k => if k = 0 then [.setRepeat 1 100] else []) exS).heap = #[⟨115, 3, 1⟩] := by
  decide +kernel

/-! ## fuel -/

/-- the fuel used by `runTimers` is enough: any larger fuel gives the same result -/
theorem fuel_suffices (sc : Script) (s : S) (f : Nat) (hw : WF s) :
    (s.heap.size + 1 ≤ f → collect s f = collect s (s.heap.size + 1)) ∧
    (s.ready.length + 1 ≤ f → fire sc s f = fire sc s (s.ready.length + 1)) ∧
    (s.ready.length + 1 ≤ f → (fire sc s f).ready = []) :=
  ⟨collect_fuel s f hw, fire_fuel sc s f, (fires sc s f).ready_empty⟩

/-- hence a pass is the two loops run to completion -/
theorem runTimers_any_fuel (sc : Script) (s : S) (f1 f2 : Nat) (hw : WF s)
    (h1 : s.heap.size + 1 ≤ f1) (h2 : (collect s f1).ready.length + 1 ≤ f2) :
    runTimers sc s = fire sc (collect s f1) f2 := by
  rw [runTimers_eq, ← collect_fuel s f1 hw h1]
  exact (fire_fuel sc _ f2 h2).symm

example : (collect exS 100).heap = (collect exS 4).heap ∧ (collect exS 100).ready = [0, 1, 2] ∧
    (fire exSc (collect exS 100) 100).trace = (runTimers exSc exS).trace := by decide +kernel

/-! ## poll timeout -/

/-- with a root `e`, `uv__next_timeout` is the distance to its due time, cut off at `INT_MAX` -/
theorem nextTimeout_some (s : S) (e : Ent) (hm : min? s.heap = some e) :
    nextTimeout s = ((min (e.timeout - s.time) INT_MAX : Nat) : Int) := by
  unfold nextTimeout
  rw [hm]
  simp only []
  split
  · rw [Nat.sub_eq_zero_of_le ‹_›, Nat.zero_min]; rfl
  · split
    · rw [Nat.min_eq_right (Nat.le_of_lt ‹_›)]
    · rw [Nat.min_eq_left (Nat.le_of_not_gt ‹_›)]

theorem nextTimeout_none (s : S) : nextTimeout s = -1 ↔ s.heap.size = 0 := by
  cases hm : min? s.heap with
  | none => simp [nextTimeout, hm, Nat.le_zero.1 (Array.getElem?_eq_none_iff.1 hm)]
  | some e =>
    have := List.length_pos_of_mem (min?_mem _ _ hm)
    rw [Array.length_toList] at this
    rw [nextTimeout_some s e hm]
    omega

/-- with timers pending, `uv__next_timeout` is `min (max 0 (minDue - now)) INT_MAX` for the
    least due time `minDue` over all active handles -/
theorem nextTimeout_bound (s : S) (hw : WF s) (hne : 0 < s.heap.size) :
    ∃ id, (getT s id).active = true ∧
      (∀ j, (getT s j).active = true → (getT s id).timeout ≤ (getT s j).timeout) ∧
      nextTimeout s = ((min ((getT s id).timeout - s.time) INT_MAX : Nat) : Int) ∧
      0 ≤ nextTimeout s ∧ nextTimeout s ≤ 2147483647 := by
  cases hm : min? s.heap with
  | none => have := Array.getElem?_eq_none_iff.1 hm; omega
  | some e =>
    have hent := hw.ent e (min?_mem _ _ hm)
    have hval := nextTimeout_some s e hm
    refine ⟨e.id, hent.1, fun j hj => ?_, by rw [hent.2.1]; exact hval, ?_, ?_⟩
    · obtain ⟨x, hx, rfl⟩ := hw.act j hj
      obtain ⟨r, hr, hle⟩ := min?_le _ hw.inv x hx
      cases hm.symm.trans hr
      rw [lt_eq_false_iff] at hle
      rw [hent.2.1, (hw.ent x hx).2.1]
      omega
    · rw [hval]; exact Int.natCast_nonneg _
    · rw [hval]; exact Int.ofNat_le.2 (Nat.min_le_right _ _)

example : nextTimeout exS = 0 ∧ nextTimeout (updateTime exS 3) = 7 ∧ nextTimeout (init 3) = -1 ∧
    nextTimeout (start (init 1) 0 (2 ^ 40) 0).1 = 2147483647 := by decide +kernel

/-! ## the loop clock -/

/-- if the clock readings fed to `uv__update_time` are non-decreasing (from the current loop time)
    and fit 64 bits, the loop time never decreases along the run: no operation, callback or pass
    moves it -/
theorem now_monotone (s : S) (a b : List Ev) (h : TimesOk s.time (a ++ b)) :
    (exec s a).time ≤ (exec s (a ++ b)).time := by
  have : exec s (a ++ b) = exec (exec s a) b := List.foldl_append
  rw [this]
  exact timesOk_exec _ b (timesOk_split s a b h)

/-- only `uv__update_time` moves the clock -/
theorem now_only_update (s : S) (o : Op) (sc : Script) :
    (applyOp s o).time = s.time ∧ (runTimers sc s).time = s.time :=
  ⟨(applyOp_same s o).time, (runTimers_fired sc s).time⟩

example : TimesOk (init 3).time (exEvs ++ [.run exSc, .time 15, .time 40]) := by
  simp [TimesOk, exEvs, init, U64]

/-! ## saturation / due-in, concrete -/

example : clampC 5 (2 ^ 64 - 1) = 2 ^ 64 - 1 ∧ clampC (2 ^ 64 - 2) 7 = 2 ^ 64 - 1 ∧ clampC 5 7 = 12 := by
  decide +kernel
example : dueIn exS 2 = 0 ∧ dueIn (updateTime exS 3) 2 = 9 := by decide +kernel

end UvModel.Timer
