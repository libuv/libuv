import UvModel.ThreadArith
import UvModel.Lemmas.ThreadLemmas
/-! C20: property theorems about the logic libuv adds on top of pthread/sem
(return-code tables, stack-size computation, timed-wait deadline).  The pthread/sem/kernel
contracts themselves (mutual exclusion, counting, barrier release, once, TLS, "timedwait
returns ETIMEDOUT only at/after abstime") are NOT proved here: they appear as hypotheses. -/
namespace UvModel.ThreadArith

/-- total decision table of `uv_mutex_trylock` / `uv_rwlock_tryrdlock` / `uv_rwlock_trywrlock`:
    returns 0 exactly for 0, `UV_EBUSY` exactly for EBUSY or EAGAIN, aborts exactly for every
    other code; nothing else can come out. -/
theorem trylock_table (err : Int) :
    (trylockMap err = .ret 0 ↔ err = 0) ∧
    (trylockMap err = .ret UV_EBUSY ↔ (err = EBUSY ∨ err = EAGAIN)) ∧
    (trylockMap err = .abort ↔ (err ≠ 0 ∧ err ≠ EBUSY ∧ err ≠ EAGAIN)) ∧
    (trylockMap err = .ret 0 ∨ trylockMap err = .ret UV_EBUSY ∨ trylockMap err = .abort) := by
  unfold trylockMap EBUSY EAGAIN UV_EBUSY
  by_cases h0 : err = 0
  · subst h0; simp
  · by_cases h1 : err = 16
    · subst h1; simp
    · by_cases h2 : err = 11
      · subst h2; simp
      · simp [h0, h1, h2]

/-- "`uv_mutex_trylock` returns `UV_EBUSY` exactly when the mutex is held", *given* pthread's
    contract for `pthread_mutex_trylock` on an error-checking/normal mutex: it answers 0 when
    it acquired the mutex and EBUSY when (and only when) somebody holds it. -/
theorem trylock_ebusy_exact (held : Prop) (err : Int)
    (contract : (held → err = EBUSY) ∧ (¬held → err = 0)) :
    (trylockMap err = .ret UV_EBUSY ↔ held) ∧ (trylockMap err = .ret 0 ↔ ¬held) ∧
    trylockMap err ≠ .abort := by
  by_cases h : held
  · obtain rfl := contract.1 h
    simp [trylockMap, EBUSY, EAGAIN, UV_EBUSY, h]
  · obtain rfl := contract.2 h
    simp [trylockMap, UV_EBUSY, h]

example : trylockMap 16 = .ret (-16) ∧ trylockMap 11 = .ret (-16) ∧ trylockMap 0 = .ret 0 ∧
    trylockMap 22 = .abort ∧ trylockMap (-16) = .abort := by decide +kernel

/-- final mapping of `uv_sem_trywait`: 0 iff `sem_trywait` succeeded, `UV_EAGAIN` iff it failed
    with errno EAGAIN, abort iff it failed with any other errno. -/
theorem sem_final_table (r e : Int) :
    (semFinal r e = .ret 0 ↔ r = 0) ∧
    (semFinal r e = .ret UV_EAGAIN ↔ (r ≠ 0 ∧ e = EAGAIN)) ∧
    (semFinal r e = .abort ↔ (r ≠ 0 ∧ e ≠ EAGAIN)) := by
  unfold semFinal UV_EAGAIN
  by_cases h0 : r = 0 <;> by_cases h1 : e = EAGAIN <;> simp [h0, h1]

/-- EINTR is retried: any number `n` of interrupted `sem_trywait` calls followed by a call with
    another outcome `(r, e)` yields exactly the mapping of `(r, e)` after `n + 1` calls,
    whatever would come later. -/
theorem sem_trywait_retry (n : Nat) (r e : Int) (rest : List (Int × Int))
    (h : ¬(r = -1 ∧ e = EINTR)) :
    semTrywait (List.replicate n (-1, EINTR) ++ (r, e) :: rest) = some (semFinal r e, n + 1) :=
  retryEintr_eintrs_then semFinal n r e rest h

/-- the loop never gives up on EINTR: a script of interruptions only never produces a result -/
theorem sem_trywait_only_eintr (n : Nat) :
    semTrywait (List.replicate n (-1, EINTR)) = none := retryEintr_only_eintrs semFinal n

/-- **`uv_sem_wait` returns only with a token.**  For every script of `sem_wait` answers: if
    `uv_sem_wait` returns (does not abort, is not still looping), then the LAST `sem_wait` call it
    made answered 0 (a token was really taken), every earlier call was an EINTR interruption,
    and no call was made after the successful one.  Hence, given `sem_wait`'s contract
    (0 = one token consumed), no waiter gets through `uv_sem_wait` without a token. -/
theorem sem_wait_returns_with_token (script : List (Int × Int)) (k : Nat)
    (h : semWait script = some (.ret 0, k)) :
    ∃ e rest, script = List.replicate (k - 1) (-1, EINTR) ++ (0, e) :: rest ∧ 0 < k := by
  obtain ⟨n, r, e, rest, rfl, rfl, _, ho⟩ := retryEintr_eq_some semWaitFinal script _ k h
  by_cases hr : r = 0
  · subst hr
    exact ⟨e, rest, rfl, n.succ_pos⟩
  · rw [semWaitFinal, if_pos hr] at ho
    cases ho

/-- EINTR is retried by `uv_sem_wait`: `n` interruptions then success → returns after exactly
    `n + 1` calls; `n` interruptions then any other failure → abort; interruptions only → never
    returns. -/
theorem sem_wait_retry (n : Nat) (r e : Int) (rest : List (Int × Int))
    (h : ¬(r = -1 ∧ e = EINTR)) :
    semWait (List.replicate n (-1, EINTR) ++ (r, e) :: rest)
      = some (if r ≠ 0 then .abort else .ret 0, n + 1) ∧
    semWait (List.replicate n (-1, EINTR)) = none :=
  ⟨retryEintr_eintrs_then semWaitFinal n r e rest h, retryEintr_only_eintrs semWaitFinal n⟩

/-- same loop in `uv_sleep` (core.c): it returns only after a `nanosleep` call answered 0, i.e.
    after the (remaining) time really elapsed -/
theorem sleep_returns_after_full_sleep (script : List (Int × Int)) (k : Nat)
    (h : sleepLoop script = some (.ret 0, k)) :
    ∃ e rest, script = List.replicate (k - 1) (-1, EINTR) ++ (0, e) :: rest ∧ 0 < k :=
  sem_wait_returns_with_token script k h

example : semWait [(-1, 4), (-1, 4), (0, 0), (-1, 4)] = some (.ret 0, 3) ∧
    semWait [(-1, 4)] = none ∧ semWait [(-1, 4), (-1, 22)] = some (.abort, 2) := by decide +kernel

/-- "`uv_sem_trywait` returns `UV_EAGAIN` at zero", *given* `sem_trywait`'s contract (0 when a
    permit was taken; -1/EAGAIN when the count is zero; -1/EINTR when interrupted): after any
    number of interruptions the result is `UV_EAGAIN` iff the count was zero, 0 otherwise, and
    the wrapper does not abort. -/
theorem sem_trywait_eagain_exact (n : Nat) (zero : Prop) (r e : Int) (rest : List (Int × Int))
    (contract : (zero → r = -1 ∧ e = EAGAIN) ∧ (¬zero → r = 0)) :
    ∃ o, semTrywait (List.replicate n (-1, EINTR) ++ (r, e) :: rest) = some (o, n + 1) ∧
      (o = .ret UV_EAGAIN ↔ zero) ∧ (o = .ret 0 ↔ ¬zero) ∧ o ≠ .abort := by
  by_cases hz : zero
  · obtain ⟨rfl, rfl⟩ := contract.1 hz
    refine ⟨_, sem_trywait_retry n _ _ rest (by simp [EAGAIN, EINTR]), ?_⟩
    simp [semFinal, UV_EAGAIN, hz]
  · obtain rfl := contract.2 hz
    refine ⟨_, sem_trywait_retry n _ _ rest (by simp), ?_⟩
    simp [semFinal, UV_EAGAIN, hz]

example : semTrywait [(-1, 4), (-1, 4), (-1, 11), (0, 0)] = some (.ret (-11), 3) := by decide +kernel
example : semTrywait [(-1, 4), (0, 0)] = some (.ret 0, 2) := by decide +kernel
example : semTrywait [(-1, 22)] = some (.abort, 1) := by decide +kernel

/-- `uv_cond_timedwait`: 0 iff 0, `UV_ETIMEDOUT` iff ETIMEDOUT, abort iff anything else -/
theorem timedwait_table (r : Int) :
    (timedwaitMap r = .ret 0 ↔ r = 0) ∧
    (timedwaitMap r = .ret UV_ETIMEDOUT ↔ r = ETIMEDOUT) ∧
    (timedwaitMap r = .abort ↔ (r ≠ 0 ∧ r ≠ ETIMEDOUT)) := by
  unfold timedwaitMap UV_ETIMEDOUT ETIMEDOUT
  by_cases h0 : r = 0
  · subst h0; simp
  · by_cases h1 : r = 110
    · subst h1; simp
    · simp [h0, h1]

/-- `uv_barrier_wait` (pthread-barrier build): non-zero (1) exactly for the thread to which
    `pthread_barrier_wait` answered PTHREAD_BARRIER_SERIAL_THREAD, 0 exactly for answer 0,
    abort for every other answer.  Hence "non-zero to exactly one thread per round" follows from
    glibc answering SERIAL_THREAD to exactly one waiter per round (trusted). -/
theorem barrier_wait_table (rc : Int) :
    (barrierWaitMap rc = .ret 1 ↔ rc = SERIAL_THREAD) ∧
    (barrierWaitMap rc = .ret 0 ↔ rc = 0) ∧
    (barrierWaitMap rc = .abort ↔ (rc ≠ 0 ∧ rc ≠ SERIAL_THREAD)) := by
  unfold barrierWaitMap SERIAL_THREAD
  by_cases h0 : rc = 0
  · subst h0; simp
  · by_cases h1 : rc = -1
    · subst h1; simp
    · simp [h0, h1]

/-- the abort-unless-zero wrappers return (nothing but) 0 exactly on 0 -/
theorem must_zero_table (rc : Int) :
    (mustZero rc = .ret 0 ↔ rc = 0) ∧ (mustZero rc = .abort ↔ rc ≠ 0) := by
  unfold mustZero; by_cases h : rc = 0 <;> simp [h]

example : timedwaitMap 110 = .ret (-110) ∧ timedwaitMap 0 = .ret 0 ∧ timedwaitMap 4 = .abort ∧
    barrierWaitMap (-1) = .ret 1 ∧ barrierWaitMap 0 = .ret 0 ∧ barrierWaitMap 22 = .abort := by
  decide +kernel

/-- **no half-configured condvar.**  `uv_cond_init` returns 0 exactly when all four setup calls
    succeeded; a live condvar is left behind exactly in that case, and then its clock was set to
    CLOCK_MONOTONIC (the clock `uv_cond_timedwait` computes the deadline on); with any failing
    call the wrapper returns that call's code negated (never 0, never aborts) and leaves no
    condvar behind. -/
theorem cond_init_all_or_nothing (a b c d : Int) :
    ((condInit a b c d).1 = .ret 0 ↔ (a = 0 ∧ b = 0 ∧ c = 0 ∧ d = 0)) ∧
    ((condInit a b c d).2.1 = true ↔ (condInit a b c d).1 = .ret 0) ∧
    ((condInit a b c d).2.1 = true → (condInit a b c d).2.2 = true) ∧
    (condInit a b c d).1 ≠ .abort ∧
    (¬(a = 0 ∧ b = 0 ∧ c = 0 ∧ d = 0) → ∃ e, e ≠ 0 ∧ (e = a ∨ e = b ∨ e = c ∨ e = d) ∧
        (condInit a b c d).1 = .ret (-e)) := by
  unfold condInit
  by_cases ha : a = 0
  · by_cases hb : b = 0
    · by_cases hc : c = 0
      · by_cases hd : d = 0
        · simp [ha, hb, hc, hd]
        · simp [ha, hb, hc, hd]
      · simp [ha, hb, hc]
    · simp [ha, hb]
  · simp [ha]

/-- `uv_mutex_init_recursive`: returns 0 only if every call succeeded (and then the mutex is live
    and RECURSIVE was applied); a failing attribute call aborts; a failing `pthread_mutex_init`
    is reported and leaves no mutex. -/
theorem rmutex_init_all_or_nothing (a b c d : Int) :
    ((rmutexInit a b c d).1 = .ret 0 ↔ (a = 0 ∧ b = 0 ∧ c = 0 ∧ d = 0)) ∧
    ((rmutexInit a b c d).1 = .ret 0 → (rmutexInit a b c d).2 = (true, true)) ∧
    ((a ≠ 0 ∨ b ≠ 0 ∨ d ≠ 0) ↔ (rmutexInit a b c d).1 = .abort) := by
  unfold rmutexInit
  by_cases ha : a = 0
  · by_cases hb : b = 0
    · by_cases hd : d = 0
      · simp [ha, hb, hd]
      · simp [ha, hb, hd]
    · simp [ha, hb]
  · simp [ha]

/-- the one-call init wrappers and `uv_sem_init` report success iff the platform call succeeded -/
theorem simple_init_exact (err r e : Int) :
    ((simpleInit err).1 = .ret 0 ↔ err = 0) ∧ ((simpleInit err).2 = true ↔ err = 0) ∧
    ((semInit r e).2 = true ↔ r = 0) ∧ (r = 0 → (semInit r e).1 = .ret 0) ∧
    (r ≠ 0 → (semInit r e).1 = .ret (-e)) := by
  unfold simpleInit semInit
  by_cases h : err = 0 <;> by_cases hr : r = 0 <;> simp [h, hr] <;> omega

/-- `uv_thread_create_ex` never creates a thread on a half-configured attribute object -/
theorem attr_setup_exact (a b : Int) :
    (attrSetup a b = none ↔ (a = 0 ∧ b = 0)) ∧ (attrSetup a b ≠ none → attrSetup a b = some .abort) := by
  unfold attrSetup
  by_cases ha : a = 0 <;> by_cases hb : b = 0 <;> simp [ha, hb]

/-- **`uv_hrtime()` / the timed-wait deadline always read CLOCK_MONOTONIC**, whatever a
    UV_CLOCK_FAST caller cached before and whatever `clock_getres` says; precise reads never touch
    the cache; the fast clock is the coarse one only when its resolution is ≤ 1 ms, and once
    chosen it stays. -/
theorem precise_clock_is_monotonic (cache : Int) (res : Option Nat) :
    hrtimeClock false cache res = (CLOCK_MONOTONIC, cache) ∧
    (cache ≠ -1 → hrtimeClock true cache res = (cache, cache)) ∧
    ((hrtimeClock true (-1) res).1 = CLOCK_MONOTONIC_COARSE ↔ ∃ ns, res = some ns ∧ ns ≤ 1000000) ∧
    ((hrtimeClock true (-1) res).1 = CLOCK_MONOTONIC ∨ (hrtimeClock true (-1) res).1 = CLOCK_MONOTONIC_COARSE) := by
  refine ⟨by simp [hrtimeClock], fun h => by simp [hrtimeClock, h], ?_⟩
  cases res with
  | none => simp [hrtimeClock, CLOCK_MONOTONIC, CLOCK_MONOTONIC_COARSE]
  | some ns =>
    by_cases h : ns ≤ 1000000 <;> simp [hrtimeClock, CLOCK_MONOTONIC, CLOCK_MONOTONIC_COARSE, h]

example : condInit 0 22 0 0 = (.ret (-22), false, false) ∧ condInit 0 0 0 0 = (.ret 0, true, true) ∧
    condInit 0 0 0 12 = (.ret (-12), false, true) ∧ rmutexInit 0 22 0 0 = (.abort, false, false) ∧
    hrtimeClock false 6 (some 1000000) = (1, 6) ∧ hrtimeClock true (-1) (some 1000000) = (6, 6) ∧
    hrtimeClock true (-1) (some 4000000) = (1, 1) := by decide +kernel

/-- `uv__min_stack_size` = max(8192, PTHREAD_STACK_MIN) -/
theorem min_stack_size_spec (e : Env) : minStackSize e = max 8192 e.stackMin := by
  unfold minStackSize; split <;> omega

/-- an explicit request with a power-of-two page size: refused exactly when rounding it up to a
    page would wrap, otherwise `pthread_attr_setstacksize` gets the request rounded up to a page,
    or the minimum if that is larger -/
theorem createExStack_request (e : Env) (k : Nat) (hk : k ≤ 64) (hp : e.pagesize = 2 ^ k)
    (flags r : Nat) (hf : flags &&& UV_THREAD_HAS_STACK_SIZE ≠ 0) (hr : 0 < r) :
    createExStack e flags r =
      if 2 ^ 64 ≤ r + (e.pagesize - 1) then .einval
      else .create (some (max (e.pagesize * ((r + e.pagesize - 1) / e.pagesize)) (minStackSize e))) := by
  have hpos (s : Nat) : max s (minStackSize e) > 0 := by
    rw [min_stack_size_spec]
    omega
  unfold createExStack
  simp only [if_pos hf, if_neg (Nat.ne_of_gt hr), SIZE_MAX, ite_lt_eq_max, if_pos (hpos _)]
  by_cases hw : 2 ^ 64 ≤ r + (e.pagesize - 1)
  · rw [if_pos hw, if_pos (by omega)]
  · have hx : r + 2 ^ k - 1 < 2 ^ 64 := by omega
    rw [if_neg hw, if_neg (by omega), hp, Nat.mod_eq_of_lt hx, not64_mask, and_mask _ k hk hx,
      Nat.mul_div_self_eq_mod_sub_self]

/-- **stack_size_ok.**  For every explicit request `0 < r < 2^64` and every power-of-two page
    size: `UV_EINVAL` is returned exactly when rounding `r` up to a page would exceed
    `SIZE_MAX`; otherwise `pthread_attr_setstacksize` IS called, with a value `s` that fits
    `size_t`, is ≥ the request, ≥ the minimum, is a multiple of the page size (or is the
    minimum itself), and is exactly `max (r rounded up to the next page multiple) minimum`. -/
theorem stack_size_ok (e : Env) (k : Nat) (hk : k ≤ 63) (hp : e.pagesize = 2 ^ k)
    (hmin : e.stackMin < 2 ^ 64) (flags r : Nat)
    (hf : flags &&& UV_THREAD_HAS_STACK_SIZE ≠ 0) (hr0 : 0 < r) (hr : r < 2 ^ 64) :
    (createExStack e flags r = .einval ↔ 2 ^ 64 ≤ r + (e.pagesize - 1)) ∧
    (r + (e.pagesize - 1) < 2 ^ 64 →
      ∃ s, createExStack e flags r = .create (some s) ∧
        r ≤ s ∧ minStackSize e ≤ s ∧ s < 2 ^ 64 ∧
        (s % e.pagesize = 0 ∨ s = minStackSize e) ∧
        s = max (e.pagesize * ((r + e.pagesize - 1) / e.pagesize)) (minStackSize e)) := by
  rw [createExStack_request e k (Nat.le_succ_of_le hk) hp flags r hf hr0]
  split
  next hw => exact ⟨⟨fun _ => hw, fun _ => rfl⟩, fun h => absurd hw (Nat.not_le.2 h)⟩
  next hw =>
    refine ⟨⟨nofun, fun h => absurd h hw⟩, fun _ => ⟨_, rfl, ?_, Nat.le_max_right .., ?_, ?_, rfl⟩⟩
    · have := Nat.lt_div_mul_add (a := r + e.pagesize - 1) (hp ▸ Nat.two_pow_pos k)
      rw [Nat.mul_comm] at this
      omega
    · rw [min_stack_size_spec]
      exact Nat.max_lt.2 ⟨Nat.lt_of_le_of_lt (Nat.mul_div_le ..) (by omega),
        Nat.max_lt.2 ⟨by decide, hmin⟩⟩
    · rw [Nat.max_def]
      split
      · exact .inr rfl
      · exact .inl (Nat.mul_mod_right ..)

/-- page alignment of the applied size, under the side condition that holds for every real
    configuration (minimum 8192/16384/… with 4 KiB–64 KiB pages): the minimum is itself a page
    multiple. -/
theorem stack_size_aligned (e : Env) (k : Nat) (hk : k ≤ 63) (hp : e.pagesize = 2 ^ k)
    (hmin : e.stackMin < 2 ^ 64) (hal : minStackSize e % e.pagesize = 0) (flags r s : Nat)
    (hf : flags &&& UV_THREAD_HAS_STACK_SIZE ≠ 0) (hr0 : 0 < r) (hr : r < 2 ^ 64)
    (h : createExStack e flags r = .create (some s)) : s % e.pagesize = 0 := by
  rw [createExStack_request e k (Nat.le_succ_of_le hk) hp flags r hf hr0] at h
  split at h <;> cases h
  rw [Nat.max_def]
  split
  · exact hal
  · exact Nat.mul_mod_right ..

/-- the page-multiple `s` chosen is the *least* page multiple ≥ r (no over-allocation by a
    page or more), unless the minimum took over -/
theorem stack_size_tight (e : Env) (k : Nat) (hk : k ≤ 63) (hp : e.pagesize = 2 ^ k)
    (hmin : e.stackMin < 2 ^ 64) (flags r s : Nat)
    (hf : flags &&& UV_THREAD_HAS_STACK_SIZE ≠ 0) (hr0 : 0 < r) (hr : r < 2 ^ 64)
    (h : createExStack e flags r = .create (some s)) :
    s < r + e.pagesize ∨ s = minStackSize e := by
  rw [createExStack_request e k (Nat.le_succ_of_le hk) hp flags r hf hr0] at h
  split at h <;> cases h
  have := Nat.mul_div_le (r + e.pagesize - 1) e.pagesize
  omega

/-- non-vacuity + the L11 point: SIZE_MAX and SIZE_MAX-4094 are refused, SIZE_MAX-4095 is
    accepted with the largest page multiple; unaligned and sub-minimum requests -/
example :
    let e : Env := { pagesize := 4096, stackMin := 16384, rlimOk := true, rlimCur := 8388608 }
    createExStack e 1 (2 ^ 64 - 1) = .einval ∧
    createExStack e 1 (2 ^ 64 - 4095) = .einval ∧
    createExStack e 1 (2 ^ 64 - 4096) = .create (some (2 ^ 64 - 4096)) ∧
    createExStack e 1 1 = .create (some 16384) ∧
    createExStack e 1 (1048576 + 1) = .create (some (1048576 + 4096)) ∧
    createExStack e 1 65536 = .create (some 65536) := by decide +kernel

/-- the soft RLIMIT_STACK rounded down to a page is used exactly when `getrlimit` succeeded, the
    limit is finite and the rounded value reaches the minimum; otherwise 2 MiB -/
theorem threadStackSize_eq (e : Env) :
    threadStackSize e =
      if e.rlimOk = true ∧ e.rlimCur ≠ RLIM_INFINITY ∧
          minStackSize e ≤ e.rlimCur - e.rlimCur % e.pagesize
      then e.rlimCur - e.rlimCur % e.pagesize else 2097152 := by
  unfold threadStackSize defaultStackSize
  cases e.rlimOk
  · rfl
  · by_cases h : e.rlimCur = RLIM_INFINITY <;> simp [h]

theorem threadStackSize_pos (e : Env) : threadStackSize e > 0 := by
  rw [threadStackSize_eq, min_stack_size_spec]
  split <;> omega

/-- **default_stack_rule.**  With no explicit request (flag clear, or size 0) the function
    never fails early and always sets a stack size `s`: the soft RLIMIT_STACK rounded *down* to
    a page multiple when `getrlimit` succeeded, the limit is finite and the rounded value is
    ≥ the minimum (then `s` is page-aligned, `≤` the limit and within one page of it);
    otherwise exactly 2 MiB. -/
theorem default_stack_rule (e : Env) (hp : 0 < e.pagesize) (flags r : Nat)
    (h : flags &&& UV_THREAD_HAS_STACK_SIZE = 0 ∨ r = 0) :
    ∃ s, createExStack e flags r = .create (some s) ∧
      ((e.rlimOk = true ∧ e.rlimCur ≠ RLIM_INFINITY ∧
          minStackSize e ≤ e.rlimCur - e.rlimCur % e.pagesize) →
        s = e.rlimCur - e.rlimCur % e.pagesize ∧ s % e.pagesize = 0 ∧ s ≤ e.rlimCur ∧
        e.rlimCur < s + e.pagesize ∧ minStackSize e ≤ s) ∧
      (¬(e.rlimOk = true ∧ e.rlimCur ≠ RLIM_INFINITY ∧
          minStackSize e ≤ e.rlimCur - e.rlimCur % e.pagesize) → s = 2097152) := by
  have hreq : (if flags &&& UV_THREAD_HAS_STACK_SIZE ≠ 0 then r else 0) = 0 :=
    ite_eq_right_iff.2 h.resolve_left
  refine ⟨threadStackSize e, ?_, ?_⟩
  · unfold createExStack
    simp only [hreq, if_true, if_pos (threadStackSize_pos e)]
  · rw [threadStackSize_eq]
    refine ⟨fun hc => ?_, fun hc => if_neg hc⟩
    rw [if_pos hc]
    have := Nat.mod_lt e.rlimCur hp
    exact ⟨rfl, Nat.sub_mod_eq_zero_of_mod_eq (Nat.mod_mod ..).symm, by omega, by omega, hc.2.2⟩

example :
    createExStack { pagesize := 4096, stackMin := 16384, rlimOk := true, rlimCur := 8388608 + 77 } 0 0
      = .create (some 8388608) ∧
    createExStack { pagesize := 4096, stackMin := 16384, rlimOk := true, rlimCur := 2 ^ 64 - 1 } 1 0
      = .create (some 2097152) ∧
    createExStack { pagesize := 4096, stackMin := 16384, rlimOk := true, rlimCur := 16383 } 0 99
      = .create (some 2097152) ∧
    createExStack { pagesize := 65536, stackMin := 16384, rlimOk := false, rlimCur := 0 } 0 0
      = .create (some 2097152) := by decide +kernel

/-- return value of the whole function: `UV_EINVAL` without reaching pthread in the wrap
    case, otherwise `-(pthread_create's answer)` -/
theorem create_ret (e : Env) (flags r : Nat) (err : Int) :
    (createExStack e flags r = .einval → createEx e flags r err = (none, UV_EINVAL)) ∧
    (∀ ss, createExStack e flags r = .create ss → createEx e flags r err = (ss, -err)) := by
  unfold createEx createRet
  constructor
  · intro h; rw [h]
  · intro ss h; rw [h]

/-- `uv__hrtime` is exact while seconds*10^9+nanoseconds fits 64 bits (≈ 584 years of uptime) -/
theorem hrtime_exact (sec nsec : Nat) (h : sec * NANOSEC + nsec < 2 ^ 64) :
    hrtime sec nsec = sec * NANOSEC + nsec := Nat.mod_eq_of_lt h

/-- the 64-bit addition of `uv_cond_timedwait` saturates: the timespec is `min (now + timeout)
    (2^64 - 1)` ns split into seconds and nanoseconds -/
theorem deadline_eq (now timeout : Nat) (hn : now < 2 ^ 64) :
    deadline now timeout =
      (min (now + timeout) (2 ^ 64 - 1) / NANOSEC, min (now + timeout) (2 ^ 64 - 1) % NANOSEC) := by
  unfold deadline
  by_cases h : timeout > 2 ^ 64 - 1 - now
  · rw [if_pos h, Nat.min_eq_right (by omega)]
  · rw [if_neg h, Nat.add_comm, Nat.mod_eq_of_lt (by omega), Nat.min_eq_left (by omega)]

/-- **deadline_split.**  For all 64-bit `now` (= `uv_hrtime()`) and `timeout`:
    the timespec handed to `pthread_cond_timedwait` is well-formed (`tv_nsec < 10^9`, `tv_sec`
    fits a signed 64-bit `time_t`) and denotes exactly `min (now + timeout) (2^64 - 1)` ns:
    the mathematical sum when it fits, saturated at 2^64-1 ns (≈ 584.5 years on the clock)
    otherwise — never a wrapped-around instant. -/
theorem deadline_split (now timeout : Nat) (hn : now < 2 ^ 64) (_ht : timeout < 2 ^ 64) :
    (deadline now timeout).2 < NANOSEC ∧ (deadline now timeout).1 < 2 ^ 63 ∧
    tsNs (deadline now timeout) = min (now + timeout) (2 ^ 64 - 1) := by
  rw [deadline_eq now timeout hn]
  exact ⟨Nat.mod_lt _ (by decide), Nat.div_lt_of_lt_mul (by unfold NANOSEC; omega),
    Nat.div_add_mod' ..⟩

/-- **timedwait_not_early.**  *Given* `pthread_cond_timedwait`'s contract on the condvar's
    clock (CLOCK_MONOTONIC, selected by `uv_cond_init`; trusted): it answers ETIMEDOUT only if
    the clock reads `tret ≥ abstime` when it returns — `uv_cond_timedwait` returns
    `UV_ETIMEDOUT` only when `tret - now ≥ timeout` (at least the timeout has elapsed on
    `uv_hrtime`), or — sum beyond the 64-bit clock — only when the clock shows its last value
    2^64-1. -/
theorem timedwait_not_early (now timeout tret : Nat) (r : Int)
    (hn : now < 2 ^ 64) (ht : timeout < 2 ^ 64)
    (contract : r = ETIMEDOUT → tsNs (deadline now timeout) ≤ tret)
    (hret : timedwaitMap r = .ret UV_ETIMEDOUT) :
    (now + timeout < 2 ^ 64 → timeout ≤ tret - now) ∧
    (2 ^ 64 ≤ now + timeout → 2 ^ 64 - 1 ≤ tret) := by
  have := contract ((timedwait_table r).2.1.1 hret)
  have := (deadline_split now timeout hn ht).2.2
  omega

/-- a zero timeout at a well-formed clock reading gives back that reading -/
theorem deadline_zero_roundtrip (sec nsec : Nat) (hns : nsec < NANOSEC)
    (h : sec * NANOSEC + nsec < 2 ^ 64) : deadline (hrtime sec nsec) 0 = (sec, nsec) := by
  rw [hrtime_exact sec nsec h, deadline_eq _ _ h, Nat.add_zero, Nat.min_eq_left (by omega),
    Nat.mul_comm, Nat.mul_add_div (by decide), Nat.mul_add_mod, Nat.div_eq_of_lt hns,
    Nat.mod_eq_of_lt hns]
  rfl

example : deadline 1999999999 2000000001 = (4, 0) ∧
    deadline 1 (2 ^ 64 - 1) = (18446744073, 709551615) ∧
    deadline (2 ^ 64 - 1) 0 = (18446744073, 709551615) ∧
    deadline 5 (2 ^ 64 - 6) = (18446744073, 709551615) ∧
    deadline 123456789012 0 = (123, 456789012) := by decide +kernel

end UvModel.ThreadArith
