import UvModel.Lemmas.QueueLemmas
/-!
# `src/queue.h` refines the `List` operations the loop models use

For every memory `m`, head sentinel `h` and member list `l` with `Ring m h l` (following `next` from `h`
visits exactly `l`, in order, and returns to `h`; `prev` is the inverse; no node occurs twice):
each `queue.h` function, executed as the pointer writes the C performs, yields a memory in which the ring
holds the list the models compute.  No bound on the length of `l`; nodes outside the rings involved are
arbitrary.
-/
namespace UvModel.Queue

theorem init_ring (m : Mem) (h : Nat) : Ring (init m h) h [] := by
  simp [Ring, init]

theorem head_refines {m : Mem} {h a : Nat} {r : List Nat} (hr : Ring m h (a :: r)) : head m h = a :=
  ((ring_append (l1 := [])).1 hr).2.1.1

theorem empty_iff {m : Mem} {h : Nat} {l : List Nat} (hr : Ring m h l) : empty m h = true ↔ l = [] := by
  cases l with
  | nil => exact iff_of_true (beq_iff_eq.2 hr.1.1.1.symm) rfl
  | cons a r =>
    refine iff_of_false (fun e => (List.nodup_cons.1 hr.2).1 ?_) (List.cons_ne_nil a r)
    exact List.mem_cons.2 (.inl ((beq_iff_eq.1 e).trans (head_refines hr)))

theorem insertHead_ring {m : Mem} {h q : Nat} {l : List Nat} (hr : Ring m h l) (hq : q ∉ h :: l) :
    Ring (insertHead m h q) h (q :: l) := by
  obtain ⟨-, hs, hl, hnd⟩ := (ring_append (l1 := [])).1 hr
  obtain ⟨hhl, hndl⟩ := List.nodup_cons.1 hnd
  obtain ⟨hqh, hql⟩ := List.ne_and_not_mem_of_not_mem_cons hq
  obtain ⟨ehq, eqs⟩ := insertHead_new hs hqh (ne_of_mem_of_not_mem (mem_concat.1 (List.head_mem _)) hq).symm
  refine (ring_append (l1 := [q])).2 ⟨⟨ehq, trivial⟩, eqs, hl.mono fun x hx y hy e => ?_,
    List.nodup_cons.2 ⟨List.not_mem_cons_of_ne_of_not_mem hqh.symm hhl, List.nodup_cons.2 ⟨hql, hndl⟩⟩⟩
  rw [List.dropLast_concat] at hx
  exact insertHead_keep hs e (ne_of_mem_of_not_mem hx hhl) (ne_of_mem_of_not_mem hx hql)
    (ne_of_mem_of_not_mem (mem_concat.1 (List.mem_of_mem_tail hy)) hq)

/-- `uv__queue_remove(q)` for a member `q`: the others keep their order; `q`'s own cells are NOT
touched (it still points at its former neighbours — callers that reuse `q` re-`init` it). -/
theorem remove_ring {m : Mem} {h q : Nat} {l1 l2 : List Nat} (hr : Ring m h (l1 ++ q :: l2)) :
    Ring (remove m q) h (l1 ++ l2) ∧ (remove m q).next q = m.next q ∧ (remove m q).prev q = m.prev q := by
  obtain ⟨hP, hp, hl, hnd⟩ := ring_append.1 hr
  obtain ⟨hs, hS⟩ := (linked_cons (List.concat_ne_nil h l2)).1 hl
  obtain ⟨nP, nQ, d⟩ := List.nodup_append.1 hnd
  obtain ⟨hqP, hqS⟩ := not_mem_of_nodup_mid hnd
  have keep : ∀ {ns}, q ∉ ns → Linked m ns → Linked (remove m q) ns := fun hq hl =>
    hl.mono fun x hx y hy e => remove_keep hp hs e (ne_of_mem_of_not_mem (List.dropLast_subset _ hx) hq)
      (ne_of_mem_of_not_mem (List.mem_of_mem_tail hy) hq)
  exact ⟨ring_append.2 ⟨keep hqP hP, remove_new hp hs, keep hqS hS,
      List.nodup_append.2 ⟨nP, (List.nodup_cons.1 nQ).2, fun a ha b hb => d a ha b (List.mem_cons_of_mem q hb)⟩⟩,
    remove_self hp hs (ne_of_mem_of_not_mem (List.getLast_mem _) hqP).symm
      (ne_of_mem_of_not_mem (List.head_mem _) hqS).symm⟩

theorem insertTail_ring {m : Mem} {h q : Nat} {l : List Nat} (hr : Ring m h l) (hq : q ∉ h :: l) :
    Ring (insertTail m h q) h (l ++ [q]) := by
  obtain ⟨hP, ht⟩ := linked_snoc.1 hr.1
  obtain ⟨etq, eqh⟩ := insertTail_new ht (List.ne_of_not_mem_cons hq)
    (ne_of_mem_of_not_mem (List.getLast_mem _) hq).symm
  refine ring_append.2 ⟨hP.mono fun x hx y hy e => ?_, etq, ⟨eqh, trivial⟩,
    List.nodup_append.2 ⟨hr.2, List.nodup_cons.2 ⟨List.not_mem_nil, List.nodup_nil⟩,
      fun a ha b hb c => hq (List.mem_singleton.1 hb ▸ c ▸ ha)⟩⟩
  exact insertTail_keep ht e (ne_of_mem_of_not_mem hy (List.nodup_cons.1 hr.2).1)
    (ne_of_mem_of_not_mem (List.dropLast_subset _ hx) hq) (ne_of_mem_of_not_mem (List.mem_cons_of_mem h hy) hq)

/-- `uv__queue_split(h, q, n)` for a member `q` and a fresh sentinel `n`: `h` keeps the members before
`q`, `n` receives `q` and everything after it, both in order. -/
theorem split_ring {m : Mem} {h q n : Nat} {l1 l2 : List Nat} (hr : Ring m h (l1 ++ q :: l2))
    (hn : n ∉ h :: (l1 ++ q :: l2)) :
    Ring (split m h q n) h l1 ∧ Ring (split m h q n) n (q :: l2) := by
  obtain ⟨hP, hp, hl, hnd⟩ := ring_append.1 hr
  obtain ⟨hQ, ht⟩ := linked_snoc.1 hl
  obtain ⟨nP, nQ, d⟩ := List.nodup_append.1 hnd
  have hnP : n ∉ h :: l1 := fun c => hn (List.mem_append_left (q :: l2) c)
  have hnQ : n ∉ q :: l2 := fun c => hn (List.mem_append_right (h :: l1) c)
  have hpP := List.getLast_mem (List.cons_ne_nil h l1)
  have htQ := List.getLast_mem (List.cons_ne_nil q l2)
  obtain ⟨eph, etn, enq⟩ := split_new hp ht (List.ne_of_not_mem_cons hnP) (List.ne_of_not_mem_cons hnQ).symm
    (d h List.mem_cons_self q List.mem_cons_self) (d _ hpP _ htQ).symm (ne_of_mem_of_not_mem htQ hnQ)
    (ne_of_mem_of_not_mem hpP hnP).symm
  have keep : ∀ {ns}, q ∉ ns.tail → h ∉ ns.tail → n ∉ ns → Linked m ns → Linked (split m h q n) ns :=
    fun hq hh hn hl => hl.mono fun x hx y hy e => split_keep hp ht e (ne_of_mem_of_not_mem hy hq)
      (ne_of_mem_of_not_mem hy hh) (ne_of_mem_of_not_mem (List.dropLast_subset _ hx) hn)
      (ne_of_mem_of_not_mem (List.mem_of_mem_tail hy) hn)
  exact ⟨⟨linked_snoc.2 ⟨keep (List.not_mem_of_not_mem_cons (not_mem_of_nodup_mid hnd).1)
      (List.nodup_cons.1 nP).1 hnP hP, eph⟩, nP⟩,
    linked_snoc.2 ⟨⟨enq, keep (List.nodup_cons.1 nQ).1
      (fun c => d h List.mem_cons_self h (List.mem_cons_of_mem q c) rfl) hnQ hQ⟩, etn⟩, List.nodup_cons.2 ⟨hnQ, nQ⟩⟩

/-- a ring is closed under `next` and `prev` -/
theorem ring_closed {m : Mem} {h : Nat} {l : List Nat} (hr : Ring m h l) :
    ∀ x ∈ h :: l, m.next x ∈ h :: l ∧ m.prev x ∈ h :: l :=
  fun _ hx => ⟨(hr.edges hx).1.1, (hr.edges hx).2.1⟩

/-- frame rule: a ring only depends on the `next`/`prev` cells of its own nodes -/
theorem ring_frame {m m' : Mem} {h : Nat} {l : List Nat} (hr : Ring m h l)
    (hn : ∀ x ∈ h :: l, m'.next x = m.next x) (hp : ∀ x ∈ h :: l, m'.prev x = m.prev x) : Ring m' h l :=
  hr.mono fun x hx y hy e => ⟨(hn x hx).trans e.1, (hp y hy).trans e.2⟩

/-! ### frame: operations on one ring leave every disjoint ring alone
(what makes the drain idiom safe when callbacks insert into / remove from the *original* queue,
and what lets the loop models keep one `List` per queue) -/

theorem insertTail_other {m : Mem} {h q g : Nat} {l k : List Nat} (hr : Ring m h l) (hg : Ring m g k)
    (hd : ∀ x ∈ g :: k, x ∉ h :: l ∧ x ≠ q) : Ring (insertTail m h q) g k :=
  hg.mono fun x hx y hy e => insertTail_keep (hr.edges List.mem_cons_self).2.2 e
    (ne_of_mem_of_not_mem List.mem_cons_self (hd y hy).1).symm (hd x hx).2 (hd y hy).2

theorem insertHead_other {m : Mem} {h q g : Nat} {l k : List Nat} (hr : Ring m h l) (hg : Ring m g k)
    (hd : ∀ x ∈ g :: k, x ∉ h :: l ∧ x ≠ q) : Ring (insertHead m h q) g k :=
  hg.mono fun x hx y hy e => insertHead_keep (hr.edges List.mem_cons_self).1.2 e
    (ne_of_mem_of_not_mem List.mem_cons_self (hd x hx).1).symm (hd x hx).2 (hd y hy).2

theorem remove_other {m : Mem} {h q g : Nat} {l k : List Nat} (hr : Ring m h l) (hq : q ∈ l) (hg : Ring m g k)
    (hd : ∀ x ∈ g :: k, x ∉ h :: l) : Ring (remove m q) g k :=
  have hq := List.mem_cons_of_mem h hq
  hg.mono fun x hx y hy e => remove_keep (hr.edges hq).2.2 (hr.edges hq).1.2 e
    (ne_of_mem_of_not_mem hq (hd x hx)).symm (ne_of_mem_of_not_mem hq (hd y hy)).symm

theorem init_other {m : Mem} {q g : Nat} {k : List Nat} (hg : Ring m g k) (hd : q ∉ g :: k) :
    Ring (init m q) g k :=
  hg.mono fun _ hx _ hy e => init_keep e (ne_of_mem_of_not_mem hx hd) (ne_of_mem_of_not_mem hy hd)

theorem move_other {m : Mem} {h n g : Nat} {l k : List Nat} (hr : Ring m h l) (hg : Ring m g k)
    (hd : ∀ x ∈ g :: k, x ∉ h :: l ∧ x ≠ n) : Ring (move m h n) g k :=
  hg.mono fun x hx y hy e => by
    have hh := hr.edges List.mem_cons_self
    unfold move; split
    · exact init_keep e (hd x hx).2 (hd y hy).2
    · exact split_keep (hr.edges hh.1.1).2.2 hh.2.2 e (ne_of_mem_of_not_mem hh.1.1 (hd y hy).1).symm
        (ne_of_mem_of_not_mem List.mem_cons_self (hd y hy).1).symm (hd x hx).2 (hd y hy).2

/-- `uv__queue_move(h, n)` onto a fresh sentinel `n`: `n` receives all members in order, `h` is left
empty — including the empty case, which the C special-cases. -/
theorem move_ring {m : Mem} {h n : Nat} {l : List Nat} (hr : Ring m h l) (hn : n ∉ h :: l) :
    Ring (move m h n) h [] ∧ Ring (move m h n) n l := by
  cases l with
  | nil =>
    rw [move, if_pos ((empty_iff hr).2 rfl)]
    exact ⟨init_other hr hn, init_ring m n⟩
  | cons a r =>
    have ha : m.next h = a := head_refines hr
    rw [move, if_neg fun e => List.cons_ne_nil a r ((empty_iff hr).1 e), ha]
    exact split_ring (l1 := []) hr hn

/-- `uv__queue_remove` in the form the models use: `List.erase` -/
theorem remove_erase {m : Mem} {h q : Nat} {l : List Nat} (hr : Ring m h l) (hq : q ∈ l) :
    Ring (remove m q) h (l.erase q) := by
  obtain ⟨l1, l2, rfl⟩ := List.append_of_mem hq
  have hq1 : q ∉ l1 := fun c => (not_mem_of_nodup_mid (ring_append.1 hr).2.2.2).1 (List.mem_cons_of_mem h c)
  rw [List.erase_append_right _ hq1, List.erase_cons_head]
  exact (remove_ring hr).1

/-- `uv__queue_foreach(q, h)` visits exactly the members, in order (`l.length` steps suffice) -/
theorem walk_linked {m : Mem} {h : Nat} : ∀ (r : List Nat) (a fuel : Nat), Linked m (a :: r ++ [h]) → h ∉ r →
    r.length ≤ fuel → walk m h fuel (m.next a) = r
  | [], _, 0, _, _, _ => rfl
  | [], a, fuel + 1, hl, _, _ => by rw [hl.1.1, walk, if_pos rfl]
  | b :: r, a, fuel + 1, hl, hh, hf => by
      rw [hl.1.1, walk, if_neg (List.ne_of_not_mem_cons hh).symm,
        walk_linked r b fuel hl.2 (List.not_mem_of_not_mem_cons hh) (Nat.le_of_succ_le_succ hf)]

theorem foreach_refines {m : Mem} {h : Nat} {l : List Nat} (hr : Ring m h l) (fuel : Nat) (hf : l.length < fuel) :
    foreach m h fuel = l :=
  walk_linked l h fuel hr.1 (List.nodup_cons.mp hr.2).1 (Nat.le_of_lt hf)

/-- the drain idiom (`move` to a local head, then pop-remove-init until empty) visits exactly the
members present at the start, each once, in order, and leaves the local head empty -/
theorem drain_refines {pq : Nat} : ∀ (l : List Nat) (m : Mem) (fuel : Nat), Ring m pq l → l.length < fuel →
    (drain m pq fuel).2 = l ∧ Ring (drain m pq fuel).1 pq []
  | [], m, fuel + 1, hr, _ => by
      rw [drain, if_pos ((empty_iff hr).2 rfl)]
      exact ⟨rfl, hr⟩
  | a :: r, m, fuel + 1, hr, hf => by
      have he : ¬ empty m pq = true := fun e => List.cons_ne_nil a r ((empty_iff hr).1 e)
      have ih := drain_refines r _ fuel (init_other (remove_ring (l1 := []) hr).1
        fun c => (not_mem_of_nodup_mid (l1 := []) hr.2).2 (mem_concat.2 c)) (Nat.lt_of_succ_lt_succ hf)
      simp only [drain, he, head_refines hr]
      exact ⟨congrArg (a :: ·) ih.1, ih.2⟩

/-! ### non-vacuity: concrete memories -/

/-- nodes 0 (head) 1 2 3, ring 0 → 1 → 2 → 3 → 0 built by the C operations themselves -/
def ex3 : Mem := insertTail (insertTail (insertTail (init ⟨fun _ => 99, fun _ => 99⟩ 0) 0 1) 0 2) 0 3

example : Ring ex3 0 [1, 2, 3] := by
  have h0 := init_ring ⟨fun _ => 99, fun _ => 99⟩ 0
  have h1 := insertTail_ring h0 (q := 1) (by decide)
  have h2 := insertTail_ring h1 (q := 2) (by decide)
  exact insertTail_ring h2 (q := 3) (by decide)
example : foreach ex3 0 4 = [1, 2, 3] := by decide +kernel
example : foreach (remove ex3 2) 0 4 = [1, 3] := by decide +kernel
example : foreach (insertHead ex3 0 7) 0 9 = [7, 1, 2, 3] := by decide +kernel
example : foreach (move ex3 0 5) 5 9 = [1, 2, 3] ∧ foreach (move ex3 0 5) 0 9 = [] := by decide +kernel
example : foreach (split ex3 0 2 5) 0 9 = [1] ∧ foreach (split ex3 0 2 5) 5 9 = [2, 3] := by decide +kernel
example : (drain (move ex3 0 5) 5 9).2 = [1, 2, 3] := by decide +kernel
/-- `uv__queue_remove` does not re-initialise the removed node: it still points into the ring -/
example : (remove ex3 2).next 2 = 3 ∧ (remove ex3 2).prev 2 = 1 := by decide +kernel
/-- the hypothesis "`n` is fresh" of `split_ring`/`move_ring` is needed: moving a ring onto its own
member corrupts it — forwards the target then holds [1], backwards [3] (no libuv call site does
this: every `uv__queue_move` target is a local variable) -/
example : foreach (move ex3 0 2) 2 9 = [1] ∧ foreachBack (move ex3 0 2) 2 9 = [3] := by decide +kernel
/-! ### the loop-watcher phase (`src/unix/loop-watcher.c:47-60`) at pointer level

`uv__run_idle/prepare/check` detach the loop's list onto a local head (`move_ring`), then repeatedly pop the
local head's first member, append it to the loop's list and call it back; callbacks may stop (remove) any
watcher — visited or not — and start (insert at the head of the loop's list) inactive ones.  `Two` is
the two-ring state; the three lemmas show that every C step is the list step the `Loop` model performs
(`LoopRun`'s watcher phase works on exactly these two lists). -/

def Two (m : Mem) (lh tmp : Nat) (L T : List Nat) : Prop :=
  Ring m lh L ∧ Ring m tmp T ∧ ∀ x ∈ lh :: L, x ∉ tmp :: T

/-- the detaching `uv__queue_move(&loop->name_handles, &queue)` -/
theorem detach_refines {m : Mem} {lh tmp : Nat} {L : List Nat} (hr : Ring m lh L) (ht : tmp ∉ lh :: L) :
    Two (move m lh tmp) lh tmp [] L :=
  ⟨(move_ring hr ht).1, (move_ring hr ht).2, fun _ hx => List.mem_singleton.1 hx ▸
    List.not_mem_cons_of_ne_of_not_mem (List.ne_of_not_mem_cons ht).symm (List.nodup_cons.1 hr.2).1⟩

/-- one round of the loop body: `q = head(&queue); remove(q); insert_tail(&loop->name_handles, q)` -/
theorem pop_refines {m : Mem} {lh tmp a : Nat} {L T : List Nat} (h : Two m lh tmp L (a :: T)) :
    head m tmp = a ∧ Two (insertTail (remove m a) lh a) lh tmp (L ++ [a]) T := by
  obtain ⟨hL, hT, hd⟩ := h
  have haT : a ∉ tmp :: T := fun c => (not_mem_of_nodup_mid (l1 := []) hT.2).2 (mem_concat.2 c)
  have sub := List.cons_subset_cons tmp (List.subset_cons_self a T)
  have h1 : Ring (remove m a) tmp T := (remove_ring (l1 := []) hT).1
  have h2 : Ring (remove m a) lh L := remove_other hT List.mem_cons_self hL hd
  refine ⟨head_refines hT, insertTail_ring h2 fun c => hd a c (List.mem_cons_of_mem tmp List.mem_cons_self),
    insertTail_other h2 h1 fun x hx => ⟨fun c => hd x c (sub hx), ne_of_mem_of_not_mem hx haT⟩, fun x hx => ?_⟩
  have hx : x ∈ (lh :: L) ++ [a] := hx
  rcases List.mem_append.1 hx with hx | hx
  · exact fun c => hd x hx (sub c)
  · exact List.mem_singleton.1 hx ▸ haT

/-- `uv_idle_stop` etc. from a callback: `uv__queue_remove(&handle->queue)` of an active watcher, wherever
it currently is (already re-appended to the loop's list, or still waiting on the local head) -/
theorem stop_refines {m : Mem} {lh tmp q : Nat} {L T : List Nat} (h : Two m lh tmp L T) (hq : q ∈ L ∨ q ∈ T) :
    Two (remove m q) lh tmp (L.erase q) (T.erase q) := by
  have symm : ∀ {m a b A B}, Two m a b A B → Two m b a B A := fun ⟨hA, hB, d⟩ => ⟨hB, hA, fun x hx c => d x c hx⟩
  have left : ∀ {a b A B}, Two m a b A B → q ∈ A → Two (remove m q) a b (A.erase q) (B.erase q) := by
    intro a b A B ⟨hA, hB, d⟩ hq
    rw [List.erase_of_not_mem fun c => d q (List.mem_cons_of_mem a hq) (List.mem_cons_of_mem b c)]
    exact ⟨remove_erase hA hq, remove_other hA hq hB fun x hx c => d x c hx,
      fun x hx => d x (List.cons_subset_cons a List.erase_subset hx)⟩
  exact hq.elim (left h) fun hq => symm (left (symm h) hq)

/-- `uv_idle_start` etc. from a callback: `uv__queue_insert_head(&loop->name_handles, &handle->queue)` of an
inactive watcher — it lands on the loop's list, never on the local head, so it is not called in this phase -/
theorem start_refines {m : Mem} {lh tmp q : Nat} {L T : List Nat} (h : Two m lh tmp L T)
    (hq : q ∉ lh :: L ∧ q ∉ tmp :: T) : Two (insertHead m lh q) lh tmp (q :: L) T := by
  obtain ⟨hL, hT, hd⟩ := h
  exact ⟨insertHead_ring hL hq.1,
    insertHead_other hL hT fun x hx => ⟨fun c => hd x c hx, ne_of_mem_of_not_mem hx hq.2⟩, fun x hx =>
    (List.mem_cons.1 ((List.Perm.swap q lh L).mem_iff.1 hx)).elim (fun e => e ▸ hq.2) (hd x)⟩

example : Two (move ex3 0 5) 0 5 [] [1, 2, 3] := detach_refines (by
  have h0 := init_ring ⟨fun _ => 99, fun _ => 99⟩ 0
  exact insertTail_ring (insertTail_ring (insertTail_ring h0 (q := 1) (by decide)) (q := 2) (by decide)) (q := 3) (by decide))
  (by decide)

/-! ### self-linkedness as the membership flag
`uv__io_start`/`uv__io_feed`/`uv__io_stop` test `uv__queue_empty(&w->watcher_queue)` /
`(&w->pending_queue)` on the *member* node to know whether it is queued; that is sound because a queued
node is never self-linked and every dequeue in those paths is `remove` followed by `init`. -/

theorem member_not_empty {m : Mem} {h q : Nat} {l : List Nat} (hr : Ring m h l) (hq : q ∈ l) :
    empty m q = false := by
  obtain ⟨l1, l2, rfl⟩ := List.append_of_mem hq
  obtain ⟨-, -, hl, hnd⟩ := ring_append.1 hr
  rw [empty, ((linked_cons (List.concat_ne_nil h l2)).1 hl).1.1]
  exact beq_false_of_ne (ne_of_mem_of_not_mem (List.head_mem _) (not_mem_of_nodup_mid hnd).2).symm

theorem dequeued_empty (m : Mem) (q : Nat) : empty (init (remove m q) q) q = true := by
  simp [empty, init]

example : empty ex3 2 = false ∧ empty (init (remove ex3 2) 2) 2 = true := by decide +kernel

/-- `uv__queue_add(h, n)`: the members of `n` are appended to `h`, in order (an empty `n` leaves `h` as it
is).  `n` itself is left stale.  (Only caller in libuv: `src/unix/fsevents.c`, macOS.) -/
theorem add_ring {m : Mem} {h n : Nat} {lh ln : List Nat} (hh : Ring m h lh) (hn : Ring m n ln)
    (hd : ∀ x ∈ h :: lh, x ∉ n :: ln) : Ring (add m h n) h (lh ++ ln) := by
  obtain ⟨hH, ht⟩ := linked_snoc.1 hh.1
  have hnH : n ∉ h :: lh := fun c => hd n c List.mem_cons_self
  cases ln with
  | nil =>
    rw [List.append_nil]
    exact hh.mono fun x _ y hy e => add_nil_keep ht hn.1.1 e (ne_of_mem_of_not_mem hy hnH)
  | cons a r =>
    obtain ⟨⟨ha, hA⟩, hz⟩ := linked_snoc.1 hn.1
    obtain ⟨hnA, nA⟩ := List.nodup_cons.1 hn.2
    have hna := List.ne_of_not_mem_cons hnA
    have dis : ∀ x ∈ h :: lh, ∀ y ∈ a :: r, x ≠ y := fun x hx y hy c => hd x hx (c ▸ List.mem_cons_of_mem n hy)
    obtain ⟨eta, ezh⟩ := add_new ht ha hz hna
      (dis _ (List.getLast_mem _) _ (List.getLast_mem (List.cons_ne_nil a r)))
      (dis h List.mem_cons_self a List.mem_cons_self).symm
    have keep : ∀ {ns}, h ∉ ns.tail → n ∉ ns → Linked m ns → Linked (add m h n) ns := fun hh hn hl =>
      hl.mono fun x hx y hy e => add_keep ht ha hz hna e (ne_of_mem_of_not_mem hy hh)
        (ne_of_mem_of_not_mem (List.mem_of_mem_tail hy) hn) (ne_of_mem_of_not_mem (List.dropLast_subset _ hx) hn)
    exact ring_append.2 ⟨keep (List.nodup_cons.1 hh.2).1 hnH hH, eta,
      linked_snoc.2 ⟨keep (fun c => dis h List.mem_cons_self h (List.mem_cons_of_mem a c) rfl) hnA hA, ezh⟩,
      List.nodup_append.2 ⟨hh.2, nA, dis⟩⟩

example : foreach (add (init (init ex3 5) 6) 5 0) 5 9 = [1, 2, 3] := by decide +kernel
example : foreach (add (init ex3 5) 0 5) 0 9 = [1, 2, 3] := by decide +kernel   -- adding an empty ring

end UvModel.Queue
