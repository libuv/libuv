import UvModel.Accept
import UvModel.Lemmas.AcceptLemmas
import UvModel.Lemmas.SendLemmas
/-! # C07 — property theorems (accept / IPC descriptor queue / POLLIN pause / send-handle checks).
All statements quantify over every start configuration and every operation sequence `ops`
(kernel results, allocation failures and callback behaviour are part of the ops). -/
namespace UvModel.Accept

/-- a stream right after `uv_listen` (POLLIN armed) or an open IPC pipe end -/
def Start (s : St) : Prop := ∃ role ipc pollin, (role = .listen → pollin = true) ∧ s = init role ipc pollin

/-- reachable: result of *any* operation sequence from a start state -/
def Reach (s : St) : Prop := ∃ s0 ops, Start s0 ∧ s = run s0 ops

theorem reach_inv {s : St} (hr : Reach s) : Inv s := by
  obtain ⟨s0, ops, ⟨r, i, p, hp, rfl⟩, rfl⟩ := hr
  exact inv_run ops _ (inv_init r i p hp)

theorem reach_step {s : St} (hr : Reach s) (op : Op) : Reach (step s op) := by
  obtain ⟨s0, ops, h0, rfl⟩ := hr
  exact ⟨s0, ops ++ [op], h0, by simp [run, List.foldl_append]⟩

/-- **conn_conservation**: the descriptors that ever reached the stream (accept4 results, SCM_RIGHTS
payloads, connections shed by the EMFILE trick) are, as a multiset, exactly: claimed by a successful
`uv_accept` ⊎ still pending (accepted_fd + queue) ⊎ closed by `uv_close` ⊎ closed by libuv on an error
path (client open failed / ENOMEM while queueing / shed).  None lost, none duplicated. -/
theorem conn_conservation {s : St} (hr : Reach s) :
    s.arrived.Perm (claimed s ++ pending s ++ s.byClose ++ (failedOpen s ++ s.dropped ++ s.shed)) := by
  have h := reach_inv hr
  have hc := h.cons
  rw [h.fifo] at hc
  have hp : (s.taken.map (·.1)).Perm (claimed s ++ failedOpen s) := by
    have := (List.filter_append_perm (fun x : Fd × Bool => x.2) s.taken).map (·.1)
    simpa [claimed, failedOpen] using this.symm
  refine hc.trans ?_
  perm_count hp

/-- corollary: with distinct descriptors no descriptor is handed out twice, and a claimed one is
neither still pending nor closed behind the user's back -/
theorem conn_no_duplicate {s : St} (hr : Reach s)
    (hd : s.arrived.Nodup) :
    (claimed s ++ pending s ++ s.byClose ++ (failedOpen s ++ s.dropped ++ s.shed)).Nodup :=
  (conn_conservation hr).nodup_iff.mp hd

def ex1 : St := run (init .ipc true true)
    [.recv [⟨1, .tcp⟩, ⟨2, .udp⟩, ⟨3, .pipe⟩] none, .accept .stream 0, .close]
example : Reach ex1 := ⟨_, _, ⟨.ipc, true, true, by simp, rfl⟩, rfl⟩
example : claimed ex1 = [⟨1, .tcp⟩] ∧ ex1.byClose = [⟨2, .udp⟩, ⟨3, .pipe⟩] ∧ pending ex1 = [] ∧ ex1.arrived.Nodup := by decide +kernel

/-- **ipc_fifo**: descriptors leave in arrival order — what `uv_accept` took so far, followed by
what is pending, followed by what `uv_close` closed, *is* the admission sequence. -/
theorem ipc_fifo {s : St} (hr : Reach s) :
    s.stored = s.taken.map (·.1) ++ pending s ++ s.byClose :=
  (reach_inv hr).fifo

/-- … and the next `uv_accept` hands out exactly the oldest pending descriptor -/
theorem accept_takes_oldest {s : St} (hr : Reach s) (c : ClientTy) (e : Int)
    (fd : Fd) (rest : List Fd) (hc : c ≠ .other) (hp : pending s = fd :: rest) :
    (uvAccept s c e).1.taken = s.taken ++ [(fd, e == 0)] ∧ pending (uvAccept s c e).1 = rest := by
  have h := reach_inv hr
  have ha : s.acceptedFd = some fd := by rw [← h.head_pending, hp]; rfl
  obtain ⟨-, ht, hst, hbc⟩ := uvAccept_some ha hc e
  have f2 := (inv_uvAccept s c e h).fifo
  rw [hst, h.fifo, ht, hbc, hp] at f2
  exact ⟨ht, by simpa using f2.symm⟩

def ex2 : St := run (init .ipc true true) [.recv [⟨1, .tcp⟩, ⟨2, .udp⟩] none, .recv [⟨3, .pipe⟩] none,
      .accept .stream 0, .accept .udp 0]
example : ex2.taken = [(⟨1, .tcp⟩, true), (⟨2, .udp⟩, true)] ∧ pending ex2 = [⟨3, .pipe⟩] := by decide +kernel

/-- **accept_eagain_iff_none**: `uv_accept` (with a client that opens fine) answers UV_EAGAIN exactly
when nothing is pending; then it changes nothing. -/
theorem accept_eagain_iff_none {s : St} (hr : Reach s) (c : ClientTy) :
    ((uvAccept s c 0).2 = EAGAIN ↔ pending s = []) ∧ (pending s = [] → (uvAccept s c 0).1 = s) := by
  have hp := (reach_inv hr).pending_nil
  cases ha : s.acceptedFd with
  | none => simp [uvAccept_none ha, hp, ha]
  | some fd =>
    have : (uvAccept s c 0).2 ≠ EAGAIN := by rw [uvAccept_result ha]; split <;> decide
    simp [this, hp, ha]

/-- whatever the client, `uv_accept` with a descriptor pending never answers "nothing pending":
the return value is the client's open result (or UV_EINVAL for a non-stream/udp client) -/
theorem accept_result {s : St} (hr : Reach s) (c : ClientTy) (e : Int)
    (hp : pending s ≠ []) :
    (uvAccept s c e).2 = if c = .other then EINVAL else e := by
  cases ha : s.acceptedFd with
  | none => exact absurd ((reach_inv hr).pending_nil.mpr ha) hp
  | some fd => exact uvAccept_result ha c e

/-- **pending_count_exact**: on an IPC pipe `uv_pipe_pending_count` is the number of received,
not yet claimed descriptors. -/
theorem pending_count_exact {s : St} (hr : Reach s) (hi : s.ipc = true) :
    pendingCount s = (pending s).length := by
  have h := reach_inv hr
  simp only [pendingCount, hi, pending]
  cases ha : s.acceptedFd with
  | none => simp [h.accNone ha, qlist]
  | some fd =>
    cases hq : s.queued with
    | none => simp [qlist]
    | some q =>
      have := (h.qinv q hq).le
      simp [qlist, List.length_take, Nat.min_eq_left this]

/-- `uv_pipe_pending_type` is the type of the oldest unclaimed descriptor -/
theorem pending_type_oldest {s : St} (hr : Reach s) (hi : s.ipc = true) :
    pendingType s = (((pending s).head?.map (·.kind)).getD .unknown) := by
  rw [(reach_inv hr).head_pending, pendingType, hi]
  cases s.acceptedFd <;> rfl

def ex3 : St := run (init .ipc true true) [.recv ((List.range 12).map (⟨·, .tcp⟩)) none, .accept .stream 0]
example : pendingCount ex3 = 11 ∧ (pending ex3).length = 11 ∧ pendingType ex3 = .tcp ∧ ex3.ipc = true := by decide +kernel

/-- **queue_growth_safe**: no operation sequence (including allocation failures at any point and
any number of descriptors per message) makes the queue code index outside its allocation or trip
its `assert(offset > 0)`; the `size` field always equals the number of slots paid for by the last
malloc/realloc, and `0 < offset ≤ size`. -/
theorem queue_growth_safe {s : St} (hr : Reach s) :
    s.fault = false ∧ ∀ q, s.queued = some q → 0 < q.offset ∧ q.offset ≤ q.size ∧ q.size = q.fds.length := by
  have h := reach_inv hr
  refine ⟨h.nofault, fun q hq => ?_⟩
  have := h.qinv q hq
  exact ⟨this.pos, by rw [this.sz]; exact this.le, this.sz⟩

def ex4 : St := run (init .ipc true true) [.recv ((List.range 30).map (⟨·, .tcp⟩)) none]
example : ex4.fault = false ∧ (ex4.queued.map (fun q => (q.size, q.offset))) = some (32, 29) := by decide +kernel

/-- **pollin_rearm_iff_drained** (listening streams, outside the connection callback, as long as
no deferred `uv_accept` failed to open its client): POLLIN is paused exactly while an unclaimed
connection is held. -/
theorem pollin_rearm_iff_drained {s : St} (hr : Reach s) :
    s.role = .listen → s.closed = false → s.inCb = false → s.stuck = false →
    (s.pollin = true ↔ pending s = []) := by
  intro hl hc hcb hst
  have h := reach_inv hr
  have hp := h.pollOut hl hc hcb
  rw [h.pending_nil]
  cases ha : s.acceptedFd with
  | none => simp [hp.2 ha hst]
  | some fd => simp [hp.1 (by simp [ha])]

/-- … and the `uv_accept` that takes the held connection re-arms it (it was paused before) -/
theorem accept_rearms_pollin {s : St} (hr : Reach s) (c : ClientTy) (hc' : c ≠ .other) :
    s.role = .listen → s.closed = false → s.inCb = false → pending s ≠ [] →
    s.pollin = false ∧ (uvAccept s c 0).1.pollin = true ∧ pending (uvAccept s c 0).1 = [] := by
  intro hl hc hcb hne
  have h := reach_inv hr
  have hq := h.listenQ hl
  cases ha : s.acceptedFd with
  | none => exact absurd (h.pending_nil.mpr ha) hne
  | some fd =>
    rw [uvAccept_last ha hq hc']
    exact ⟨(h.pollOut hl hc hcb).1 (by simp [ha]), by simp, by simp [pending, hq]⟩

/-- `stuck` can only come from a `uv_accept` whose client failed to open -/
theorem not_stuck_of_accepts_ok (ops : List Op) (hok : ∀ c e, Op.accept c e ∈ ops → e = 0) :
    ∀ s : St, s.stuck = false → (run s ops).stuck = false := by
  induction ops with
  | nil => intro s h; exact h
  | cons op rest ih =>
    intro s h
    exact ih (fun c e hm => hok c e (List.mem_cons_of_mem _ hm)) _
      ((stuck_step s op fun c e he => hok c e (he ▸ List.mem_cons_self)).trans h)

/-- the code as it is: a *deferred* `uv_accept` into a client that cannot be opened (e.g. UV_EBUSY)
closes the connection and leaves POLLIN paused although nothing is pending (stream.c:594 `if (err == 0)`) -/
def exStuck : St := run (init .listen false true) [.ioBegin (.ok ⟨1, .tcp⟩) {}, .ioEnd, .accept .stream (-16)]
theorem pollin_stays_paused_after_failed_deferred_accept :
    Reach exStuck ∧ pending exStuck = [] ∧ exStuck.pollin = false ∧ exStuck.closed = false :=
  ⟨⟨_, _, ⟨.listen, false, true, by simp, rfl⟩, rfl⟩, by decide⟩

def exL : St := run (init .listen false true) [.ioBegin (.ok ⟨1, .tcp⟩) {}, .ioEnd]
example : exL.role = .listen ∧ exL.closed = false ∧ exL.inCb = false ∧ exL.stuck = false ∧
    exL.pollin = false ∧ pending exL = [⟨1, .tcp⟩] := by decide +kernel

/-! ## send-handle validation -/

/-- **send_handle_refused**, both entry points: a handle is refused with UV_EINVAL on anything that
is not an IPC pipe, and with UV_EBADF when it has no descriptor (stream open and writable; for
`uv_try_write2` additionally not connecting and nothing queued, otherwise it answers UV_EAGAIN —
also a refusal). -/
theorem send_handle_refused (s : WStream) (h : Int) (hfd : 0 ≤ s.fd) (hw : s.writable = true) :
    (¬(s.isPipe = true ∧ s.ipc = true) → write2Check s (some h) = some EINVAL) ∧
    (s.isPipe = true → s.ipc = true → h < 0 → write2Check s (some h) = some EBADF) ∧
    (s.connecting = false → s.wqSize = 0 →
      (¬(s.isPipe = true ∧ s.ipc = true) → tryWrite2Check s (some h) = some EINVAL) ∧
      (s.isPipe = true → s.ipc = true → h < 0 → tryWrite2Check s (some h) = some EBADF)) := by
  have hw2 : (¬(s.isPipe = true ∧ s.ipc = true) → write2Check s (some h) = some EINVAL) ∧
      (s.isPipe = true → s.ipc = true → h < 0 → write2Check s (some h) = some EBADF) := by
    rw [write2Check, checkBeforeWrite_open hfd hw]
    exact ⟨fun hn => by rw [if_neg hn]; rfl, fun hp hi hh => by rw [if_pos (And.intro hp hi), if_pos hh]; rfl⟩
  exact ⟨hw2.1, hw2.2, fun hc hq => tryWrite2Check_idle hc hq _ ▸ hw2⟩

/-- in every state of the stream a handle that must not be sent is answered with *some* error by
both functions (never passed on to sendmsg) -/
theorem send_handle_never_sent (s : WStream) (h : Int)
    (hbad : ¬(s.isPipe = true ∧ s.ipc = true) ∨ h < 0) :
    (∃ e, e < 0 ∧ write2Check s (some h) = some e) ∧ (∃ e, e < 0 ∧ tryWrite2Check s (some h) = some e) := by
  have hneg := checkBeforeWrite_neg s hbad
  refine ⟨⟨_, hneg, if_pos hneg⟩, ?_⟩
  unfold tryWrite2Check
  split
  · exact ⟨EAGAIN, by decide, rfl⟩
  · exact ⟨_, hneg, if_pos hneg⟩

example : write2Check ⟨5, true, true, false, false, 0⟩ (some 7) = some EINVAL ∧
          tryWrite2Check ⟨5, true, true, false, false, 0⟩ (some 7) = some EINVAL ∧
          tryWrite2Check ⟨5, true, true, true, false, 0⟩ (some (-1)) = some EBADF ∧
          tryWrite2Check ⟨5, true, true, true, false, 0⟩ (some 7) = none := by decide +kernel

end UvModel.Accept
