import UvModel.Lemmas.FsPollLemmas
import UvModel.Lemmas.FsEventLemmas
/-!
  C17 — property theorems.  fs_poll half over `UvModel.FsPoll` (model of src/fs-poll.c), fs_event half
  over `UvModel.FsEvent` (model of the inotify part of src/unix/linux.c).

  Every theorem quantifies over all callback scripts `sc`, all input sequences `ins` (API calls,
  stat completions with arbitrary results, timer expiries, close callbacks, clock advances — in any
  order; inputs that libuv did not ask for are rejected by the model and change nothing).
-/
namespace UvModel.Props.C17
open UvModel.FsPoll

/-- **poll_chain.**  For every context `c` of every reachable state, the user callbacks made by `c`
    are exactly `specCbs` of the results `c` saw while it was the handle's live context: a callback at
    a result iff it differs (status, or `statbufEq` on the metadata) from the immediately preceding one
    — the very first result is reported only when it is an error, so the first successful result is
    never reported and an error is reported once per distinct error — with arguments
    (status, metadata of the latest earlier success or zeroes, metadata of this result or zeroes). -/
theorem poll_chain (sc : Script) (ins : List In) (c : Nat) (hc : c < (run sc {} ins).nctx) :
    cbsOf c (run sc {} ins).trace = specCbs (histOf c (run sc {} ins).trace) :=
  (((run_good sc inv_init ins).pcat c (pcat_init c)).1 hc).1

/-- **poll_chain (chaining).**  In the prescribed callback sequence, the `prev` of every callback is the
    `curr` of the latest earlier callback with status 0 (if there is one): consecutive successful
    callbacks chain, and an error callback in between does not break the chain. -/
theorem poll_chain_links (older : List Res) (r : Res) (cb : CbRec)
    (h : newestOkCb (specCbs older) = some cb) :
    (CbRec.mk r.status (lastOk older) r.curr).prev = cb.curr :=
  (lastOk_of_newestOkCb older cb h).symm

/-- `statbufEq` is equality on the compared fields, so "differ" means a compared field changed. -/
theorem statbufEq_spec (a b : Stat) : statbufEq a b = true ↔ a = b := statbufEq_iff a b

/-- the first successful result is never reported; a repeated identical error is not reported again;
    a different error, a recovery and a metadata change are. -/
theorem reported_cases (st st' : Stat) (e f : Nat) (t : List Res) :
    reported [] (.ok st) = false ∧ reported [] (.err e) = true ∧
    reported (.err e :: t) (.err e) = false ∧ (e ≠ f → reported (.err e :: t) (.err f) = true) ∧
    reported (.err e :: t) (.ok st) = true ∧ reported (.ok st :: t) (.err e) = true ∧
    reported (.ok st :: t) (.ok st) = false ∧ (st ≠ st' → reported (.ok st :: t) (.ok st') = true) := by
  refine ⟨rfl, rfl, by simp [reported, differ], fun h => by simp [reported, differ, h], rfl, rfl, ?_, ?_⟩
  · simp [reported, differ, (statbufEq_iff st st).2 rfl]
  · intro h
    have : statbufEq st st' = false := by
      cases hb : statbufEq st st' with
      | false => rfl
      | true => exact absurd ((statbufEq_iff _ _).1 hb) h
    simp [reported, differ, this]

/-- **old_ctx_dead_after_restart.**  Once a context is not the live one of
    its handle (the handle was stopped, is closing, or was restarted so that another context is
    `poll_ctx`), it never becomes live again, and from then on — whatever happens, including its
    in-flight stat completing with any result — it makes no callback, submits no stat request and
    arms no timer: its old path and callback are never used again. -/
theorem old_ctx_dead_after_restart (sc : Script) (ins1 ins2 : List In) (c : Nat)
    (hc : c < (run sc {} ins1).nctx) (hd : liveB (run sc {} ins1) c = false) :
    let s1 := run sc {} ins1
    let s2 := run sc s1 ins2
    liveB s2 c = false ∧ cbsOf c s2.trace = cbsOf c s1.trace ∧
    statsOf c s2.trace = statsOf c s1.trace ∧ armsOf c s2.trace = armsOf c s1.trace :=
  ((run_good sc (inv_run sc inv_init ins1) ins2).dead c hc hd).2

/-- uv_fs_poll_stop makes every context of the handle dead (so the theorem above applies to it) -/
theorem stop_makes_dead (sc : Script) (ins : List In) (h c : Nat)
    (hh : ((run sc {} ins).ctxs c).handle = h) (hnc : ((run sc {} ins).hs h).closed = false) :
    liveB (step sc (run sc {} ins) (.op (.stop h))) c = false := by
  have hi : Inv (run sc {} ins) := inv_run sc inv_init ins
  generalize run sc {} ins = s at *
  have hi' := inv_emit hi (.api (.stop h))
  have hnc' : ((s.emit (.api (.stop h))).hs h).closed = false := hnc
  have hh' : ((s.emit (.api (.stop h))).ctxs c).handle = h := hh
  simp only [step, applyOp, apiStop, hnc', Bool.false_eq_true, if_false]
  show liveB (stopCore (s.emit (.api (.stop h))) h) c = false
  rw [liveB, (stopCore_ok hi' h).2.2.2 c, hh', (stopCore_ok hi' h).2.2.1]; rfl

/-- a restart (start on an inactive handle) leaves every older context of that handle dead -/
theorem restart_makes_dead (sc : Script) (ins : List In) (h cb p iv c : Nat)
    (hc : c < (run sc {} ins).nctx) (hina : ((run sc {} ins).hs h).active = false)
    (hh : ((run sc {} ins).ctxs c).handle = h) :
    liveB (step sc (run sc {} ins) (.op (.start h cb p iv))) c = false := by
  generalize run sc {} ins = s at *
  have hne : c ≠ s.nctx := Nat.ne_of_lt hc
  simp only [step, applyOp, apiStart, S.emit, hina, Bool.false_eq_true, if_false]
  by_cases hcl : (s.hs h).closing = true
  · simp [hcl, liveB, hh, hina]
  · simp [hcl, liveB, upd_apply, hne, hh, Ne.symm hne]

/-- **close_waits_for_stat.**  In every reachable state the ownership discipline was never violated
    (`err = false`: no context or handle touched after it was freed, no failed assert), and
    `uv__make_close_pending` has been called for a handle only when every context it ever had has been
    freed by its own `timer_close_cb` — so the user's close_cb (which may free the handle) cannot run
    while a stat is in flight or a timer close is outstanding. -/
theorem close_waits_for_stat (sc : Script) (ins : List In) :
    let s := run sc {} ins
    s.err = false ∧
    ∀ h c, (s.hs h).closePending = true → c < s.nctx → (s.ctxs c).handle = h →
      (s.ctxs c).freed = true ∧ (s.ctxs c).statInFlight = false ∧
      (s.ctxs c).timerActive = false ∧ (s.ctxs c).timerClosing = false := by
  intro s
  have hi : Inv s := inv_run sc inv_init ins
  refine ⟨hi.noErr, fun h c hp hc hh => ?_⟩
  have hch := (hi.closeP h hp).1
  have hfr : (s.ctxs c).freed = true := by
    cases hf : (s.ctxs c).freed with
    | true => rfl
    | false =>
      have := hi.inChain c hc hf
      rw [hh, hch] at this; cases this
  exact ⟨hfr, hi.phaseFreed c hc hfr⟩

/-- the close_cb is delivered only after `uv__make_close_pending`: otherwise the event is rejected -/
theorem closeCb_needs_pending (s : S) (h : Nat) (hp : (s.hs h).closePending = false) :
    closeCb s h = s.emit .badEvent := by
  simp [closeCb, hp]

/-- **never_blocks_loop_close.**  A context that is not live and not yet freed always has exactly the
    pending event that retires it: its timer is not armed (nothing to wait for), and delivering its
    in-flight stat result (any result; no callback is made) and then its timer close callback frees it. -/
theorem never_blocks_loop_close (sc : Script) (ins : List In) (c : Nat) (r : Res)
    (hc : c < (run sc {} ins).nctx) (hd : liveB (run sc {} ins) c = false)
    (hf : ((run sc {} ins).ctxs c).freed = false) :
    let s := run sc {} ins
    (s.ctxs c).timerActive = false ∧
    ((run sc s ((if (s.ctxs c).statInFlight then [In.statDone c r] else []) ++ [In.timerClosed c])).ctxs c).freed = true := by
  intro s
  have hi : Inv s := inv_run sc inv_init ins
  have hp := dead_pending hi hc hd hf
  refine ⟨hp.1, ?_⟩
  by_cases hst : (s.ctxs c).statInFlight = true
  · have h1 := retire_stat sc hi hc hd hst r
    have hi1 := (statDone_good sc hi c r).inv
    have hc1 : c < (statDone sc s c r).nctx := Nat.lt_of_lt_of_le hc ((statDone_good sc hi c r).dead c hc hd).1
    simp only [hst, if_true, List.singleton_append, run, List.foldl, step]
    exact retire_close hi1 hc1 h1
  · simp only [hst, Bool.false_eq_true, if_false, List.nil_append, run, List.foldl, step]
    exact retire_close hi hc (hp.2.resolve_left hst)

/-- ... and once every context of a closing handle has retired, `uv__make_close_pending` has been
    called, i.e. the handle's close_cb is due and the handle no longer keeps the loop open. -/
theorem close_pending_when_retired (sc : Script) (ins : List In) (h : Nat)
    (hcl : ((run sc {} ins).hs h).closing = true)
    (hall : ∀ c, c < (run sc {} ins).nctx → ((run sc {} ins).ctxs c).handle = h →
      ((run sc {} ins).ctxs c).freed = true) :
    ((run sc {} ins).hs h).closePending = true := by
  have hi : Inv (run sc {} ins) := inv_run sc inv_init ins
  apply hi.closeQ h hcl
  cases hch : ((run sc {} ins).hs h).chain with
  | nil => rfl
  | cons c tl =>
    have hw := hi.chainWf h c (by simp [hch])
    have := hall c hw.1 hw.2.1
    rw [hw.2.2] at this; cases this

/-- a run that meets the hypotheses above: start, stop + restart on another path/callback while the first stat is in flight,
    then both stats complete with different results, the new context's timer fires, a changed result -/
def demoScript : Script := fun _ => []
def stA : Stat := { size := 1, mtimS := 10 }
def stB : Stat := { size := 2, mtimS := 11 }
def demoIns : List In :=
  [.op (.start 0 0 1 100), .op (.stop 0), .op (.start 0 1 2 50),
   .statDone 0 (.ok stA), .statDone 1 (.ok stA), .advance 50, .timerFire 1, .statDone 1 (.ok stB),
   .advance 50, .timerFire 1, .statDone 1 (.err 1), .timerClosed 0]

example : (run demoScript {} demoIns).nctx = 2 := by decide +kernel
example : liveB (run demoScript {} (demoIns.take 3)) 0 = false := by decide +kernel
example : liveB (run demoScript {} demoIns) 1 = true := by decide +kernel
example : cbsOf 1 (run demoScript {} demoIns).trace =
    [⟨-2, stB, Stat.zero⟩, ⟨0, stA, stB⟩] := by decide +kernel
example : cbsOf 0 (run demoScript {} demoIns).trace = [] := by decide +kernel
example : ((run demoScript {} demoIns).ctxs 0).freed = true := by decide +kernel
example : ((run demoScript {} (demoIns ++ [.op (.close 0)])).hs 0).closePending = false := by decide +kernel
example : ((run demoScript {} (demoIns ++ [.op (.close 0), .timerClosed 1])).hs 0).closePending = true := by decide +kernel

end UvModel.Props.C17

namespace UvModel.Props.C17.Event
open UvModel.FsEvent

/-- **event_reaches_all_watchers.**  In any reachable state (outside `uv__inotify_read`), dispatching an
    inotify record whose wd has the watcher list `w` calls, in list order, exactly the handles
    `specDeliver … w.watchers`: the head of the detached list, then — after removing whatever that
    callback stopped or closed — the rest; every call carries the record's name (or the basename of the
    list's path when the record has none) and `eventsOf mask` (UV_CHANGE iff IN_ATTRIB|IN_MODIFY bits,
    UV_RENAME iff any other bit).  Handles started on the same wd *during* this dispatch are appended to
    the list but not to the detached queue: they are not called for the current record. -/
theorem event_reaches_all_watchers (sc : Script) (ins : List In) (r : Rec) (w : WL)
    (hw : (run sc {} ins).lists r.wd = some w) :
    cbsOf (dispatchRec sc (run sc {} ins) r).trace =
      ((specDeliver sc w.watchers.length (run sc {} ins).ncb w.watchers).map
        (fun h => (h, r.name.getD w.path, eventsOf r.mask))).reverse ++ cbsOf (run sc {} ins).trace :=
  (dispatchRec_spec sc (inv_run sc inv_init idle_init ins).1 (inv_run sc inv_init idle_init ins).2 r).2.2 w hw

/-- a record for a wd without a list (stale event) calls nobody -/
theorem stale_record_ignored (sc : Script) (s : S) (r : Rec) (hw : s.lists r.wd = none) :
    dispatchRec sc s r = s := by
  simp [dispatchRec, find, hw]

/-- delivered only to handles that were in the list at dispatch start, in list order, and (the list having no
    duplicates) each at most once -/
theorem delivered_at_most_once_in_order (sc : Script) (f k : Nat) (q : List Nat) :
    (specDeliver sc f k q).Sublist q := specDeliver_sublist sc f k q

/-- **none lost for the others**: a handle of the list that is not called was stopped or closed by one of
    the callbacks that ran for this very record (before its turn) -/
theorem skipped_only_if_stopped (sc : Script) (k : Nat) (q : List Nat) (h : Nat)
    (hm : h ∈ q) (hn : h ∉ specDeliver sc q.length k q) :
    ∃ j, j < (specDeliver sc q.length k q).length ∧ ∃ o ∈ sc (k + j), stopTarget o = some h :=
  specDeliver_skipped sc q.length k q h (Nat.le_refl _) hm hn

/-- **no event to the stopped handle**: after the j-th callback of this record stopped or closed `h`,
    `h` is not called again for this record (not even if it is restarted on the same path meanwhile) -/
theorem no_event_after_stop (sc : Script) (f k : Nat) (q : List Nat) (hnd : q.Nodup) (j : Nat) (o : Op) (h : Nat)
    (ho : o ∈ sc (k + j)) (hs : stopTarget o = some h) (hj : j < (specDeliver sc f k q).length) :
    h ∉ (specDeliver sc f k q).drop (j + 1) :=
  specDeliver_no_later sc f k q hnd j o h ho hs hj

/-- **stop_in_callback_safe.**  In every reachable state: the ownership discipline was never violated
    (`err = false`: no watcher list accessed after it was freed, on any path, with any callback script);
    nothing is left detached or marked iterating; a watcher list exists exactly for the wds that have an
    active handle — it was freed exactly when it became empty and was not being iterated; its members are
    exactly the active handles watching that wd, each once.  In particular a stopped or closed handle is
    in no list, so no later record can reach it. -/
theorem stop_in_callback_safe (sc : Script) (ins : List In) :
    let s := run sc {} ins
    s.err = false ∧ s.queue = [] ∧
    (∀ wd w, s.lists wd = some w → w.iterating = false ∧ w.watchers ≠ [] ∧ w.watchers.Nodup ∧
        ∀ h ∈ w.watchers, (s.hs h).active = true ∧ (s.hs h).wd = wd) ∧
    (∀ h, (s.hs h).active = true → ∃ w, s.lists (s.hs h).wd = some w ∧ h ∈ w.watchers) := by
  intro s
  obtain ⟨hi, hd⟩ := inv_run sc inv_init idle_init ins
  refine ⟨hi.noErr, hd.q, fun wd w hw => ?_, fun h ha => ?_⟩
  · exact ⟨hd.noIt wd w hw, hi.nonempty wd w hw (hd.noIt wd w hw), hi.ndW wd w hw, fun h hm => hi.memW wd w h hw hm⟩
  · cases hl : s.lists (s.hs h).wd with
    | none => exact absurd hl (hi.actSome h ha)
    | some w =>
      refine ⟨w, rfl, ?_⟩
      rcases hi.act h w ha hl with hm | hm
      · exact hm
      · rw [hd.q] at hm; cases hm

/-- the same holds in the middle of a dispatch, where it matters: while the callbacks of a record run,
    the iterated list is never freed and the model never reaches an error state -/
theorem no_use_after_free_during_dispatch (sc : Script) (ins : List In) (rs : List Rec) :
    (dispatch sc (run sc {} ins) rs).err = false :=
  (inv_dispatch sc (inv_run sc inv_init idle_init ins).1 (inv_run sc inv_init idle_init ins).2 rs).1.noErr

/-- three handles on wd 5; the first callback stops itself and h1, and restarts h0 on the same wd -/
def demoSc : Script := fun k => if k = 0 then [.stop 0, .stop 1, .start 0 2 5 0] else []
def demoIns : List In := [.op (.start 0 0 5 0), .op (.start 1 1 5 1), .op (.start 2 2 5 0), .op (.start 3 3 7 0)]

example : ((run demoSc {} demoIns).lists 5).map (·.watchers) = some [0, 1, 2] := by decide +kernel
example : specDeliver demoSc 3 0 [0, 1, 2] = [0, 2] := by decide +kernel
example : cbsOf (dispatchRec demoSc (run demoSc {} demoIns) ⟨5, 2, none⟩).trace =
    [(2, "w5_0", 2), (0, "w5_0", 2)] := by decide +kernel
example : ((dispatchRec demoSc (run demoSc {} demoIns) ⟨5, 2, none⟩).lists 5).map (·.watchers) = some [0, 2] := by decide +kernel
example : eventsOf 2 = UV_CHANGE ∧ eventsOf 4 = UV_CHANGE ∧ eventsOf 0x100 = UV_RENAME ∧
    eventsOf 0x40000002 = UV_CHANGE ||| UV_RENAME ∧ eventsOf 0x8000 = UV_RENAME := by decide +kernel
/-- the list is freed (and only then) when its last handle stops -/
example : ((run demoSc {} (demoIns ++ [.op (.stop 3)])).lists 7).isNone = true := by decide +kernel
example : ((run demoSc {} demoIns).lists 7).isSome = true := by decide +kernel

end UvModel.Props.C17.Event
