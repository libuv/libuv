import UvModel.Lemmas.LoopTrace
import UvModel.Lemmas.LoopCountInv
import UvModel.Lemmas.LoopCloseReqs
import UvModel.Lemmas.LoopReqOnce
/-!
  C02 — close protocol, over the LoopModel.  `tr s = (s.trace, s.ncbTotal)`: the event trace
  (callbacks, polls, op results) and the number of callbacks run so far.
-/
namespace UvModel.Props.C02
open UvModel.HandleKernels UvModel.Loop

theorem no_op_is_reentrant (s : State) (o : Op) :
    (applyOp s o).1.trace = s.trace ∧ (applyOp s o).1.ncbTotal = s.ncbTotal := by
  have := tr_applyOp s o
  simp only [tr, Prod.mk.injEq] at this
  exact this

/-- `close_not_reentrant`: `uv_close` — for every handle kind, in every state, from main or from inside
    any callback — emits no trace event and runs no callback (in fact no API call of the model does). -/
theorem close_not_reentrant (s : State) (id : Nat) :
    (applyOp s (.close id)).1.trace = s.trace ∧ (applyOp s (.close id)).1.ncbTotal = s.ncbTotal :=
  no_op_is_reentrant s (.close id)

/-- closing an active, referenced idle handle: queued for the closing phase, flags CLOSING ∧ ¬ACTIVE,
    counter back to 0, nothing emitted -/
example : let s0 := ([Op.init .idle, .start 2 0 0].foldl stepOp (initLoop 0 false []))
    let s := (applyOp s0 (.close 2)).1
    s.closing = [2] ∧ s.c.get 2 = some ⟨false, true, true, false, false⟩ ∧ s.c.ah = 0 ∧ s0.c.ah = 1 ∧
    s.trace.length = s0.trace.length := by decide +kernel

/-- `close_cb_exactly_once` (per delivery step): `uv__finish_close` of a present handle without attached requests (not udp / stream) is exactly
    *one* close callback for that handle, invoked on a state from which the handle's record has already been
    deleted (flags list and data list), after CLOSED was set and the REF flag cleared. -/
theorem finishClose_delivers_once (sc : Script) (id : Nat) (s : State) (h : Handle) (f : HFlags)
    (hg : getH s id = some h) (hk : (h.kind == .udp) = false) (hk2 : (h.kind == .pipe || h.kind == .tcp) = false)
    (hf : getF s id = some f) (hh : s.halted = false) :
    closeCbs id (finishClose sc id s).trace = closeCbs id s.trace + 1 ∧
    ∃ f', finishClose sc id s =
      runCb sc .closing .close (.c id) id (flagBits f') 0 0
        { s with c := ((s.c.apply id setClosed).apply id handleUnref).remove id,
                 handles := s.handles.filter (·.id != id) } := by
  obtain ⟨g, hg'⟩ : ∃ g, getF (withKernel (withKernel s id setClosed) id handleUnref) id = some g :=
    ⟨_, getF_withKernel_same (getF_withKernel_same hf)⟩
  rw [finishClose_some hg]
  simp only [finishReqs, hk, hk2, Bool.false_eq_true, if_false, hg']
  refine ⟨?_, g, rfl⟩
  rw [runCb_closeCbs]
  · simp; rfl
  · exact hh

/-- a handle whose record is gone gets nothing from `uv__finish_close` (no event, no state change):
    a second delivery is impossible -/
theorem finishClose_absent (sc : Script) (id : Nat) (s : State) (hg : getH s id = none) :
    finishClose sc id s = s := by
  unfold finishClose; simp [hg]

/-- the closing phase detaches the list first and walks the detached chain (so handles closed from inside a close
    callback go to the fresh `closing` list) -/
theorem runClosing_detaches (sc : Script) (s : State) :
    runClosing sc s = runClosingLoop sc (s.closing.length + 1) { s with closingLocal := s.closing, closing := [] } := rfl

/-- with only the accounting invariant `SInv` as hypothesis -/
def close_cb_exactly_once_statement : Prop :=
  ∀ (sc : Script) (s : State) (id : Nat), SInv s → id ∈ s.closing → s.halted = false →
    closeCbs id (runClosing sc s).trace = closeCbs id s.trace + 1

/-- … is false of the model for states no program can reach: `SInv` does not say that a queued id has a record -/
theorem close_cb_exactly_once_statement_false : ¬ close_cb_exactly_once_statement := by
  intro h
  have := h (fun _ _ _ => []) { closing := [5] } 5 ⟨⟨rfl, by intro e he; cases he⟩, by intro e he; cases he⟩
    (by simp) rfl
  revert this; decide +kernel

/-- `close_cb_exactly_once`: in every state satisfying the close bookkeeping invariant `CloseWF` (closing lists
    duplicate-free, members are live records with UV_HANDLE_CLOSING — it holds in every reachable state, see
    `closeWF_reachable`), the closing phase delivers exactly one close callback to every handle queued in
    `closing_handles`, none to any other handle, whatever the callbacks do (close further handles, …) — and the
    invariant holds again afterwards. -/
theorem close_cb_exactly_once (sc : Script) (s : State) (id : Nat) (hw : CloseWF s) (hh : s.halted = false) :
    closeCbs id (runClosing sc s).trace = closeCbs id s.trace + (if id ∈ s.closing then 1 else 0) ∧
    CloseWF (runClosing sc s) :=
  runClosing_spec sc id s hw hh

/-- the invariant holds after every program, for every script and poller behaviour -/
theorem closeWF_reachable (sc : Script) (fuel clock0 : Nat) (metrics : Bool) (oracle : List PollRes) (prog : List MainOp) :
    CloseWF (runMain sc fuel (initLoop clock0 metrics oracle) prog) :=
  closeWF_runMain sc fuel prog _ (closeWF_initLoop clock0 metrics oracle)

/-- … and inside callbacks: after every API call and callback -/
theorem closeWF_in_callbacks (s : State) (hw : CloseWF s) :
    (∀ o, CloseWF (stepOp s o)) ∧ (∀ sc ph k key id a b occ, CloseWF (runCb sc ph k key id a b occ s)) :=
  ⟨fun o => (WFStep.stepOp s o).1 _ hw, fun sc ph k key id a b occ => (WFStep.runCb sc ph k key id a b occ s).1 _ hw⟩

/-- a handle enters `closing_handles` once: a legal `uv_close` pushes a handle that was not queued, and a
    second `uv_close` of the same handle is refused (libuv asserts `!uv__is_closing(handle)`) -/
theorem close_enqueues_once (s : State) (id : Nat) (h : Handle) (f : HFlags) (hw : CloseWF s) (hc : s.closed = false)
    (hg : getHF s id = some (h, f)) (hi : f.internal = false) (hcl : hClosing f = false) :
    (applyOp s (.close id)).1.closing = id :: s.closing ∧ id ∉ s.closingLocal ++ s.closing ∧
    (applyOp (applyOp s (.close id)).1 (.close id)).2 = none := by
  have hnot : id ∉ s.closingLocal ++ s.closing := by
    intro hm
    obtain ⟨_, g, hg', hgc⟩ := hw.2 id (by simpa [clList] using hm)
    rw [getHF_getF hg] at hg'; cases hg'
    simp [hClosing, isClosing, toHK, hgc] at hcl
  have h1 : (applyOp s (.close id)).1 = closeH s h.kind id := by
    unfold applyOp
    simp only [hc, hg, hi, hcl, Bool.false_eq_true, if_false, Bool.or_self, ok]
  have hw' : CloseWF (applyOp s (.close id)).1 := ((applyOp_step s (.close id)).opRes_closure (R := WFStep) WFStep.trans WFStep.of_opRes).1 _ hw
  rw [h1] at hw' ⊢
  exact ⟨closeH_closing s h.kind id, hnot, applyOp_close_queued hw' (by simp [clList, closeH_closing])⟩

/-- a queued close, further closes from inside the close callbacks: every handle exactly one close callback,
    the second batch in the next closing phase -/
example :
    let s0 := ([Op.init .idle, .init .timer, .init .udp, .close 2, .close 4].foldl stepOp (initLoop 0 false []))
    let sc : Script := fun key _ _ => if key = .c 4 then [.close 3, .close 4] else []
    let s1 := runClosing sc s0
    let s2 := runClosing sc s1
    s0.closing = [4, 2] ∧ s1.closing = [3] ∧ (closeCbs 2 s1.trace, closeCbs 3 s1.trace, closeCbs 4 s1.trace) = (1, 0, 1) ∧
    (closeCbs 2 s2.trace, closeCbs 3 s2.trace, closeCbs 4 s2.trace) = (1, 1, 1) ∧ s2.closing = [] := by decide +kernel

/-- with no invariant among the hypotheses -/
def reqs_before_close_cb_statement : Prop :=
  ∀ (sc : Script) (s : State) (id r : Nat), id ∈ s.closing → ({ id := r, kind := .udpSend id } : Req) ∈ s.reqs →
    ∃ pre post a b st, (runClosing sc s).trace = post ++ [Event.cb .closing .close id a b] ++ pre ∧
      Event.cb .closing .udpSend r st 0 ∈ pre

/-- … is false of the model for ill-formed states (a queued id without record: nothing is delivered at all) -/
theorem reqs_before_close_cb_statement_false : ¬ reqs_before_close_cb_statement := by
  intro h
  obtain ⟨pre, post, a, b, st, h1, _⟩ :=
    h (fun _ _ _ => []) { closing := [5], reqs := [⟨0, .udpSend 5⟩] } 5 0 (by simp) (by simp)
  have h0 : (runClosing (fun _ _ _ => []) ({ closing := [5], reqs := [⟨0, .udpSend 5⟩] } : State)).trace = [] := rfl
  rw [h0] at h1
  simp at h1

/-- `reqs_before_close_cb`: in every state satisfying `CloseWF` (every reachable state), for a handle `id` queued in
    `closing_handles` whose record is `h`, the trace of the closing phase is `post ++ mid ++ pre ++ old` where the
    callback events of the contiguous segment `mid` are, oldest first, exactly
    `attachedReqs h ++ [close_cb id]`: one callback per request attached to the record *at the start of the phase*
    (udp: completed sends with their own status, then still-queued sends with UV_ECANCELED = -125; stream: the
    pending connect with UV_ECANCELED), each before the close callback, nothing else in between — for every
    script: neither the closing of other handles in the same phase nor anything their callbacks do can touch the
    queues of a handle that carries UV_HANDLE_CLOSING (`closing_handle_frozen`). -/
theorem reqs_before_close_cb (sc : Script) (s : State) (id : Nat) (h : Handle) (hw : CloseWF s) (hh : s.halted = false)
    (hid : id ∈ s.closing) (hg : getH s id = some h) :
    ∃ pre mid post fb, (runClosing sc s).trace = post ++ mid ++ pre ++ s.trace ∧
      cbsOf mid = attachedReqs h ++ [(CbKind.close, id, fb)] :=
  runClosing_reqs sc id s h hw hh hid hg

/-- the same for one `uv__finish_close`: its whole contribution to the trace is the attached requests' callbacks
    followed by the close callback -/
theorem reqs_before_close_cb_step (sc : Script) (s : State) (id : Nat) (rest : List Nat) (h : Handle) (hw : CloseWF s)
    (hl : s.closingLocal = id :: rest) (hh : s.halted = false) (hg : getH s id = some h) :
    ∃ new fb, (finishClose sc id { s with closingLocal := rest }).trace = new ++ s.trace ∧
      cbsOf new = attachedReqs h ++ [(CbKind.close, id, fb)] := by
  obtain ⟨fb, new, e, c⟩ := finishClose_reqs sc id _ h (hw.pop hl) hh hg
  exact ⟨new, fb, e, c⟩

/-- no API call and no callback changes the kind, `write_queue`, `write_completed_queue` or `connect_req` of a
    handle that carries UV_HANDLE_CLOSING (`uv_udp_send`, `uv_pipe_connect`, … on it are refused), nor
    removes its record or clears the flag -/
theorem closing_handle_frozen (s : State) (id : Nat) (f : HFlags) (hm : (getH s id).isSome) (hf : getF s id = some f)
    (hc : f.closing = true) :
    (∀ o, hq (stepOp s o) id = hq s id ∧ (getH (stepOp s o) id).isSome) ∧
    (∀ sc ph k key i a b occ, hq (runCb sc ph k key i a b occ s) id = hq s id ∧
      (getH (runCb sc ph k key i a b occ s) id).isSome) := by
  have hz : Frz id s := ⟨(getH_isSome_iff s id).mp hm, f, hf, hc⟩
  refine ⟨fun o => ?_, fun sc ph k key i a b occ => ?_⟩
  · obtain ⟨z, q, _⟩ := FrzRel.stepOp id s o hz
    exact ⟨q, (getH_isSome_iff _ id).mpr z.1⟩
  · obtain ⟨z, q, _⟩ := FrzRel.runCb id sc ph k key i a b occ s hz
    exact ⟨q, (getH_isSome_iff _ id).mpr z.1⟩

/-- a udp handle with one transmitted and one queued send, closed together with an idle handle whose close callback
    tries to send on the udp handle (illegal: ignored) — the segment is as predicted from the record at phase start -/
example :
    let s0 := ([Op.init .udp, .init .idle, .udpSend 2, .udpSend 2, .close 2, .close 3].foldl stepOp (initLoop 0 false []))
    let sc : Script := fun key _ _ => if key = .c 3 then [.udpSend 2, .close 2] else []
    s0.closing = [3, 2] ∧ (getH s0 2).map attachedReqs = some [(CbKind.udpSend, 0, 0), (CbKind.udpSend, 1, -125)] ∧
    cbsOf ((runClosing sc s0).trace.take ((runClosing sc s0).trace.length - s0.trace.length)) =
      [(CbKind.close, 3, 4), (CbKind.udpSend, 0, 0), (CbKind.udpSend, 1, -125), (CbKind.close, 2, 4)] := by decide +kernel

/-- the statement "no event carries the id of a handle whose flags record is gone" -/
def silence_after_close_cb_statement : Prop :=
  ∀ (sc : Script) (fuel : Nat) (s : State) (prog : List MainOp) (id : Nat), SInv s → getF s id = none → id < s.nextId →
    ∀ e ∈ ((runMain sc fuel s prog).trace.take ((runMain sc fuel s prog).trace.length - s.trace.length)),
      ∀ ph k a b, e ≠ Event.cb ph k id a b

/-- … is false of the model (and meaningless for the code): request callbacks carry *request* ids, which live in
    another namespace than handle ids.  Reachable witness: handle 2 is closed and its close callback delivered; then
    three `uv_queue_work` requests 0, 1, 2 complete: the event `cb poll work 2` mentions the number 2. -/
theorem silence_after_close_cb_statement_false : ¬ silence_after_close_cb_statement := by
  intro h
  let sc : Script := fun _ _ _ => []
  let orc : List PollRes := [{ clock := 0 }, { clock := 0, done := 3, batch := [(Owner.async, 1)] }]
  let s1 : State := runMain sc 5 (initLoop 0 false orc) [.op (.init .idle), .op (.close 2), .run .nowait]
  let prog2 : List MainOp := [.op (.work .queueWork), .op (.work .queueWork), .op (.work .queueWork), .run .nowait]
  have hs : SInv s1 := runMain_inv _ _ _ _ (initLoop_inv _ _ _)
  have h2 := h sc 5 s1 prog2 2 hs (by decide +kernel) (by decide +kernel)
  have hall : (((runMain sc 5 s1 prog2).trace.take ((runMain sc 5 s1 prog2).trace.length - s1.trace.length)).all
      (fun e => match e with | .cb _ _ i _ _ => i != 2 | _ => true)) = true := by
    rw [List.all_eq_true]
    intro e he
    cases e with
    | cb ph k i a b =>
      by_cases hi : i = 2
      · subst hi; exact absurd rfl (h2 _ he ph k a b)
      · simp [hi]
    | _ => rfl
  revert hall
  decide +kernel

/-- `silence_after_close_cb`: once the record of handle `id` has been unlinked — which `uv__finish_close` does
    right before the close callback (`gone_after_close_cb`) — no program, script or poller behaviour makes the loop
    emit a *handle* callback (timer, idle, prepare, check, async, poll, close) for `id` again: every callback site
    looks the record up (`Option`), the lookup fails closed, and ids are never reused.  (Events of kind
    work / udpSend / connect carry request ids.) -/
theorem silence_after_close_cb (sc : Script) (fuel : Nat) (s : State) (prog : List MainOp) (id : Nat)
    (hg : getH s id = none) (hn : id < s.nextId) :
    ∀ e ∈ ((runMain sc fuel s prog).trace.take ((runMain sc fuel s prog).trace.length - s.trace.length)),
      ∀ ph k a b, e = Event.cb ph k id a b → k = .work ∨ k = .udpSend ∨ k = .connect := by
  obtain ⟨_, new, he, hp⟩ := SilRel.runMain id sc fuel prog s ⟨(getH_none_iff s id).mp hg, hn⟩
  rw [he, List.take_left' (by simp)]
  exact hp

/-- … and the record stays deleted: no later step of any program re-creates a record with that id -/
theorem gone_forever (sc : Script) (fuel : Nat) (s : State) (prog : List MainOp) (id : Nat)
    (hg : getH s id = none) (hn : id < s.nextId) : getH (runMain sc fuel s prog) id = none :=
  (getH_none_iff _ id).mpr (SilRel.runMain id sc fuel prog s ⟨(getH_none_iff s id).mp hg, hn⟩).1.1

/-- `uv__finish_close` of a queued handle (any kind, with or without attached requests) ends with the record
    deleted; the close callback itself — whatever it does — cannot bring it back -/
theorem gone_after_close_cb (sc : Script) (s : State) (id : Nat) (rest : List Nat) (hw : CloseWF s)
    (hl : s.closingLocal = id :: rest) (hn : id < s.nextId) :
    getH (finishClose sc id { s with closingLocal := rest }) id = none ∧
    id < (finishClose sc id { s with closingLocal := rest }).nextId := by
  have := finishClose_gone sc id _ (hw.pop hl) hn
  exact ⟨(getH_none_iff _ id).mpr this.1, this.2⟩

/-- the witness above read with the corrected statement: after the close callback of handle 2 the only later
    callbacks are the three work completions -/
example :
    let sc : Script := fun _ _ _ => []
    let orc : List PollRes := [{ clock := 0 }, { clock := 0, done := 3, batch := [(Owner.async, 1)] }]
    let s1 : State := runMain sc 5 (initLoop 0 false orc) [.op (.init .idle), .op (.close 2), .run .nowait]
    let s2 := runMain sc 5 s1 [.op (.work .queueWork), .op (.work .queueWork), .op (.work .queueWork), .run .nowait]
    getH s1 2 = none ∧ 2 < s1.nextId ∧
    (s2.trace.reverse.filterMap (fun e => match e with | .cb _ k i _ _ => some (k, i) | _ => none)) =
      [(CbKind.close, 2), (CbKind.work, 0), (CbKind.work, 1), (CbKind.work, 2)] := by decide +kernel

/-- udp: `uv__udp_finish_close` moves the queued sends to the completed queue with UV_ECANCELED (-125), keeping
    the status of those already there, and then reports the completed queue -/
theorem reqs_before_close_cb_partial (sc : Script) (id : Nat) (s : State) :
    udpFinishClose sc .closing id s =
      udpRunCompleted sc .closing id
        (modH s id (fun h => { h with wcq := h.wcq ++ h.wq.map (fun r => (r, (-125 : Int))), wq := [] })) := rfl

/-- a udp handle closed with one send already transmitted (status 0) and one still queued (ECANCELED):
    both callbacks, then the close callback, in that order -/
example :
    let s0 := ([Op.init .udp, .udpSend 2, .udpSend 2, .close 2].foldl stepOp (initLoop 0 false []))
    ((runClosing (fun _ _ _ => []) s0).trace.reverse.filterMap (fun e => match e with
        | .cb _ k i a _ => some (k, i, a) | _ => none)) =
      [(CbKind.udpSend, 0, 0), (CbKind.udpSend, 1, -125), (CbKind.close, 2, 4)] := by decide +kernel

/-- a pipe handle with a deferred connect error, closed before the loop delivered it: the connect callback gets
    UV_ECANCELED (-125) in the closing phase, before the close callback; nothing in the pending phase -/
example :
    let s0 := ([Op.init .pipe, .connectBad 2, .close 2].foldl stepOp (initLoop 0 false []))
    s0.pending = [] ∧
    ((runClosing (fun _ _ _ => []) (runPending (fun _ _ _ => []) .pending s0)).trace.reverse.filterMap (fun e => match e with
        | .cb _ k i a _ => some (k, i, a) | _ => none)) = [(CbKind.connect, 0, -125), (CbKind.close, 2, 4)] := by decide +kernel

/-! ### a request's callback is delivered at most once over the whole trace -/
/-- `req_cb_owed_xor_done`: for every script, poller behaviour and main program, and every request id `r`
    (`Reqs.reqCbs r t` = number of `work` / `udpSend` / `connect` callback events for `r` in the trace; ids come from
    the single counter `nextReq`): callbacks delivered so far + records still owed ≤ 1 — a request that is still
    owed has had no callback, one whose callback ran is no longer owed and never comes back — and no callback
    exists for an id that has not been handed out.  Proof (`Lemmas/LoopReqOnce.lean`): every completion site
    (`uv__udp_run_completed`, `uv__stream_io`, `uv__stream_destroy`, `uv__work_done`) takes `r` out of a queue
    slot, so by the partition invariant of C01 (`Reqs.RInv`) `r` is owed exactly once, hence has had no callback;
    the record is dropped right before the callback event; registration uses the fresh id `nextReq`. -/
theorem req_cb_owed_xor_done (sc : Script) (fuel clock0 : Nat) (metrics : Bool) (oracle : List PollRes) (prog : List MainOp) :
    let s := runMain sc fuel (initLoop clock0 metrics oracle) prog
    ∀ r, Reqs.reqCbs r s.trace + (s.reqs.filter (·.id == r)).length ≤ 1 ∧
      (s.nextReq ≤ r → Reqs.reqCbs r s.trace = 0) := by
  intro s r
  have hj : Reqs.J none s := Reqs.runMain_js sc fuel prog _ (Reqs.initLoop_j clock0 metrics oracle)
  have h1 := hj.2.1 r
  simp only [Reqs.idc, List.countP_eq_length_filter] at h1
  exact ⟨h1, hj.2.2 r⟩

/-- `req_cb_at_most_once`: no request gets its callback twice -/
theorem req_cb_at_most_once (sc : Script) (fuel clock0 : Nat) (metrics : Bool) (oracle : List PollRes) (prog : List MainOp) :
    let s := runMain sc fuel (initLoop clock0 metrics oracle) prog
    ∀ r, Reqs.reqCbs r s.trace ≤ 1 := by
  intro s r
  have : Reqs.reqCbs r s.trace + (s.reqs.filter (·.id == r)).length ≤ 1 :=
    (req_cb_owed_xor_done sc fuel clock0 metrics oracle prog r).1
  omega

/-- the same invariant is preserved by every API call, handle/close callback and loop iteration, wherever issued -/
theorem req_cb_in_callbacks (s : State) (hj : Reqs.J none s) :
    (∀ o, Reqs.J none (stepOp s o)) ∧ (∀ sc mode, Reqs.J none (iteration sc mode s)) ∧
    (∀ sc, Reqs.J none (runClosing sc s)) ∧
    ∀ r, Reqs.reqCbs r s.trace + (s.reqs.filter (·.id == r)).length ≤ 1 := by
  refine ⟨fun o => Reqs.stepOp_js s o hj, fun sc mode => Reqs.iteration_js sc mode s hj,
    fun sc => Reqs.runClosing_js sc s hj, ?_⟩
  intro r
  have h1 := hj.2.1 r
  simpa only [Reqs.idc, List.countP_eq_length_filter] using h1

/-- non-vacuity: two work items and a udp send; after one `uv_run(UV_RUN_NOWAIT)` (both work items finished on
    the pool thread) each request has had exactly one callback, none is owed, and the next id has had none -/
example :
    let s := runMain (fun _ _ _ => []) 5 (initLoop 1000 false [{ clock := 1000, done := 2, batch := [(.async, 1)] }])
      [MainOp.op (.init .udp), MainOp.op (.work .queueWork), MainOp.op (.work .queueWork), MainOp.op (.udpSend 2), MainOp.run .nowait]
    (s.reqs, s.nextReq, Reqs.reqCbs 0 s.trace, Reqs.reqCbs 1 s.trace, Reqs.reqCbs 2 s.trace, Reqs.reqCbs 3 s.trace,
      s.ncbTotal) = ([], 3, 1, 1, 1, 0, 3) := by decide +kernel
/-- … and before the run all three are owed and none has had its callback -/
example :
    let s := runMain (fun _ _ _ => []) 5 (initLoop 1000 false [])
      [MainOp.op (.init .udp), MainOp.op (.work .queueWork), MainOp.op (.work .queueWork), MainOp.op (.udpSend 2)]
    (s.reqs.map (·.id), Reqs.reqCbs 0 s.trace, Reqs.reqCbs 1 s.trace, Reqs.reqCbs 2 s.trace) = ([0, 1, 2], 0, 0, 0) := by decide +kernel

end UvModel.Props.C02
