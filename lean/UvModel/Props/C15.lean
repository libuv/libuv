import UvModel.Lemmas.FdOpsLemmas
/-! C15 property theorems (descriptor hygiene) over the catalogue semantics of `UvModel.FdOps`.
`St.l` carries the proof of the ledger invariant `LInv`, which is why the first five theorems hold from any state `s`. -/
namespace UvModel.Props.C15
open UvModel.FdLedger

/-- an arbitrary program: operations of the catalogue, each with the syscall failures injected into it -/
def runOps (s : St) (prog : List (Inj × Op)) : St := prog.foldl (fun s io => step s io.1 io.2) s

/-- **cloexec_everywhere**: after any operation sequence with any injected failures, every descriptor
    that libuv created and that is still open (in a loop/handle field or handed to the caller) has
    FD_CLOEXEC. -/
theorem cloexec_everywhere (s : St) (prog : List (Inj × Op)) :
    ∀ e ∈ (runOps s prog).l.1.led, e.bylib = true → e.cx = true :=
  (runOps s prog).l.2.cx

/-- … and it had the flag from the moment it was created (atomic creation: no window for a fork) -/
theorem cloexec_at_creation (s : St) (prog : List (Inj × Op)) :
    ∀ e, Ev.create e ∈ (runOps s prog).l.1.evs → e.cx = true ∧ e.bylib = true :=
  fun e he => (runOps s prog).l.2.ev _ he

/-- **no_foreign_close**: every close(2) libuv performed was on a descriptor owned by libuv at that
    moment (loop field, handle field — including descriptors whose ownership was transferred with
    uv_*_open — or a local of the running operation), or was requested by the caller (uv_fs_close);
    and it was never descriptor 0, 1 or 2. -/
theorem no_foreign_close (s : St) (prog : List (Inj × Op)) :
    ∀ e auth, Ev.close e auth ∈ (runOps s prog).l.1.evs →
      e.stdio = false ∧ (e.owner.libuv = true ∨ auth = true) :=
  fun e auth he => (runOps s prog).l.2.ev _ he

/-- descriptors 0-2 wrapped in handles are never libuv's to close: they are held by the caller, by a
    handle's io field (uv_*_open), or were orphaned by the caller re-opening the handle -/
theorem stdio_only_wrapped (s : St) (prog : List (Inj × Op)) :
    ∀ e ∈ (runOps s prog).l.1.led, e.stdio = true →
      e.bylib = false ∧ (e.owner = .user ∨ (∃ h, e.owner = .handle h .io) ∨ e.owner = .leaked) :=
  (runOps s prog).l.2.stdio

/-- **owner_unique**: no descriptor is owned by two handles / fields (ids identify entries), and no
    single-valued field holds two descriptors. -/
theorem owner_unique (s : St) (prog : List (Inj × Op)) :
    (∀ e1 ∈ (runOps s prog).l.1.led, ∀ e2 ∈ (runOps s prog).l.1.led, e1.id = e2.id → e1 = e2) ∧
    (∀ e1 ∈ (runOps s prog).l.1.led, ∀ e2 ∈ (runOps s prog).l.1.led,
        e1.owner = e2.owner → e1.owner.unique = true → e1.id = e2.id) :=
  ⟨(runOps s prog).l.2.id.2, (runOps s prog).l.2.uniq⟩

/-- every operation sequence, with any injected failures, keeps the ledger clean: no local of a finished
    operation and no orphan is left open, and handle-owned descriptors belong to live handles -/
theorem clean_always (prog : List (Inj × Op)) : Clean (runOps {} prog) := by
  unfold runOps
  generalize hs : ({} : St) = s0
  have h0 : Clean s0 := hs ▸ clean_init
  clear hs
  induction prog generalizing s0 with
  | nil => exact h0
  | cons io prog ih => exact ih _ (clean_step h0 io.1 io.2)

/-- the last step of `no_leak`: a successful uv_loop_close releases every loop-owned descriptor of a state
    whose remaining libuv descriptors are loop fields and the lock pipe -/
theorem no_leak_partial (s : St) (inj : Inj) (hok : s.loopOk = true)
    (hh : ∀ h ∈ s.hs, h.st = .closed ∨ h.st = .dead)
    (hclean : ∀ e ∈ s.l.1.led, e.owner = .user ∨ (∃ i, e.owner = .glob i) ∨ ∃ f, e.owner = .loop f) :
    ∀ e ∈ (step s inj .loopClose).l.1.led, e.owner = .user ∨ ∃ i, e.owner = .glob i := by
  have hany : s.hs.any (fun h => h.st = .live || h.st = .closing) = false := by
    rw [List.any_eq_false]
    intro h hm
    rcases hh h hm with h1 | h1 <;> simp [h1]
  intro e he
  have : (step s inj .loopClose).l.1.led = (exec s.l.1 loopClosePrims).led := by
    show (opLoopClose { s with cnt := [] }).l.1.led = _
    unfold opLoopClose
    rw [if_neg (by simpa using hok), if_neg (by simpa using hany)]
    exact ret_led ..
  rw [this] at he
  obtain ⟨hm, hl⟩ := loopClose_led s.l.1 s.l.2 e he
  rcases hclean e hm with h1 | h1 | ⟨f, h1⟩
  · exact Or.inl h1
  · exact Or.inr h1
  · exact absurd h1 (hl f)


/-- **no_leak**: for every operation sequence and every injected failure schedule (bind/connect/listen/
    open/spawn errors, EMFILE at any fd-creating call, …): once all handles are closed (or never came to life)
    and uv_loop_close succeeds, the only descriptors left are the caller's own and the two ends of the
    once-per-process signal lock pipe. -/
theorem no_leak (prog : List (Inj × Op)) (inj : Inj)
    (hok : (runOps {} prog).loopOk = true)
    (hh : ∀ h ∈ (runOps {} prog).hs, h.st = .closed ∨ h.st = .dead) :
    ∀ e ∈ (step (runOps {} prog) inj .loopClose).l.1.led, e.owner = .user ∨ ∃ i, e.owner = .glob i := by
  apply no_leak_partial _ inj hok hh
  intro e he
  have hc := clean_always prog e.owner ⟨e, he, rfl⟩
  cases ho : e.owner with
  | user => exact Or.inl rfl
  | glob i => exact Or.inr (Or.inl ⟨i, rfl⟩)
  | loop f => exact Or.inr (Or.inr ⟨f, rfl⟩)
  | handle h sl =>
    exfalso
    rw [ho] at hc
    obtain ⟨k, hk, _⟩ := hc
    unfold kindOf at hk
    split at hk
    · rename_i x hx
      split at hk
      · rename_i hst
        rcases hh x (List.mem_of_getElem? hx) with h1 | h1 <;> simp [h1] at hst
      · cases hk
    · cases hk
  | temp k => rw [ho] at hc; exact hc.elim
  | leaked => rw [ho] at hc; exact hc.elim

/-! ### non-vacuity: concrete programs reach non-trivial states and exercise the events the theorems speak about -/

/-- loop init; tcp handle with an eager socket; socket() made to fail for a udp handle; a socketpair whose
    first end sits on descriptor 0 wrapped in a pipe handle and closed again; a failed pipe bind; uv_pipe -/
def demo : List (Inj × Op) :=
  [([], .loopInit), ([], .tcpInit true), ([("socket", 1, 24)], .udpInit true), ([], .ufd "sockpair" (some 0)),
   ([], .pipeInit false), ([], .open_ 2 9), ([], .close 2), ([], .pipeInit false), ([], .bind 3 "bad" 0), ([], .uvPipe),
   ([], .close 0), ([], .close 3), ([], .run)]

example : ((runOps {} demo).l.1.led.map (·.id)) = [0, 1, 2, 3, 4, 5, 6, 7, 9, 10, 12, 13] := by decide +kernel
example : ((runOps {} demo).l.1.evs.filter (fun ev => match ev with | .close _ _ => true | _ => false)).length = 2 := by decide +kernel
example : ((runOps {} demo).l.1.led.filter (·.stdio)).map (·.owner) = [.user] := by decide +kernel
-- the state after `demo` satisfies the hypotheses of `no_leak_partial`
example : (runOps {} demo).loopOk = true ∧ (runOps {} demo).hs.all (fun h => h.st = .closed || h.st = .dead) = true ∧
    (runOps {} demo).l.1.led.all (fun e => match e.owner with | .user => true | .glob _ => true | .loop _ => true | _ => false) = true := by
  decide +kernel
example : ((step (runOps {} demo) [] .loopClose).l.1.led.map (·.owner)) = [.glob 0, .glob 1, .user, .user, .user, .user] := by decide +kernel

end UvModel.Props.C15
