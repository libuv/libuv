import UvModel.Heap
import UvModel.Lemmas.HeapLemmas
/-!
  C04 (heap part): property theorems about the model of src/heap-inl.h.
  Every theorem is for *every* heap shape / index / element (no bound).
-/
namespace UvModel.Heap

/-- heap_insert keeps heap order -/
theorem insert_inv (a : H) (x : Ent) (h : Inv a) : Inv (insert a x) := by
  unfold insert
  exact siftUp_inv (a.push x) a.size (by simp) (push_upInv a x h)

/-- heap_remove of *any* node (root, interior, leaf, last) keeps heap order -/
theorem remove_inv (a : H) (i : Nat) (h : Inv a) : Inv (remove a i) := by
  by_cases hi : i < a.size
  · by_cases hl : i = a.size - 1
    · rw [remove_of_last a i hi hl]
      intro k hk0 hk
      rw [Array.size_pop] at hk
      rw [g_pop a hk, g_pop a (parent_lt_of_lt hk)]
      exact h k hk0 (Nat.lt_of_lt_of_le hk (Nat.sub_le _ _))
    · have hi' : i < a.size - 1 := by omega
      rw [remove_of_lt a i hi']
      have hsz : i < ((a.setIfInBounds i (g a (a.size - 1))).pop).size := by simpa using hi'
      apply siftUp_inv
      · rw [siftDown_size]; exact siftDown_pos_lt _ _ hsz
      · exact siftDown_upInv _ _ hsz (detach_downInv a i hi' h)
  · have : remove a i = a := by
      unfold remove
      by_cases h0 : a.size = 0
      · rw [if_pos h0]
      · rw [if_neg h0, if_pos (Nat.le_of_not_lt hi)]
    rw [this]; exact h

/-- heap_insert adds exactly the new element -/
theorem insert_perm (a : H) (x : Ent) : (insert a x).toList.Perm (x :: a.toList) := by
  unfold insert
  refine (siftUp_perm (a.push x) a.size).trans ?_
  rw [Array.toList_push]
  exact List.perm_append_singleton x a.toList

/-- heap_remove removes exactly the element at the given position -/
theorem remove_perm (a : H) (i : Nat) (hi : i < a.size) :
    a.toList.Perm (g a i :: (remove a i).toList) := by
  by_cases hl : i = a.size - 1
  · rw [remove_of_last a i hi hl, hl]
    exact toList_perm_pop a (by omega)
  · have hi' : i < a.size - 1 := by omega
    rw [remove_of_lt a i hi']
    refine (detach_perm a i hi').trans (List.Perm.cons _ ?_)
    exact ((siftUp_perm _ _).trans (siftDown_perm _ _)).symm

theorem insert_size (a : H) (x : Ent) : (insert a x).size = a.size + 1 := by
  unfold insert
  rw [siftUp_size, Array.size_push]
theorem remove_size (a : H) (i : Nat) (hi : i < a.size) : (remove a i).size = a.size - 1 := by
  by_cases hl : i = a.size - 1
  · rw [remove_of_last a i hi hl, Array.size_pop]
  · rw [remove_of_lt a i (by omega), siftUp_size, siftDown_size, Array.size_pop,
      Array.size_setIfInBounds]

/-- the root is a minimum: nothing in the heap is less than it -/
theorem min_is_min (a : H) (h : Inv a) (j : Nat) (hj : j < a.size) : lt (g a j) (g a 0) = false := by
  induction j using Nat.strongRecOn with
  | ind j ih =>
    by_cases hj0 : j = 0
    · subst hj0; exact lt_irrefl _
    · have hj0 := Nat.pos_of_ne_zero hj0
      exact lt_false_trans (h j hj0 hj) (ih ((j - 1) / 2) (parent_lt hj0) (parent_lt_of_lt hj))

/-- non-vacuity: a concrete 6-node heap with an interior removal that must sift *up*
    (the case the final loop of heap_remove exists for) -/
example : let a : H := #[⟨1,0,0⟩, ⟨10,1,1⟩, ⟨2,2,2⟩, ⟨11,3,3⟩, ⟨12,4,4⟩, ⟨3,5,5⟩]
    (∀ i, i < a.size → 0 < i → lt (g a i) (g a ((i-1)/2)) = false) ∧
    remove a 3 = #[⟨1,0,0⟩, ⟨3,5,5⟩, ⟨2,2,2⟩, ⟨10,1,1⟩, ⟨12,4,4⟩] := by decide +kernel

end UvModel.Heap
