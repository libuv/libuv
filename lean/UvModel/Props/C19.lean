import UvModel.Lemmas.GetterLemmas
import UvModel.Generated.ErrnoTable
/-! # C19 — string getters never write past the buffer, terminate, report the needed size

All statements are for every true value `v` and every capacity `size` (no bounds).  `Sized` ranges over the
getters with the `(buffer, size_t* size)` protocol (uv_cwd, uv_os_getenv = uv_os_homedir with $HOME,
uv_os_homedir from passwd, uv_os_tmpdir, uv_os_gethostname, uv_fs_event_getpath, uv_fs_poll_getpath,
uv_if_indextoname/iid, uv_pipe_getsockname/getpeername on a path socket).  Abstract/unbound socket names,
uv_get_process_title (size by value) and the truncating getters (uv_exepath, uv_thread_getname,
uv_err_name_r, uv_strerror_r) have their own statements below. -/
namespace UvModel.Props.C19
open UvModel.Getter UvModel.Generated

/-! ## getters with the `*size` protocol -/

/-- no store at an offset `≥ size`, for any value and size -/
theorem never_past_size (g : Sized) (v : List Byte) (size : Nat) (h : g.osOk v) :
    ∀ p ∈ (g.run v size).writes, p.1 < size := by
  have hb := sized_proto g v h
  by_cases hs : size ≤ v.length
  · rw [(hb.fail size hs).2]; exact fun _ hp => nomatch hp
  · exact (hb.ok size (Nat.lt_of_not_le hs)).2.2.2.mono (Nat.lt_of_not_le hs)

/-- success ⇒ reported length = length of the returned string, and the buffer holds exactly the true value
(`expected`: the OS value, minus one trailing slash for uv_cwd / uv_os_tmpdir) followed by the terminator -/
theorem success_len_and_value (g : Sized) (v : List Byte) (size : Nat) (h : g.osOk v)
    (hrc : (g.run v size).rc = 0) :
    (g.run v size).size = (g.expected v).length ∧ HoldsString (g.run v size).writes (g.expected v) := by
  have hb := sized_proto g v h
  obtain ⟨_, h2, h3, _⟩ := hb.ok size (hb.fits hrc)
  exact ⟨h2, h3⟩

/-- success ⇒ the byte at the reported length is the terminator, and it was written by the call -/
theorem terminated (g : Sized) (v : List Byte) (size : Nat) (h : g.osOk v)
    (hrc : (g.run v size).rc = 0) : get (g.run v size).writes (g.run v size).size = some 0 := by
  obtain ⟨h2, h3⟩ := success_len_and_value g v size h hrc
  rw [h2]; exact h3.2

/-- the returned string is a C string: no terminator inside when the OS value has none -/
theorem expected_nulfree (g : Sized) (v : List Byte) (hv : NulFree v) : NulFree (g.expected v) := by
  have hs : NulFree (stripSlash v) := by
    unfold stripSlash; split
    · intro x hx; exact hv x (List.mem_of_mem_take hx)
    · exact hv
  cases g <;> first | exact hs | exact hv

/-- UV_ENOBUFS exactly when value + terminator do not fit (`size ≤ len`); success exactly when they do.
For uv_cwd the OS value must be a canonical getcwd answer (see `cwd_*` below for why). -/
theorem enobufs_iff_too_small (g : Sized) (v : List Byte) (size : Nat) (h : g.osOk v)
    (hc : g = .cwd → CwdCanonical v) (h0 : 0 < size) :
    ((g.run v size).rc = ENOBUFS ↔ size ≤ v.length) ∧ ((g.run v size).rc = 0 ↔ v.length < size) := by
  have hb := sized_proto g v h
  by_cases hs : size ≤ v.length
  · have h1 := (hb.small hc size h0 hs).1
    refine ⟨⟨fun _ => hs, fun _ => h1⟩, ⟨fun h2 => absurd h2 (hb.fail size hs).1, fun h2 => by omega⟩⟩
  · have h1 := (hb.ok size (by omega)).1
    refine ⟨⟨fun h2 => ?_, fun h2 => absurd h2 hs⟩, ⟨fun _ => by omega, fun _ => h1⟩⟩
    rw [h1] at h2; exact absurd h2 (by decide)

/-- a buffer too small for the *returned* string (after slash stripping) is always refused
(the converse fails only for uv_os_tmpdir with a trailing slash: DESIGN §5 interpretation iv, `tmpdir_gap`) -/
theorem too_small_for_result_refused (g : Sized) (v : List Byte) (size : Nat) (h : g.osOk v)
    (hc : g = .cwd → CwdCanonical v) (h0 : 0 < size) (hs : size ≤ (g.expected v).length) :
    (g.run v size).rc = ENOBUFS := by
  have hle : (g.expected v).length ≤ v.length := by
    cases g <;> first | exact stripSlash_length_le v | exact Nat.le_refl _
  exact ((enobufs_iff_too_small g v size h hc h0).1).2 (by omega)

/-- the `*size` stored with UV_ENOBUFS makes the retry succeed -/
theorem retry_with_reported_size_succeeds (g : Sized) (v : List Byte) (size : Nat) (h : g.osOk v)
    (hc : g = .cwd → CwdCanonical v) (h0 : 0 < size) (hrc : (g.run v size).rc = ENOBUFS) :
    (g.run v (g.run v size).size).rc = 0 := by
  have hs := ((enobufs_iff_too_small g v size h hc h0).1).1 hrc
  have hbig := ((sized_proto g v h).small hc size h0 hs).2
  exact ((sized_proto g v h).ok _ hbig).1

/-- `*size == 0` is refused without touching the buffer -/
theorem zero_size_einval (g : Sized) (v : List Byte) (h : g.osOk v) (hc : g = .cwd → CwdCanonical v) :
    (g.run v 0).rc = EINVAL ∧ (g.run v 0).writes = [] :=
  ⟨(sized_proto g v h).einval, ((sized_proto g v h).fail 0 (Nat.zero_le _)).2⟩

/-- uv_os_getenv on an unset variable / uv_os_homedir with $HOME set: same function as `Sized.getenv` -/
theorem getenv_unset (size : Nat) (h0 : 0 < size) : osGetenv none size = ⟨ENOENT, [], size⟩ := by
  have : ¬ size = 0 := by omega
  simp [osGetenv, this]

theorem homedir_with_home (home pw : List Byte) (size : Nat) :
    osHomedir (some home) pw size = Sized.getenv.run home size := by
  have : (osGetenv (some home) size).rc ≠ ENOENT := by
    rw [getenv_eq]; unfold checkCopy; split
    · simp [EINVAL, ENOENT]
    · split <;> simp [ENOBUFS, ENOENT]
  simp only [osHomedir, Sized.run]
  rw [if_pos this]

-- non-vacuity: concrete runs on both sides of the boundary, with and without slash stripping
example : Sized.getenv.run (bytesOf "abc") 4 = ⟨0, [(0, 97), (1, 98), (2, 99), (3, 0)], 3⟩ := by decide +kernel
example : Sized.getenv.run (bytesOf "abc") 3 = ⟨ENOBUFS, [], 4⟩ := by decide +kernel
example : Sized.cwd.run (bytesOf "/a/b") 5 = ⟨0, [(0, 47), (1, 97), (2, 47), (3, 98), (4, 0)], 4⟩ := by decide +kernel
example : Sized.tmpdir.run (bytesOf "/t/") 4 = ⟨0, [(0, 47), (1, 116), (2, 47), (2, 0)], 2⟩ := by decide +kernel
example : Sized.pipePath.osOk (bytesOf "/tmp/s") := ⟨by decide +kernel, by decide +kernel, by decide +kernel⟩
example : CwdCanonical (bytesOf "/a/b") := ⟨by decide +kernel, by decide +kernel⟩
example : Sized.ifName.run (bytesOf "lo") 2 = ⟨ENOBUFS, [], 3⟩ := by decide +kernel

/-- interpretation (iv): uv_os_tmpdir refuses a buffer that would hold the stripped result -/
theorem tmpdir_gap : ∃ v size, size = (Sized.tmpdir.expected v).length + 1 ∧ (Sized.tmpdir.run v size).rc = ENOBUFS :=
  ⟨bytesOf "/t/", 3, by decide +kernel, by decide +kernel⟩

/-! ### uv_cwd: why `CwdCanonical` is assumed, and what happens beyond PATH_MAX -/

/-- were getcwd to answer with a trailing slash, the size reported from the scratch buffer (stripped
length + 1) would be one short: the retry fails again.  (getcwd never does: assumption, not a defect.) -/
theorem cwd_trailing_slash_needed :
    ∃ v size, NulFree v ∧ (cwd v size).rc = ENOBUFS ∧ (cwd v (cwd v size).size).rc = ENOBUFS :=
  ⟨bytesOf "/a/", 3, by decide +kernel, by decide +kernel, by decide +kernel⟩

/-- FALSE of the code for deep directories: a working directory longer than PATH_MAX (reachable with
relative chdir) and a too-small buffer give `ERANGE` and leave `*size` untouched, not UV_ENOBUFS with a
usable size — the scratch buffer `char scratch[1 + UV__PATH_MAX]` is too small as well (core.c:771-772). -/
theorem cwd_beyond_path_max_not_enobufs (v : List Byte) (size : Nat) (hv : scratchCap ≤ v.length)
    (h0 : 0 < size) (hs : size ≤ v.length) :
    cwd v size = ⟨ERANGE, [], size⟩ := by
  rw [cwd, cwdR, if_neg (by omega)]
  dsimp only
  rw [if_neg (by omega), if_neg (by omega)]

/-- whatever else glibc's getcwd left in the buffer (paths ≥ PATH_MAX go through its fallback, which
builds the path from the end of the buffer): same return code and `*size`, every store stays below `size`
as long as libc's did, and on success the buffer still holds the true value and its terminator -/
theorem cwd_with_getcwd_residue (v : List Byte) (size : Nat) (residue : Writes)
    (h : ∀ p ∈ residue, p.1 < size) :
    (cwdR v size residue).rc = (cwd v size).rc ∧ (cwdR v size residue).size = (cwd v size).size ∧
    (∀ p ∈ (cwdR v size residue).writes, p.1 < size) ∧
    ((cwd v size).rc = 0 → HoldsString (cwdR v size residue).writes (stripSlash v)) := by
  cases size with
  | zero => exact ⟨rfl, rfl, bounded_nil 0, fun hrc => absurd hrc (show EINVAL ≠ 0 by decide)⟩
  | succ n =>
    rw [cwdR_eq v _ residue (Nat.succ_pos n)]
    exact ⟨rfl, rfl, bounded_append.2 ⟨h, never_past_size .cwd v _ trivial⟩,
      fun hrc => holds_after _ (success_len_and_value .cwd v _ trivial hrc).2⟩

/-- the property as the record states it, for uv_cwd without the PATH_MAX bound: refuted by
`cwd_beyond_path_max_not_enobufs` -/
def cwd_full_statement : Prop :=
  ∀ v size, stripSlash v = v → 0 < size → size ≤ v.length → (cwd v size).rc = ENOBUFS

theorem cwd_full_statement_false : ¬ cwd_full_statement := by
  intro h
  have hv : stripSlash (List.replicate scratchCap (97 : Byte)) = List.replicate scratchCap 97 := by
    rw [stripSlash, if_neg]
    rintro ⟨-, h2⟩
    rw [List.getElem?_replicate] at h2
    split at h2
    · exact absurd (Option.some.inj h2) (by decide)
    · cases h2
  have hl : 1 ≤ (List.replicate scratchCap (97 : Byte)).length := by rw [List.length_replicate]; decide
  have h1 := h _ 1 hv Nat.one_pos hl
  rw [cwd_beyond_path_max_not_enobufs _ 1 (Nat.le_of_eq List.length_replicate.symm) Nat.one_pos hl] at h1
  exact absurd h1 (by decide)

/-! ## socket names that are not strings (DESIGN §5 interpretation ii) -/

/-- uv_pipe_getsockname/getpeername never store at an offset `≥ size`, whatever the kernel returned -/
theorem pipe_never_past_size (raw : List Byte) (old0 : Byte) (size : Nat) :
    ∀ p ∈ (pipeGetname raw old0 size).writes, p.1 < size := by
  rw [pipeGetname]
  split
  · exact bounded_nil _
  · next h0 => exact pipeCopy_bounded _ _ _ _ _ (Nat.pos_of_ne_zero h0) fun ha _ => of_decide_eq_true ha

/-- abstract name `\0rest`: success iff the exact byte count fits; the bytes are copied as they are,
the reported length is the byte count, and no terminator is stored behind them -/
theorem abstract_exact_length_no_terminator (rest : List Byte) (hlen : rest.length + 1 ≤ 108) (old0 : Byte)
    (size : Nat) (h0 : 0 < size) :
    let r := pipeGetname (0 :: rest) old0 size
    (r.rc = ENOBUFS ↔ size < rest.length + 1) ∧ (r.rc = 0 ↔ rest.length + 1 ≤ size) ∧
    (r.rc = 0 → r.size = rest.length + 1 ∧ HoldsBytes r.writes (0 :: rest)) ∧
    (r.rc = ENOBUFS → r.writes = [] ∧ (pipeGetname (0 :: rest) old0 r.size).rc = 0) := by
  intro r
  have e : r = _ := pipe_abstract rest hlen old0 size h0
  by_cases h1 : size < rest.length + 1
  · simp only [h1, if_true] at e
    have e2 := pipe_abstract rest hlen old0 (rest.length + 1) (by omega)
    simp only [Nat.lt_irrefl, if_false] at e2
    rw [e]
    refine ⟨by simp [h1], by simp [ENOBUFS]; omega, by simp [ENOBUFS], fun _ => ⟨rfl, by rw [e2]⟩⟩
  · simp only [h1, if_false] at e
    rw [e]
    refine ⟨by simp [ENOBUFS, h1], by simp; omega, fun _ => ⟨rfl, holdsBytes_memcpy _⟩, by simp [ENOBUFS]⟩

example : pipeGetname [0, 97, 98] 0xAA 3 = ⟨0, [(0, 0), (1, 97), (2, 98)], 3⟩ := by decide +kernel
example : pipeGetname [0, 97, 98] 0xAA 2 = ⟨ENOBUFS, [], 3⟩ := by decide +kernel

/-- unbound socket: the empty name, at most the byte at offset 0 is stored -/
theorem unbound_empty_name (old0 : Byte) (size : Nat) (h0 : 0 < size) :
    (pipeGetname [] old0 size).rc = 0 ∧ (pipeGetname [] old0 size).size = 0 ∧
    ∀ p ∈ (pipeGetname [] old0 size).writes, p = (0, 0) := by
  rw [pipe_unbound old0 size h0]
  refine ⟨rfl, rfl, ?_⟩
  split <;> simp

/-! ## uv_get_process_title (`size` by value) -/

theorem proctitle_never_past_size (v : List Byte) (size : Nat) :
    ∀ p ∈ (getProcessTitle v size).writes, p.1 < size := by
  by_cases hs : v.length < size
  · exact (proctitle_ok v size hs).2.2.mono hs
  · cases size with
    | zero => exact fun _ hp => nomatch hp
    | succ n =>
      rw [proctitle_small v _ (Nat.succ_pos n) (Nat.le_of_not_lt hs)]
      exact fun _ hp => nomatch hp

/-- success ⇒ the buffer holds the title and its terminator; UV_ENOBUFS iff `size ≤ len`; `len + 1` suffices -/
theorem proctitle_protocol (v : List Byte) (size : Nat) (h0 : 0 < size) :
    ((getProcessTitle v size).rc = 0 → HoldsString (getProcessTitle v size).writes v) ∧
    ((getProcessTitle v size).rc = ENOBUFS ↔ size ≤ v.length) ∧
    (getProcessTitle v (v.length + 1)).rc = 0 := by
  have h3 := (proctitle_ok v _ (Nat.lt_succ_self _)).1
  by_cases hs : v.length < size
  · obtain ⟨h1, h2, _⟩ := proctitle_ok v size hs
    exact ⟨fun _ => h2, ⟨fun h => absurd (h1.symm.trans h) (by decide), fun h => absurd hs (Nat.not_lt_of_le h)⟩, h3⟩
  · rw [proctitle_small v size h0 (Nat.le_of_not_lt hs)]
    exact ⟨fun h => absurd h (show ENOBUFS ≠ 0 by decide), ⟨fun _ => Nat.le_of_not_lt hs, fun _ => rfl⟩, h3⟩

example : getProcessTitle (bytesOf "ab") 3 = ⟨0, [(0, 97), (1, 98), (2, 0), (2, 0)], 3⟩ := by decide +kernel

/-! ## truncating getters -/

/-- what `Truncated` gives: a terminated prefix of the true value of length ≤ size − 1, the whole value when it fits -/
theorem truncating_is_prefix {r : Result} {v : List Byte} {size : Nat} (h : Truncated r v size) :
    ∃ s, s <+: v ∧ s.length ≤ size - 1 ∧ (v.length < size → s = v) ∧ HoldsString r.writes s ∧
      (∀ p ∈ r.writes, p.1 < size) :=
  ⟨v.take (size - 1), List.take_prefix _ _, by rw [List.length_take]; exact Nat.min_le_left _ _,
    fun hlt => List.take_of_length_le (by omega), h.2.1, h.2.2⟩

/-- uv_exepath: terminated prefix of the link target; `*size` = its length -/
theorem exepath_truncates (v : List Byte) (size : Nat) (h0 : 0 < size) :
    Truncated (exepath v size) v size ∧ (exepath v size).size = (v.take (size - 1)).length := by
  rw [exepath, if_neg (Nat.ne_of_gt h0)]
  dsimp only
  split
  · exact ⟨⟨rfl, holds_take v (Nat.sub_one_lt (Nat.ne_of_gt h0))⟩, by rw [List.length_take, Nat.min_comm]⟩
  · obtain rfl : size = 1 := by omega
    exact ⟨⟨rfl, holds_store (src := []) List.prefix_rfl rfl, bounded_single.2 h0⟩, rfl⟩

theorem exepath_never_past_size (v : List Byte) (size : Nat) : ∀ p ∈ (exepath v size).writes, p.1 < size := by
  cases size with
  | zero => exact bounded_nil 0
  | succ n => exact (exepath_truncates v _ (Nat.succ_pos n)).1.2.2

theorem thread_getname_never_past_size (v : List Byte) (size : Nat) :
    ∀ p ∈ (threadGetname v size).writes, p.1 < size := by
  rw [threadGetname]
  split
  · exact bounded_nil _
  · next h0 =>
    refine bounded_store (Nat.le_trans ?_ (Nat.sub_le size 1)) (Nat.sub_one_lt h0)
    generalize size - 1 = n
    generalize v.take 15 = w
    rw [List.length_append, List.length_take, List.length_replicate]
    omega

/-- uv_thread_getname: terminated prefix of the (≤ 15 byte) thread name -/
theorem thread_getname_truncates (v : List Byte) (hv : v.length ≤ 15) (size : Nat) (h0 : 0 < size) :
    Truncated (threadGetname v size) v size := by
  refine ⟨?_, ?_, thread_getname_never_past_size v size⟩
  · rw [threadGetname, if_neg (Nat.ne_of_gt h0)]
  · rw [threadGetname, if_neg (Nat.ne_of_gt h0), strncpyW, List.take_of_length_le hv]
    -- the padding of `strncpy` starts with the terminator when the name is shorter than `size - 1`;
    -- otherwise the store at `size - 1` is the terminator
    by_cases hc : size - 1 ≤ v.length
    · rw [Nat.sub_eq_zero_of_le hc, List.replicate_zero, List.append_nil]
      exact holds_store List.prefix_rfl (List.length_take_of_le hc)
    · obtain ⟨m, hm⟩ := Nat.exists_eq_add_one_of_ne_zero (Nat.sub_ne_zero_of_lt (Nat.lt_of_not_le hc))
      rw [List.take_of_length_le (Nat.le_of_not_le hc), hm, List.replicate_succ]
      exact holds_store_beyond (holds_memcpy ⟨_, List.append_assoc _ _ _⟩) (Nat.lt_of_not_le hc) 0

example : exepath (bytesOf "/bin/x") 4 = ⟨0, [(0, 47), (1, 98), (2, 105), (3, 0)], 3⟩ := by decide +kernel
example : threadGetname (bytesOf "ab") 5 = ⟨0, [(0, 97), (1, 98), (2, 0), (3, 0), (4, 0)], 5⟩ := by decide +kernel

/-! ## uv_err_name_r / uv_strerror_r: structural part over an arbitrary table -/

/-- table entries are C strings -/
def TableOk (t : List ErrEntry) : Prop := ∀ e ∈ t, NulFree e.name ∧ NulFree e.msg

/-- for any table and any code (known or not) uv_err_name_r leaves a terminated prefix of the code's name -/
theorem err_name_r_truncates (t : List ErrEntry) (ht : TableOk t) (code : Int) (size : Nat) (h0 : 0 < size) :
    Truncated (errNameR t code size) (trueErrName t code) size := by
  unfold errNameR trueErrName
  cases hl : lookup t code with
  | none => exact ⟨rfl, holds_snprintf _ size h0⟩
  | some e => exact ⟨rfl, holds_strscpy _ (ht e (lookup_code hl).1).1 size h0⟩

theorem strerror_r_truncates (t : List ErrEntry) (code : Int) (size : Nat) (h0 : 0 < size) :
    Truncated (strerrorR t code size) (trueStrerror t code) size := by
  unfold strerrorR trueStrerror
  cases lookup t code <;> exact ⟨rfl, holds_snprintf _ size h0⟩

/-- including `buflen == 0` and tables with arbitrary content: no store at or beyond `size` -/
theorem err_r_never_past_size (t : List ErrEntry) (code : Int) (size : Nat) :
    (∀ p ∈ (errNameR t code size).writes, p.1 < size) ∧ (∀ p ∈ (strerrorR t code size).writes, p.1 < size) := by
  unfold errNameR strerrorR
  cases lookup t code with
  | none => exact ⟨snprintfW_bounded _ _, snprintfW_bounded _ _⟩
  | some e => exact ⟨strscpyW_bounded _ _, snprintfW_bounded _ _⟩

/-- the true name/message of any code is a C string (also the `Unknown system error %d` text) -/
theorem true_err_strings_nulfree (t : List ErrEntry) (ht : TableOk t) (code : Int) :
    NulFree (trueErrName t code) ∧ NulFree (trueStrerror t code) := by
  unfold trueErrName trueStrerror
  cases hl : lookup t code with
  | none => exact ⟨unknownMsg_nulfree code, unknownMsg_nulfree code⟩
  | some e => exact ht e (lookup_code hl).1

/-- with distinct case labels, every line of the map is what its own code selects -/
theorem every_entry_selected (t : List ErrEntry) (hd : (t.map (·.code)).Nodup) (e : ErrEntry) (he : e ∈ t) :
    trueErrName t e.code = e.name ∧ trueStrerror t e.code = e.msg := by
  simp [trueErrName, trueStrerror, lookup_mem hd he]

/-! ### facts about the table generated from UV_ERRNO_MAP (the quantifier is the finite table) -/

/-- `t` is the table whose names and messages are spelt `ss`, row by row -/
inductive FromStrings : List ErrEntry → List String → Prop
  | nil : FromStrings [] []
  | cons {c n m t ss} : FromStrings t ss → FromStrings (⟨c, bytesOf n, bytesOf m⟩ :: t) (n :: m :: ss)

theorem tableOk_of_strings {t : List ErrEntry} {ss : List String} (h : FromStrings t ss)
    (ok : ∀ s ∈ ss, AsciiNulFree s) : TableOk t := by
  induction h with
  | nil => exact fun _ he => nomatch he
  | cons _ ih =>
    intro e he
    rcases List.mem_cons.1 he with rfl | he
    · exact ⟨nulFree_bytesOf (ok _ (.head _)), nulFree_bytesOf (ok _ (.tail _ (.head _)))⟩
    · exact ih (fun s hs => ok s (.tail _ (.tail _ hs))) e he

/-- The strings are read off the table by unification and checked in one evaluation of their UTF-8
bytes; evaluating `TableOk errnoTable` itself would go through `String.toList` for every entry
(see `bytesOf_ascii`). -/
theorem errnoTable_ok : TableOk errnoTable := by
  apply tableOk_of_strings
  · dsimp only [errnoTable]
    repeat apply FromStrings.cons
    exact FromStrings.nil
  · decide +kernel

theorem errnoTable_codes_distinct : (errnoTable.map (·.code)).Nodup := by decide +kernel

theorem errnoTable_nonempty : errnoTable ≠ [] := by decide

/-- the two theorems instantiated: every code, every size, on the table of this tree -/
theorem err_r_on_generated_table (code : Int) (size : Nat) (h0 : 0 < size) :
    Truncated (errNameR errnoTable code size) (trueErrName errnoTable code) size ∧
    Truncated (strerrorR errnoTable code size) (trueStrerror errnoTable code) size :=
  ⟨err_name_r_truncates _ errnoTable_ok code size h0, strerror_r_truncates _ code size h0⟩

theorem every_generated_entry (e : ErrEntry) (he : e ∈ errnoTable) (size : Nat) (h0 : 0 < size) :
    Truncated (errNameR errnoTable e.code size) e.name size ∧
    Truncated (strerrorR errnoTable e.code size) e.msg size := by
  have hs := every_entry_selected errnoTable errnoTable_codes_distinct e he
  have := err_r_on_generated_table e.code size h0
  rwa [hs.1, hs.2] at this

example : errNameR [⟨-7, bytesOf "E2BIG", bytesOf "x"⟩] (-7) 4 = ⟨0, [(0, 69), (1, 50), (2, 66), (3, 73), (3, 0)], 4⟩ := by decide +kernel
example : unknownMsg (-12345) = bytesOf "Unknown system error -12345" := by decide +kernel

end UvModel.Props.C19
