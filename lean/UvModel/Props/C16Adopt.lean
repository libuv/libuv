import UvModel.Adopt
/-!
# C16 — a failed adoption releases the descriptor exactly once: property theorems

Part of the C16 statement ("in no case is ... a descriptor leaked, or handle/request accounting left unbalanced")
for the calls that give a socket to a TCP handle with remembered options, under any `setsockopt` failure.
-/
namespace UvModel.Adopt

theorem mem_without {l : List Nat} {a b : Nat} : a ∈ without l b ↔ a ∈ l ∧ a ≠ b := by
  simp [without]

/-- `uv__stream_open` claims a number only for `fd`, and only when no option call failed -/
theorem streamOpen_claims {nd ka : Bool} {fd g : Nat} {f : Fault} (h : (streamOpen nd ka fd f).1 = some g) :
    g = fd ∧ (streamOpen nd ka fd f).2.1 = 0 := by
  rcases f with _ | ⟨k, e⟩
  · exact ⟨(Option.some.inj h).symm, rfl⟩
  · by_cases hk : k < (optCalls nd ka).length <;> simp [streamOpen, hk] at h ⊢
    exact h.symm

/-- the number the handle claims after the adopting call is what `uv__stream_open` assigned -/
theorem adopt_hfd (so : SO) (p : Path) (nd ka : Bool) (w : W) (fd : Nat) (f : Fault) :
    (adopt so p nd ka w fd f).1.hfd = (so nd ka fd f).1 := by
  cases p <;> simp only [adopt]
  repeat' split
  all_goals rfl

/-- `uv_close` destroys exactly the number the handle claims -/
theorem mem_closeHandle {w : W} {x : Nat} : x ∈ (closeHandle w).open_ ↔ x ∈ w.open_ ∧ w.hfd ≠ some x := by
  unfold closeHandle
  split <;> simp_all [mem_without, eq_comm]

theorem callerCleanup_hfd (p : Path) (rc : Int) (w : W) (fd : Nat) : (callerCleanup p rc w fd).hfd = w.hfd := by
  unfold callerCleanup; split <;> rfl

theorem adopt_ok_mem {so : SO} {p : Path} {nd ka : Bool} {w : W} {fd : Nat} {f : Fault} (h : Pre p w fd)
    (h0 : (so nd ka fd f).2.1 = 0) : fd ∈ (adopt so p nd ka w fd f).1.open_ := by
  obtain ⟨_, hfd⟩ := h
  cases p <;> simp_all [adopt]
  split <;> exact List.mem_cons_self

/-- **adopt_owned_is_open**: after the adopting call (and the caller's part of the clean-up) whatever number the
handle claims is an open descriptor — for every path, every remembered option, every failing `setsockopt`. -/
theorem adopt_owned_is_open (p : Path) (nd ka : Bool) (w : W) (fd : Nat) (f : Fault) (h : Pre p w fd) (g : Nat)
    (hg : (callerCleanup p (adopt streamOpen p nd ka w fd f).2 (adopt streamOpen p nd ka w fd f).1 fd).hfd = some g) :
    g ∈ (callerCleanup p (adopt streamOpen p nd ka w fd f).2 (adopt streamOpen p nd ka w fd f).1 fd).open_ := by
  rw [callerCleanup_hfd, adopt_hfd] at hg
  obtain ⟨rfl, h0⟩ := streamOpen_claims hg
  have hrc : p = .open_ → (adopt streamOpen p nd ka w g f).2 = 0 := by rintro rfl; exact h0
  rw [callerCleanup, if_neg fun hc => hc.2 (hrc hc.1)]
  exact adopt_ok_mem h h0

/-- **failed_adoption_owns_nothing**: when one of the option calls fails with errno `e > 0`, the call returns `-e`,
the handle claims no descriptor, and the descriptor has exactly one owner left: nobody for `uv_accept` and the lazy
paths (released once, by libuv), the caller for `uv_tcp_open`. -/
theorem failed_adoption_owns_nothing (p : Path) (nd ka : Bool) (w : W) (fd k e : Nat) (h : Pre p w fd)
    (hk : k < (optCalls nd ka).length) (he : 0 < e) :
    (adopt streamOpen p nd ka w fd (some (k, e))).2 = -(e : Int) ∧
    (adopt streamOpen p nd ka w fd (some (k, e))).1.hfd = none ∧
    (adopt streamOpen p nd ka w fd (some (k, e))).1.open_ =
      (if p = .accept ∨ p = .ipc then without w.open_ fd else w.open_) := by
  have hne : -(e : Int) ≠ 0 := by omega
  cases p <;> simp [adopt, streamOpen, hk, hne]

/-- **adoption_fault_free**: without a fault the handle owns `fd`, which is open, and the call returns 0. -/
theorem adoption_fault_free (p : Path) (nd ka : Bool) (w : W) (fd : Nat) (h : Pre p w fd) :
    (adopt streamOpen p nd ka w fd none).2 = 0 ∧ (adopt streamOpen p nd ka w fd none).1.hfd = some fd ∧
    fd ∈ (adopt streamOpen p nd ka w fd none).1.open_ :=
  ⟨by cases p <;> rfl, adopt_hfd streamOpen p nd ka w fd none, adopt_ok_mem h rfl⟩

/-- **foreign_fd_survives**: a descriptor `x` the application opens after the adopting call returned (any number the
kernel may hand out: one that is not open) is still open after the handle was closed. -/
theorem foreign_fd_survives (p : Path) (nd ka : Bool) (w : W) (fd : Nat) (f : Fault) (x : Nat) (h : Pre p w fd)
    (hx : x ∉ (callerCleanup p (adopt streamOpen p nd ka w fd f).2 (adopt streamOpen p nd ka w fd f).1 fd).open_) :
    x ∈ (episode streamOpen p nd ka w fd f x).1.open_ :=
  mem_closeHandle.2 ⟨List.mem_cons_self, fun hg => hx (adopt_owned_is_open p nd ka w fd f h x hg)⟩

/-- number of fault points the option calls contribute -/
theorem optCalls_length (nd ka : Bool) : (optCalls nd ka).length = (if nd then 1 else 0) + (if ka then 4 else 0) := by
  cases nd <;> cases ka <;> rfl

example : Pre .accept ⟨[0, 1, 2, 7], none⟩ 7 := by unfold Pre; decide
example : Pre .connect ⟨[0, 1, 2], none⟩ 7 := by unfold Pre; decide
example : adopt streamOpen .accept true true ⟨[0, 1, 2, 7], none⟩ 7 (some (3, 105)) = (⟨[0, 1, 2], none⟩, -105) := by decide +kernel
example : adopt streamOpen .open_ true false ⟨[0, 1, 2, 7], none⟩ 7 (some (0, 12)) = (⟨[0, 1, 2, 7], none⟩, -12) := by decide +kernel
example : adopt streamOpen .bind true false ⟨[0, 1, 2], none⟩ 7 (some (1, 12)) = (⟨[7, 0, 1, 2], some 7⟩, -12) := by decide +kernel
example : adopt streamOpen .listen false true ⟨[0, 1, 2], none⟩ 7 none = (⟨[7, 0, 1, 2], some 7⟩, 0) := by decide +kernel
example : (episode streamOpen .accept true false ⟨[0, 1, 2, 7], none⟩ 7 (some (0, 105)) 7).1.open_ = [7, 0, 1, 2] := by decide +kernel

/-- **early_assignment_releases_twice** (the order matters): with `io_watcher.fd` assigned before the options are
applied, a refused TCP_NODELAY during `uv_accept` leaves the handle claiming the number `uv_accept` has closed; the
application's next descriptor gets that number and is destroyed by `uv_close` of the handle. -/
theorem early_assignment_releases_twice :
    adopt streamOpenEarly .accept true false ⟨[0, 1, 2, 7], none⟩ 7 (some (0, 105)) = (⟨[0, 1, 2], some 7⟩, -105) ∧
    7 ∉ (episode streamOpenEarly .accept true false ⟨[0, 1, 2, 7], none⟩ 7 (some (0, 105)) 7).1.open_ := by
  decide +kernel

end UvModel.Adopt
