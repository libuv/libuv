import UvModel.Lemmas.FsReqLemmas
/-!
# C11 (c): the `uv_fs_t` request life cycle — property theorems over `UvModel.FsReq`

Every theorem quantifies over all argument records `a : Args` (all 36 kinds, with and without a callback,
ring available or not, any buffer count, failing argument checks, allocation failure in the front end,
any list of kernel answers) and over ALL event lists `evs` (any interleaving of front end, cancel,
pool work, done, CQEs with any result incl. -EOPNOTSUPP, scandir_next and cleanup calls; events that
are not enabled in a phase are no-ops), i.e. over every reachable state of one request.
-/
namespace UvModel.FsReq
open UvModel.FsBuf

/-! checks/c11.py evaluates every statement below on the model's output and on the real code's log for every generated
life cycle; those it evaluates are `Prop`s of their own (`*_stmt`). -/

def no_double_free_stmt : Prop := ∀ (a : Args) (evs : List Ev), (run a evs).l.badFree = 0

/-- no life cycle — any kind, route, outcome, with or without callback, cancelled or not, any number of next / cleanup
    calls — ever frees a block that is not live or a pointer that is not a heap block -/
theorem no_double_free_holds : no_double_free_stmt :=
  fun a evs => (linv_run a evs).rel.bad

example : (run ⟨.read, true, false, 6, true, false, 0, 0, []⟩ [.submit, .cancel, .done, .cleanup, .cleanup]).l.badFree = 0 ∧
          (run ⟨.read, true, false, 6, true, false, 0, 0, []⟩ [.submit, .cancel, .done]).l.bufs = 1 := by decide +kernel

/-- partial result towards `cleanup_frees_all_stmt`: in EVERY state (reachable or not) whose ledger agrees with the request's
    pointer fields (`Rel`: a heap `path`/`bufs`/`ptr` has exactly one live block of its role, scandir entries from the iterator
    position on, readdir names up to `result`, …), uv_fs_req_cleanup frees everything the request owns, frees nothing twice
    and leaves the caller's directory handle alone.  That `Rel` holds in every reachable state is `linv_run`. -/
theorem cleanup_frees_all_partial (s : St) (h : Rel s.req s.l) (hb : s.req.bufs ≠ .user) :
    (cleanup s).l.reqOwned = 0 ∧ (cleanup s).l.badFree = 0 ∧ (cleanup s).l.userOwned = s.l.userOwned := by
  obtain ⟨r, u⟩ := cleanup_rel s h hb
  obtain ⟨l, e⟩ := cleanup_frame s
  rw [e] at r u ⊢
  have z := r.zeros (.inl rfl)
  have hp : l.path + l.path2 = 0 := r.pathS
  have hb : l.bufs = 0 := r.bufs
  have hn : l.name = 0 := r.name0 (.inl nofun)
  refine ⟨?_, r.bad, u⟩
  -- once every pointer field is NULL the request owns nothing
  show l.path + l.path2 + l.bufs + l.statx + l.res + l.dents + l.dent + l.name = 0
  rw [hp, hb, z.1, z.2.1, z.2.2.1, z.2.2.2, hn]

def cleanup_frees_all_stmt : Prop := ∀ (a : Args) (evs : List Ev),
  (run a evs).phase = .done ∨ (run a evs).phase = .rejected →
  (run a (evs ++ [.cleanup])).l.reqOwned = 0 ∧ (run a (evs ++ [.cleanup])).l.badFree = 0

/-- after completion (or a refused front-end call) uv_fs_req_cleanup leaves nothing owned by the request in the ledger -/
theorem cleanup_frees_all_holds : cleanup_frees_all_stmt := by
  intro a evs hp
  have h := linv_run a evs
  have hr : run a (evs ++ [.cleanup]) = cleanup (run a evs) := by
    unfold run
    rw [runFrom_append]
    exact congrArg Prod.fst (if_pos hp)
  rw [hr]
  exact (cleanup_frees_all_partial _ h.rel h.bufs).imp_right And.left

example : (run ⟨.scandir, true, false, 0, true, false, 1, 0, []⟩ [.submit, .work [.ok 3], .done, .next, .next]).l.reqOwned = 4 ∧
          (run ⟨.scandir, true, false, 0, true, false, 1, 0, []⟩ [.submit, .work [.ok 3], .done, .next, .next, .cleanup]).l.reqOwned = 0 := by
  decide +kernel

/-- uv_fs_req_cleanup leaves `path`, `new_path`, `bufs` and `ptr` NULL, whatever state the request was in -/
theorem cleanup_nulls (s : St) :
    (cleanup s).req.path = .null ∧ (cleanup s).req.newPath = false ∧ (cleanup s).req.bufs = .null ∧ (cleanup s).req.ptr = .null := by
  obtain ⟨l, e⟩ := cleanup_frame s
  rw [e]
  exact ⟨rfl, rfl, rfl, rfl⟩

/-- a second uv_fs_req_cleanup is a no-op, whatever state the request was in -/
theorem cleanup_idempotent (s : St) : cleanup (cleanup s) = cleanup s := by
  obtain ⟨l, e⟩ := cleanup_frame s
  rw [e]
  exact cleanup_eq_self _ rfl rfl rfl rfl rfl

example : cleanup (run ⟨.scandir, true, false, 0, true, false, 1, 0, []⟩ [.submit, .work [.ok 3], .done, .next]) ≠
          run ⟨.scandir, true, false, 0, true, false, 1, 0, []⟩ [.submit, .work [.ok 3], .done, .next] := by decide +kernel

def path_lifetime_async_stmt : Prop := ∀ (a : Args) (evs : List Ev),
  (a.cb = true ∨ pathKind a.op = .tmpl) → pathKind a.op ≠ .none →
  (run a evs).phase ≠ .idle → (run a evs).phase ≠ .rejected → (run a evs).cleaned = false →
  (run a evs).req.path = .heap ∧ (run a evs).l.get (pathRole a.op) = 1

/-- with a callback (and always for mkdtemp/mkstemp) the path copy is a live heap block from the front end's return until
    the first uv_fs_req_cleanup, on every route and for cancelled and failed requests alike -/
theorem path_lifetime_async_holds : path_lifetime_async_stmt := by
  intro a evs hc hk hp1 hp2 hcl
  have hL := linv_run a evs
  have hpath := (hL.pv hp1 hp2 hcl).trans ((pathVal_heap a).mpr (hc.elim (fun c => .inr ⟨c, hk⟩) .inl))
  exact ⟨hpath, hL.op ▸ (hL.rel.pathH hpath).1⟩

example : (run ⟨.rename, true, true, 0, true, false, 1, 5, []⟩ [.submit, .cancel, .cqe (-2)]).req.path = .heap ∧
          (run ⟨.rename, true, true, 0, true, false, 1, 5, []⟩ [.submit, .cancel, .cqe (-2)]).l.path2 = 1 := by decide +kernel

def path_borrowed_sync_stmt : Prop := ∀ (a : Args) (evs : List Ev),
  a.cb = false → pathKind a.op ≠ .tmpl →
  (run a evs).req.path ≠ .heap ∧ (run a evs).l.path = 0 ∧ (run a evs).l.path2 = 0 ∧ (run a evs).l.badFree = 0

/-- without a callback the caller's path is borrowed: never copied, never freed -/
theorem path_borrowed_sync_holds : path_borrowed_sync_stmt := by
  intro a evs hc hk
  have hL := linv_run a evs
  have hv : pathVal a ≠ .heap := fun c => ((pathVal_heap a).mp c).elim hk fun c' => by rw [hc] at c'; cases c'.1
  have hne : (run a evs).req.path ≠ .heap := by
    rcases hL.pn with h | h <;> rw [h]
    · exact hv
    · nofun
  have hs := hL.rel.pathS.trans (if_neg hne)
  exact ⟨hne, by omega, by omega, hL.rel.bad⟩

example : (run ⟨.stat, false, false, 0, true, false, 1, 0, [.ok 0]⟩ [.submit]).req.path = .user ∧
          (run ⟨.stat, false, false, 0, true, false, 1, 0, [.ok 0]⟩ [.submit, .cleanup]).l.badFree = 0 := by decide +kernel

/-- `uv__fs_work` leaves in `req->result` either a count the kernel (or the action) reported or the negated errno of
    a failed call — never the raw `-1` of the C call and never a positive errno -/
theorem work_result_normalised (q : Req) (l : Ledger) (outs : List Outcome) :
    (∃ n : Nat, ((.ok n ∈ outs) ∨ n = 0) ∧ (work q l outs).1.result = (n : Int)) ∨
    (∃ e : Nat, ((.fail e ∈ outs) ∨ e = FsBuf.EIO) ∧ (work q l outs).1.result = -(e : Int)) := work_result_cases q l outs

example : (work ⟨.open, true, .heap, false, .null, .null, 0, 0⟩ Ledger.empty [.fail EINTR, .fail 13]).1.result = -13 := by decide +kernel

/-- for every kind but close and read, EINTR is retried inside `uv__fs_work` and never reaches `req->result` -/
theorem eintr_not_surfaced (q : Req) (l : Ledger) (outs : List Outcome) (hr : retryOnEintr q.op = true) :
    (work q l outs).1.result ≠ -(EINTR : Int) := by
  refine work_induct (P := fun q' _ => retryOnEintr q'.op = true) (R := fun r => r.1.result ≠ -(EINTR : Int)) outs ?_ ?_ hr
  · intro q l o h _ _
    obtain ⟨b, n, p, e⟩ := attempt_req q l o
    rw [e]; exact h
  · intro q l o h _ hne
    cases ho : (attempt q l o).2.2 with
    | ok n => show (n : Int) ≠ -((4 : Nat) : Int); omega
    | fail e => exact fun c => hne ⟨by rw [ho]; congr 1; show e = EINTR; have : -(e : Int) = -(EINTR : Int) := c; omega, h⟩

example : (work ⟨.read, true, .null, false, .sml, .null, 0, 1⟩ Ledger.empty [.fail EINTR, .ok 5]).1.result = -4 := by decide +kernel
example : (work ⟨.readlink, true, .heap, false, .null, .null, 0, 0⟩ Ledger.empty [.fail EINTR, .ok 5]).1.result = 0 := by decide +kernel

def result_normalised_stmt : Prop := ∀ (a : Args) (evs : List Ev),
  (run a evs).phase = .done →
  (run a evs).req.result ≥ 0 ∨ (run a evs).req.result = UV_ECANCELED ∨
  (∃ e : Nat, ((.fail e ∈ answers a evs) ∨ e = FsBuf.EIO) ∧ (run a evs).req.result = -(e : Int)) ∨
  (∃ r, r ∈ cqeResults evs ∧ (run a evs).req.result = r)

/-- `req->result` of a completed request is a count (>= 0), UV_ECANCELED, the negated errno of a kernel answer of this
    life cycle (EIO for an exhausted script) or the CQE result the ring delivered — for every kind, route and event list -/
theorem result_normalised_holds : result_normalised_stmt :=
  fun a evs hd => result_inv a evs (.inr hd)

example : (run ⟨.open, true, false, 0, true, false, 4, 0, []⟩ [.submit, .work [.fail EINTR, .fail 2], .done]).req.result = -2 ∧
          (run ⟨.open, true, true, 0, true, false, 4, 0, []⟩ [.submit, .cqe (-2)]).req.result = -2 ∧
          (run ⟨.open, true, false, 0, true, false, 4, 0, []⟩ [.submit, .cancel, .done]).req.result = UV_ECANCELED := by decide +kernel

def stat_ptr_stmt : Prop := ∀ (a : Args) (evs : List Ev),
  isStat a.op = true → (run a evs).phase = .done → (run a evs).cleaned = false →
  (run a evs).req.ptr = (if (run a evs).req.result = 0 then .statbuf else .null)

/-- `stat_ptr_stmt` is FALSE of the model as stated: a failed answer whose errno is 0 (`r == -1`, `errno == 0`) gives
    `req->result = 0` while `req->ptr` stays NULL (fs.c:1751-1760 tests `r == 0`, not `req->result == 0`).  No system call fails
    with errno 0, so this is an artefact of the statement, not a libuv defect; the statement to prove is `stat_ptr_nz_stmt`. -/
theorem stat_ptr_stmt_false : ¬ stat_ptr_stmt := by
  intro h
  have := h ⟨.stat, false, false, 0, true, false, 1, 0, [.fail 0]⟩ [.submit] (by decide +kernel) (by decide +kernel) (by decide +kernel)
  revert this
  decide +kernel

/-- the kernel answers of a life cycle never fail with errno 0 -/
def AnswersNonzero (a : Args) (evs : List Ev) : Prop := Outcome.fail 0 ∉ answers a evs

/-- corrected statement (proved below) -/
def stat_ptr_nz_stmt : Prop := ∀ (a : Args) (evs : List Ev), AnswersNonzero a evs →
  isStat a.op = true → (run a evs).phase = .done → (run a evs).cleaned = false →
  (run a evs).req.ptr = (if (run a evs).req.result = 0 then .statbuf else .null)

/-- for stat / lstat / fstat on every route (sync, pool, io_uring, io_uring with -EOPNOTSUPP fallback, cancelled): in the
    callback and until cleanup `req->ptr == &req->statbuf` exactly when `req->result == 0`, else NULL -/
theorem stat_ptr_nz_holds : stat_ptr_nz_stmt :=
  fun a evs hnz hs hd hc => stat_inv a evs hnz hs (.inr hd) hc

example : (run ⟨.stat, true, true, 0, true, false, 1, 0, []⟩ [.submit, .cqe (-95), .work [.fail 4, .ok 0], .done]).req.ptr = .statbuf ∧
          (run ⟨.lstat, true, true, 0, true, false, 1, 0, []⟩ [.submit, .cqe (-2)]).req.ptr = .null := by decide +kernel

/-- the callback of an asynchronous request has run exactly once when the request is complete and not at all
    before; a synchronous request never has its callback slot invoked -/
theorem exactly_one_cb (a : Args) (evs : List Ev) :
    (run a evs).cbs = (if a.cb = true ∧ (run a evs).phase = .done then 1 else 0) := (invC_run a evs).cbs

example : (run ⟨.read, true, false, 6, true, false, 0, 0, []⟩ [.submit, .work [.ok 3], .done, .done, .cleanup, .done]).cbs = 1 := by
  decide +kernel
example : (run ⟨.stat, true, true, 0, true, false, 1, 0, []⟩ [.submit, .cqe (-95), .work [.ok 0], .done]).cbs = 1 := by
  decide +kernel

/-- a request without callback never touches the loop's request count and is never in flight -/
theorem sync_never_registers (a : Args) (evs : List Ev) (h : a.cb = false) :
    (run a evs).regs = 0 ∧ (run a evs).active = 0 ∧ inFlight (run a evs).phase = false := by
  have hi := invC_run a evs
  have h3 := hi.sync h
  refine ⟨h3.1, ?_, h3.2⟩
  rw [hi.active, h3.2]; rfl

example : (run ⟨.open, false, true, 0, true, false, 1, 0, [.ok 7]⟩ [.submit, .cancel, .cleanup]).phase = .done := by decide +kernel

/-- the request is counted in `loop->active_reqs` exactly while it is in flight (so that uv_run neither
    returns early nor hangs on it) -/
theorem registered_iff_in_flight (a : Args) (evs : List Ev) :
    (run a evs).active = (if inFlight (run a evs).phase = true then 1 else 0) := (invC_run a evs).active

example : (run ⟨.stat, true, true, 0, true, false, 1, 0, []⟩ [.submit, .cqe (-95)]).active = 1 ∧
          (run ⟨.stat, true, true, 0, true, false, 1, 0, []⟩ [.submit, .cqe (-95)]).regs = 2 := by decide +kernel

def dir_handed_over_stmt : Prop := ∀ (a : Args) (evs : List Ev),
  a.op = .opendir → (run a evs).phase = .done →
  (run a evs).l.userOwned = (if (run a evs).req.result = 0 then 2 else 0)

/-- `dir_handed_over_stmt` is FALSE of the model as stated, for the same reason (a failed opendir with errno 0 reports
    `result = 0` and hands over nothing); the statement to prove is `dir_handed_over_nz_stmt`. -/
theorem dir_handed_over_stmt_false : ¬ dir_handed_over_stmt := by
  intro h
  have := h ⟨.opendir, false, false, 0, true, false, 1, 0, [.fail 0]⟩ [.submit] (by decide +kernel) (by decide +kernel)
  revert this
  decide +kernel

/-- corrected statement (proved below) -/
def dir_handed_over_nz_stmt : Prop := ∀ (a : Args) (evs : List Ev), AnswersNonzero a evs →
  a.op = .opendir → (run a evs).phase = .done →
  (run a evs).l.userOwned = (if (run a evs).req.result = 0 then 2 else 0)

/-- a completed uv_fs_opendir holds the caller's `uv_dir_t` + `DIR` (2 blocks) exactly when it reports success — also after
    any number of cleanups — and nothing when it failed or was cancelled -/
theorem dir_handed_over_nz_holds : dir_handed_over_nz_stmt :=
  fun a evs hnz ho hd => dir_inv a evs hnz ho (.inr hd)

example : (run ⟨.opendir, true, false, 0, true, false, 1, 0, []⟩ [.submit, .work [.ok 0], .done, .cleanup, .cleanup]).l.userOwned = 2 ∧
          (run ⟨.opendir, true, false, 0, true, false, 1, 0, []⟩ [.submit, .cancel, .done, .cleanup]).l.userOwned = 0 := by decide +kernel

end UvModel.FsReq
