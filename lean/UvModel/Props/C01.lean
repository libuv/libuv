import UvModel.Lemmas.LoopCountInv
import UvModel.Lemmas.LoopReqCount
import UvModel.Lemmas.LoopClosingQueue
/-!
  C01 — loop liveness.  Theorems over the LoopModel (`HandleKernels`, `Loop`, `LoopRun`);
  `Script` = what every callback invocation does (arbitrary), `prog` = arbitrary main program,
  `oracle` = arbitrary poller answers.
-/
namespace UvModel.Props.C01
open UvModel.HandleKernels UvModel.Loop

/-! ### uv_ref / uv_unref (on the macro kernels tied to the C macros by GenEq) -/
theorem ref_idem (k : HK) : handleRef (handleRef k) = handleRef k := by
  rcases k with ⟨a, r, c, d, i, n⟩
  cases a <;> cases r <;> cases c <;> simp [handleRef]

theorem unref_idem (k : HK) : handleUnref (handleUnref k) = handleUnref k := by
  rcases k with ⟨a, r, c, d, i, n⟩
  cases a <;> cases r <;> cases c <;> simp [handleUnref]

theorem ref_keeps_active (k : HK) : isActive (handleRef k) = isActive k ∧ isClosing (handleRef k) = isClosing k := by
  rcases k with ⟨a, r, c, d, i, n⟩
  cases a <;> cases r <;> cases c <;> simp [handleRef, isActive, isClosing]

theorem unref_keeps_active (k : HK) : isActive (handleUnref k) = isActive k ∧ isClosing (handleUnref k) = isClosing k := by
  rcases k with ⟨a, r, c, d, i, n⟩
  cases a <;> cases r <;> cases c <;> simp [handleUnref, isActive, isClosing]

/-- an active, unreferenced handle: `ref` changes flags and counter, a second `ref` nothing -/
example : handleRef ⟨true, false, false, false, false, 3⟩ = ⟨true, true, false, false, false, 4⟩ ∧
    handleRef ⟨true, true, false, false, false, 4⟩ = ⟨true, true, false, false, false, 4⟩ := by decide +kernel
/-- on a closing handle ref/unref flip the flag but never touch the counter -/
example : handleUnref ⟨false, true, true, false, false, 2⟩ = ⟨false, false, true, false, false, 2⟩ := by decide +kernel

/-! ### the counter invariant -/
/-- `count_inv`: for every script, poller behaviour and main program, after the program
    `loop->active_handles` equals the number of handles that are ACTIVE ∧ REF ∧ ¬CLOSING, it is
    non-negative, and no handle is CLOSING and ACTIVE (every `uv_close` path ends in
    `uv__handle_stop`).  Every prefix of a program is a program, so this is every API boundary of
    `main`; `count_inv_in_callbacks` covers the boundaries inside callbacks. -/
theorem count_inv (sc : Script) (fuel clock0 : Nat) (metrics : Bool) (oracle : List PollRes) (prog : List MainOp) :
    let s := runMain sc fuel (initLoop clock0 metrics oracle) prog
    s.c.ah = countAR s.c.fl ∧ 0 ≤ s.c.ah ∧ ∀ e ∈ s.c.fl, e.2.closing = true → e.2.active = false := by
  intro s
  have hi : SInv s := runMain_inv sc fuel prog _ (initLoop_inv clock0 metrics oracle)
  exact ⟨hi.core.count, hi.core.count ▸ countAR_nonneg _, hi.core.closInact⟩

/-- the same invariant is preserved by every single API call, wherever it is issued (main or callback),
    by every callback, phase and `uv_run` (`Reach.inv`, `ReachC.inv` in `Lemmas/LoopCountInv.lean`) -/
theorem count_inv_in_callbacks (s : State) (hi : SInv s) :
    (∀ o, SInv (stepOp s o)) ∧ (∀ ops : List Op, SInv (ops.foldl stepOp s)) ∧
    (∀ sc ph k key id a b occ, SInv (runCb sc ph k key id a b occ s)) ∧
    (∀ sc mode, SInv (iteration sc mode s)) :=
  ⟨fun o => stepOp_inv s o hi, fun ops => foldl_stepOp_inv ops s hi,
   fun sc ph k key id a b occ => runCb_inv sc ph k key id a b occ s hi, fun sc mode => iteration_inv sc mode s hi⟩

/-- non-vacuity: a timer started, unref'd and ref'd again from main: the counter is back at 1 -/
example : (runMain (fun _ _ _ => [Op.stopLoop]) 10 (initLoop 1000 false [{ clock := 1000 }])
      [MainOp.op (.init .timer), MainOp.op (.start 2 5 0), MainOp.op (.unref 2), MainOp.op (.ref 2)]).c.ah = 1 := by decide +kernel

theorem countAR_pos_iff (fl : List (Nat × HFlags)) :
    0 < countAR fl ↔ ∃ e ∈ fl, e.2.active = true ∧ e.2.ref = true ∧ e.2.closing = false := by
  induction fl with
  | nil => simp [countAR]
  | cons e t ih =>
    have ht := countAR_nonneg t
    simp only [countAR, cInd, List.mem_cons, exists_eq_or_imp]
    constructor
    · intro h
      by_cases hc : (e.2.active && e.2.ref && !e.2.closing) = true
      · left; simpa [and_assoc] using hc
      · right; simp [hc] at h; exact ih.mp h
    · rintro (h | h)
      · simp [h.1, h.2.1, h.2.2]; omega
      · have := ih.mpr h; split <;> omega

/-- `alive_iff` (as far as the counters go): under the accounting invariant, `uv_loop_alive()` is true
    exactly when some handle is ACTIVE ∧ REF ∧ ¬CLOSING, or `active_reqs > 0`, or a watcher sits in the
    pending queue, or `closing_handles` is non-empty. -/
theorem alive_iff (s : State) (hi : SInv s) :
    alive s = true ↔ (∃ e ∈ s.c.fl, e.2.active = true ∧ e.2.ref = true ∧ e.2.closing = false) ∨ 0 < s.ar ∨
      s.pending ≠ [] ∨ s.closing ≠ [] := by
  rw [← countAR_pos_iff, ← hi.core.count]
  simp [alive, loopAlive, hasActiveHandles, hasActiveReqs, pendingEmpty, closingNull, or_assoc]

/-- the full property text wants the third and fourth disjunct to be "a request is owed a callback" and
    "a closing handle has not had its close_cb".  Two deviations of the code (model and implementation agree,
    reproduced on the real library, recorded as findings): -/
def alive_iff_full_statement : Prop :=
  ∀ (sc : Script) (fuel clock0 : Nat) (metrics : Bool) (oracle : List PollRes) (prog : List MainOp),
    let s := runMain sc fuel (initLoop clock0 metrics oracle) prog
    alive s = true ↔ (∃ e ∈ s.c.fl, e.2.active = true ∧ e.2.ref = true ∧ e.2.closing = false) ∨ s.reqs ≠ [] ∨
      (∃ e ∈ s.c.fl, e.2.closing = true ∧ e.2.closed = false)

def pending_inv_statement : Prop :=
  ∀ (sc : Script) (fuel clock0 : Nat) (metrics : Bool) (oracle : List PollRes) (prog : List MainOp),
    let s := runMain sc fuel (initLoop clock0 metrics oracle) prog
    s.pending ≠ [] → 0 < s.ar

/-- `pending_inv_statement` is FALSE of the code: two back-to-back `uv_udp_send`s; the pending phase runs
    `uv__udp_io`, whose `uv__udp_sendmsg` sends the queued one and feeds the watcher again, then
    `uv__udp_run_completed` reports both: pending queue non-empty, nothing owed, handle stopped. -/
theorem pending_inv_false :
    let s0 := (([Op.init .udp, .udpSend 2, .udpSend 2].foldl stepOp (initLoop 1000 false [])))
    let s := runPending (fun _ _ _ => []) .pending s0
    s.pending = [2] ∧ s.ar = 0 ∧ s.reqs = [] ∧ alive s = true ∧ countAR s.c.fl = 0 ∧ s.closing = [] := by decide +kernel

/-- `pending_inv_partial`: whenever the pending queue is empty, `uv_loop_alive()` is exactly the
    documented three-way condition on the counters and the closing list -/
theorem pending_inv_partial (s : State) (hi : SInv s) (hp : s.pending = []) :
    alive s = true ↔ (∃ e ∈ s.c.fl, e.2.active = true ∧ e.2.ref = true ∧ e.2.closing = false) ∨ 0 < s.ar ∨ s.closing ≠ [] := by
  rw [alive_iff s hi]; simp [hp]

/-- inside the closing phase `uv__run_closing_handles` has detached the list: `uv_loop_alive()` is false in
    the first close callback although a second closing handle still awaits its close callback -/
theorem alive_in_close_phase_witness :
    let s0 := ([Op.init .idle, .init .idle, .close 2, .close 3].foldl stepOp (initLoop 1000 false []))
    let s1 := { s0 with closingLocal := s0.closing, closing := [] }          -- first two lines of runClosing
    let s2 := withKernel (withKernel s1 3 setClosed) 3 handleUnref            -- uv__finish_close(h1) up to the callback
    alive s2 = false ∧ s2.closingLocal = [3, 2] ∧ s2.c.get 2 = some ⟨false, true, true, false, false⟩ := by decide +kernel

/-- `alive_iff_full_statement` is FALSE of the code at API boundaries of `main`, for the reason shown by `pending_inv_false`:
    `uv_run` makes at most 8 extra passes over the pending queue after polling (`uv__run_pending` loop in
    `uv_run`, core.c).  Two back-to-back `uv_udp_send`s, and the send callbacks of requests 1..9 each issue one more
    `uv_udp_send`: the pending phase, the poll phase (socket writable) and every extra pass send the queued
    datagram (re-feeding the watcher) and complete it; after the 8th extra pass the watcher is still in the pending
    queue, nothing is owed, the handle has been stopped, nothing is closing — and `uv_run(UV_RUN_NOWAIT)` returns 1
    with `uv_loop_alive()` true.  Replayed on the real library (harness/sim_loop.c, lines
    `on r1..r9 0 udp_send h0; op init udp; op udp_send h0 (x2); op run NOWAIT`): `ret 1`,
    `obs alive=1 ah=0 ar=0 pq=h0 h0=-R-`, identical to the model's trace. -/
def chainScript : Script := fun key _ _ =>
  match key with
  | .r r => if 1 ≤ r ∧ r ≤ 9 then [Op.udpSend 2] else []
  | _ => []

def chainProg : List MainOp :=
  [MainOp.op (.init .udp), MainOp.op (.udpSend 2), MainOp.op (.udpSend 2), MainOp.run .nowait]

/-- the poller reports the udp socket writable (POLLOUT is armed by the second send), as the real one does -/
def chainOracle : List PollRes := [{ clock := 1000, batch := [(.h 2, 4)] }]

theorem alive_iff_full_witness :
    let s := runMain chainScript 5 (initLoop 1000 false chainOracle) chainProg
    alive s = true ∧ s.pending = [2] ∧ s.ar = 0 ∧ s.reqs = [] ∧ s.closing = [] ∧ s.nextReq = 11 ∧ s.halted = false ∧
      s.c.fl.map (fun e => (e.1, e.2.active, e.2.closing)) = [(0, false, false), (1, true, false), (2, false, false)] ∧
      s.c.get 1 = some ⟨true, false, false, false, true⟩ := by decide +kernel

theorem alive_iff_full_false : ¬ alive_iff_full_statement := by
  intro h
  have := h chainScript 5 1000 false chainOracle chainProg
  revert this
  decide +kernel

theorem ar_pos_iff {s : State} (hr : Reqs.RInv none s) : 0 < s.ar ↔ s.reqs ≠ [] := by
  rw [hr.1]
  cases s.reqs <;> simp

/-- `alive_iff` at every API boundary of `main`, with the request disjunct in its documented form ("a request is
    owed a callback", by `reqs_inv`) — the corrected `alive_iff_full_statement`: the pending-queue disjunct cannot
    be dropped (`alive_iff_full_false`), and the closing disjunct is the loop's `closing_handles` list — at these boundaries
    exactly the CLOSING ∧ ¬CLOSED handles (`closing_iff`, `alive_iff_documented`); inside the closing phase it is
    detached, see `alive_in_close_phase_witness`. -/
theorem alive_iff_boundary (sc : Script) (fuel clock0 : Nat) (metrics : Bool) (oracle : List PollRes) (prog : List MainOp) :
    let s := runMain sc fuel (initLoop clock0 metrics oracle) prog
    alive s = true ↔ (∃ e ∈ s.c.fl, e.2.active = true ∧ e.2.ref = true ∧ e.2.closing = false) ∨ s.reqs ≠ [] ∨
      s.pending ≠ [] ∨ s.closing ≠ [] := by
  intro s
  have hi : SInv s := runMain_inv sc fuel prog _ (initLoop_inv clock0 metrics oracle)
  have hr : Reqs.RInv none s := Reqs.runMain_rinv sc fuel prog _ (Reqs.initLoop_rinv clock0 metrics oracle)
  rw [alive_iff s hi, ar_pos_iff hr]

/-- at every API boundary of `main` the chain detached by `uv__run_closing_handles` is empty and
    `closing_handles` holds exactly the handles that are CLOSING and not yet CLOSED (close callback not
    delivered), each once (`Lemmas/LoopClosingQueue.lean`) -/
theorem closing_iff (sc : Script) (fuel clock0 : Nat) (metrics : Bool) (oracle : List PollRes) (prog : List MainOp) :
    let s := runMain sc fuel (initLoop clock0 metrics oracle) prog
    s.closingLocal = [] ∧ s.closing.Nodup ∧
    (s.closing ≠ [] ↔ ∃ e ∈ s.c.fl, e.2.closing = true ∧ e.2.closed = false) ∧
    (∀ id, id ∈ s.closing ↔ ∃ e ∈ s.c.fl, e.1 = id ∧ e.2.closing = true ∧ e.2.closed = false) := by
  intro s
  obtain ⟨h1, h2, h3, h4⟩ := Reqs.closing_queued sc fuel clock0 metrics oracle prog
  have hmem : ∀ id, id ∈ s.closing ↔ ∃ e ∈ s.c.fl, e.1 = id ∧ e.2.closing = true ∧ e.2.closed = false := by
    intro id
    constructor
    · exact h4 id
    · rintro ⟨e, he, rfl, hc, hd⟩; exact h3 e he hc hd
  refine ⟨h1, h2, ?_, hmem⟩
  constructor
  · intro hne
    cases hcl : s.closing with
    | nil => exact absurd hcl hne
    | cons id t =>
      obtain ⟨e, he, _, hc, hd⟩ := (hmem id).mp (by rw [hcl]; exact List.mem_cons_self)
      exact ⟨e, he, hc, hd⟩
  · rintro ⟨e, he, hc, hd⟩ hnil
    have := h3 e he hc hd
    rw [hnil] at this
    cases this

/-- `alive_iff` in the documented form, at every API boundary of `main`: `uv_loop_alive()` is true exactly when
    some handle is ACTIVE ∧ REF ∧ ¬CLOSING, or a request is owed its callback, or a handle is CLOSING and has not
    had its close callback — or (the deviation, `alive_iff_full_false`) an io watcher sits in the pending queue. -/
theorem alive_iff_documented (sc : Script) (fuel clock0 : Nat) (metrics : Bool) (oracle : List PollRes) (prog : List MainOp) :
    let s := runMain sc fuel (initLoop clock0 metrics oracle) prog
    alive s = true ↔ (∃ e ∈ s.c.fl, e.2.active = true ∧ e.2.ref = true ∧ e.2.closing = false) ∨ s.reqs ≠ [] ∨
      (∃ e ∈ s.c.fl, e.2.closing = true ∧ e.2.closed = false) ∨ s.pending ≠ [] := by
  intro s
  have h1 := alive_iff_boundary sc fuel clock0 metrics oracle prog
  have h2 := (closing_iff sc fuel clock0 metrics oracle prog).2.2.1
  simp only at h1 h2
  show alive s = true ↔ _
  rw [h1, h2, @or_comm (s.pending ≠ [])]

/-- in particular: as long as a closed handle has not had its close callback, the loop is alive -/
theorem closing_handle_alive (sc : Script) (fuel clock0 : Nat) (metrics : Bool) (oracle : List PollRes) (prog : List MainOp) :
    let s := runMain sc fuel (initLoop clock0 metrics oracle) prog
    (∃ e ∈ s.c.fl, e.2.closing = true ∧ e.2.closed = false) → alive s = true := by
  intro s h
  exact (alive_iff_documented sc fuel clock0 metrics oracle prog).mpr (Or.inr (Or.inr (Or.inl h)))

/-- non-vacuity: two handles closed from `main`: both queued, both flagged CLOSING, the loop alive only through
    them; after a run both close callbacks have been delivered and the records are gone -/
example :
    let s := runMain (fun _ _ _ => []) 5 (initLoop 1000 false [{ clock := 1000 }])
      [MainOp.op (.init .idle), MainOp.op (.init .timer), MainOp.op (.close 2), MainOp.op (.close 3)]
    s.closing = [3, 2] ∧ s.c.get 2 = some ⟨false, true, true, false, false⟩ ∧ s.c.get 3 = some ⟨false, true, true, false, false⟩ ∧
      alive s = true ∧ s.c.ah = 0 ∧ s.ar = 0 ∧ s.pending = [] := by decide +kernel
example :
    let s := runMain (fun _ _ _ => []) 5 (initLoop 1000 false [{ clock := 1000 }])
      [MainOp.op (.init .idle), MainOp.op (.init .timer), MainOp.op (.close 2), MainOp.op (.close 3), MainOp.run .nowait]
    s.closing = [] ∧ s.c.get 2 = none ∧ s.c.get 3 = none ∧ alive s = false ∧ s.ncbTotal = 2 := by decide +kernel

/-- the same inside callbacks: wherever both accounting invariants hold (they do after every API call, callback
    and phase: `count_inv_in_callbacks`, `reqs_inv_in_callbacks`) -/
theorem alive_iff_reqs (s : State) (hi : SInv s) (hr : Reqs.RInv none s) :
    alive s = true ↔ (∃ e ∈ s.c.fl, e.2.active = true ∧ e.2.ref = true ∧ e.2.closing = false) ∨ s.reqs ≠ [] ∨
      s.pending ≠ [] ∨ s.closing ≠ [] := by
  rw [alive_iff s hi, ar_pos_iff hr]

/-- non-vacuity: a closing handle keeps the loop alive through `closing_handles`; a queued work request through
    `reqs` -/
example :
    let s := runMain (fun _ _ _ => []) 5 (initLoop 1000 false []) [MainOp.op (.init .idle), MainOp.op (.close 2)]
    alive s = true ∧ s.closing = [2] ∧ s.reqs = [] ∧ s.pending = [] := by decide +kernel
example :
    let s := runMain (fun _ _ _ => []) 5 (initLoop 1000 false []) [MainOp.op (.work .queueWork)]
    alive s = true ∧ s.closing = [] ∧ s.reqs = [⟨0, .work .queueWork⟩] ∧ s.pending = [] := by decide +kernel

/-! ### uv_run's return value -/
theorem alive_stop (s : State) (b : Bool) : alive { s with stop := b } = alive s := rfl
theorem alive_updateTime (s : State) : alive (updateTime s) = alive s := rfl

theorem runLoop_ret (sc : Script) (mode : Mode) (fuel : Nat) (s : State) (r : Bool) :
    ∀ s' r', runLoop sc mode fuel s r = some (s', r') → r' = alive s' ∨ (s' = s ∧ r' = r) := by
  induction fuel generalizing s r with
  | zero => intro s' r' h; simp [runLoop] at h
  | succ n ih =>
    intro s' r' h
    unfold runLoop at h
    split at h
    · cases h; exact Or.inr ⟨rfl, rfl⟩
    · simp only at h
      split at h
      · cases h; exact Or.inl rfl
      · rcases ih _ _ _ _ h with h1 | ⟨h1, h2⟩
        · exact Or.inl h1
        · exact Or.inl (by rw [h2, h1])

/-- `run_returns`: the value returned by `uv_run` is `uv_loop_alive()` of the state it returns in —
    except when the loop body never ran *and* the initial timer pass of UV_RUN_DEFAULT did (then it is
    the liveness computed before that pass; see `run_returns_stale_witness`). -/
theorem run_returns (sc : Script) (mode : Mode) (fuel : Nat) (s s' : State) (r : Bool)
    (h : uvRun sc mode fuel s = some (s', r)) :
    r = alive s' ∨ (initialTimers mode (alive s) s.stop = true ∧ r = alive s) := by
  unfold uvRun at h
  simp only at h
  have hs0a : alive (if !alive s then updateTime s else s) = alive s := by split <;> rfl
  have hs0s : (if !alive s then updateTime s else s).stop = s.stop := by split <;> rfl
  generalize (if !alive s then updateTime s else s) = s0 at h hs0a hs0s
  rw [hs0s] at h
  cases hit : initialTimers mode (alive s) s.stop with
  | true =>
    simp only [hit, if_true] at h
    split at h
    · simp at h
    · rename_i s1 r1 heq
      simp only [Option.some.injEq, Prod.mk.injEq] at h
      obtain ⟨h1, h2⟩ := h
      rcases runLoop_ret _ _ _ _ _ _ _ heq with h3 | ⟨_, h4⟩
      · left; rw [← h1, ← h2, h3]; rfl
      · right; exact ⟨rfl, by rw [← h2, h4]⟩
  | false =>
    simp only [hit] at h
    split at h
    · simp at h
    · rename_i s1 r1 heq
      simp only [Bool.false_eq_true, if_false, Option.some.injEq, Prod.mk.injEq] at h heq
      obtain ⟨h1, h2⟩ := h
      rcases runLoop_ret _ _ _ _ _ _ _ heq with h3 | ⟨h3, h4⟩
      · left; rw [← h1, ← h2, h3]; rfl
      · left; rw [← h1, ← h2, h4, h3]; exact hs0a.symm

/-- the stale return value: the only timer fires in the initial pass of UV_RUN_DEFAULT and its callback calls
    `uv_stop`: `uv_run` returns 1 although nothing is alive any more (reproduced on the implementation) -/
theorem run_returns_stale_witness :
    let s0 := ([Op.init .timer, .start 2 0 0].foldl stepOp (initLoop 1000 false []))
    (uvRun (fun _ _ _ => [.stopLoop]) .default 5 s0).map (fun p => (p.2, alive p.1)) = some (true, false) := by decide +kernel

/-- UV_RUN_DEFAULT leaves its loop only when the loop is dead, `uv_stop` was called, or the environment
    stopped answering (simulator deadlock marker) -/
theorem default_exit (sc : Script) (fuel : Nat) (s : State) (r : Bool) :
    ∀ s' r', runLoop sc .default fuel s r = some (s', r') → r' = false ∨ s'.stop = true ∨ s'.halted = true := by
  induction fuel generalizing s r with
  | zero => intro s' r' h; simp [runLoop] at h
  | succ n ih =>
    intro s' r' h
    unfold runLoop at h
    split at h
    · rename_i hc
      cases h
      simp only [runCond, Bool.or_eq_true, Bool.not_eq_true', Bool.and_eq_false_iff] at hc
      rcases hc with (hc | hc) | hc
      · exact Or.inl hc
      · right; left; simpa using hc
      · exact Or.inr (Or.inr hc)
    · simp only at h
      split at h
      · rename_i hm; simp at hm
      · exact ih _ _ _ _ h

/-! ### uv_loop_close -/
/-- `loop_close_iff`: UV_EBUSY exactly while a request is outstanding (`active_reqs > 0`) or a non-internal
    handle is still in `handle_queue`; otherwise success, and the loop is closed -/
theorem loop_close_iff (s : State) :
    ((loopClose s).2 = -16 ↔ (0 < s.ar ∨ ∃ e ∈ s.c.fl, e.2.internal = false)) ∧
    ((loopClose s).2 ≠ -16 → (loopClose s).2 = 0 ∧ (loopClose s).1.closed = true) := by
  unfold loopClose loopCloseBusy
  constructor
  · split
    · rename_i h
      simp only [true_iff]
      simp only [hasActiveReqs, Bool.or_eq_true, decide_eq_true_eq, List.any_eq_true, Bool.not_eq_true'] at h
      exact h
    · rename_i h
      simp only [hasActiveReqs, Bool.or_eq_true, decide_eq_true_eq, List.any_eq_true, Bool.not_eq_true', not_or] at h
      constructor
      · intro h0; simp at h0
      · rintro (h1 | h1)
        · exact absurd h1 h.1
        · exact absurd h1 h.2
  · split
    · intro h; simp at h
    · intro _; exact ⟨rfl, rfl⟩

/-- handle_queue holds a user handle: busy; a loop with the two internal handles only: success -/
example : (loopClose (([Op.init .timer].foldl stepOp (initLoop 0 false [])))).2 = -16 ∧
    (loopClose (initLoop 0 false [])).2 = 0 := by decide +kernel

/-! ### requests -/
def reqs_inv_statement : Prop :=
  ∀ (sc : Script) (fuel clock0 : Nat) (metrics : Bool) (oracle : List PollRes) (prog : List MainOp),
    let s := runMain sc fuel (initLoop clock0 metrics oracle) prog
    s.ar = s.reqs.length ∧ 0 ≤ s.ar

theorem workSubmit_ar (s : State) (api : Api) (h : s.ar = s.reqs.length) :
    (workSubmit s api).ar = (workSubmit s api).reqs.length := by
  rw [(Reqs.workSubmit_reg s api).1, (Reqs.workSubmit_reg s api).2.1]
  simp [reqRegister, h]

/-- `reqs_inv_partial`: submission registers exactly one request (`uv_queue_work` / `uv_fs_*` on either route /
    `uv_getaddrinfo` / `uv_getnameinfo` / `uv_random`, first half of `uv__udp_send`), and a completion step
    (`uv__req_unregister` + removal of the record) keeps `active_reqs = |owed|` when the completed request is owed
    exactly once.  That premise holds at every completion site (`held_owed_once`). -/
theorem reqs_inv_partial (s : State) (h : s.ar = s.reqs.length) :
    (∀ api, (submit s api).ar = (submit s api).reqs.length) ∧
    (∀ id, (udpSendEnqueue s id).ar = (udpSendEnqueue s id).reqs.length) ∧
    (∀ r, (s.reqs.filter (·.id == r)).length = 1 →
      reqUnregister s.ar = ((s.reqs.filter (·.id != r)).length : Int)) := by
  refine ⟨?_, ?_, ?_⟩
  · intro api
    have hr : (ringInit s).ar = (ringInit s).reqs.length := by
      unfold ringInit; split <;> exact h
    unfold submit; simp only
    split
    · split
      · simp [ringSubmit, reqRegister, hr]
      · exact workSubmit_ar _ api hr
    · exact workSubmit_ar s api h
  · intro id; simp [udpSendEnqueue, modH, reqRegister, h]
  · intro r hr
    have := Reqs.length_id_filter s.reqs r
    rw [List.countP_eq_length_filter] at this
    simp only [reqUnregister, h]; omega

/-- `reqs_inv`: for every script, poller behaviour and main program, `loop->active_reqs.count` equals the number
    of requests that are owed a callback, and is non-negative (`uv__req_unregister`'s assertion never fires).
    Proof (`Lemmas/LoopReqCount.lean`): every owed request id sits in at most one queue slot (thread-pool
    `running/poolQ/doneQ/doneLocal`, the io_uring `ringQ`, a udp handle's `write_queue/write_completed_queue`, a stream's `connect_req`),
    every slot holds an owed request, ids are unique; each completion site removes the slot and the record
    together, `uv_cancel`/`uv__udp_sendmsg`/worker completion only move slots. -/
theorem reqs_inv : reqs_inv_statement := by
  intro sc fuel clock0 metrics oracle prog s
  have hr : Reqs.RInv none s := Reqs.runMain_rinv sc fuel prog _ (Reqs.initLoop_rinv clock0 metrics oracle)
  exact ⟨hr.1, by rw [hr.1]; exact Int.natCast_nonneg _⟩

/-- the request invariant is preserved by every single API call wherever it is issued, by every callback and
    by every loop iteration (`Reach.rinv`, `ReachC.rinv` in `Lemmas/LoopReqCount.lean`: each completion site) -/
theorem reqs_inv_in_callbacks (s : State) (hr : Reqs.RInv none s) :
    (∀ o, Reqs.RInv none (stepOp s o)) ∧ (∀ ops : List Op, Reqs.RInv none (ops.foldl stepOp s)) ∧
    (∀ sc ph k key id a b occ, Reqs.RInv none (runCb sc ph k key id a b occ s)) ∧
    (∀ sc mode, Reqs.RInv none (iteration sc mode s)) ∧
    s.ar = s.reqs.length ∧ 0 ≤ s.ar :=
  ⟨fun o => Reqs.stepOp_rinv s o hr, fun ops => Reqs.foldl_stepOp_rinv ops s hr,
   fun sc ph k key id a b occ => Reqs.runCb_rinv sc ph k key id a b occ s hr,
   fun sc mode => Reqs.iteration_rinv sc mode s hr, hr.1, by rw [hr.1]; exact Int.natCast_nonneg _⟩

/-- what every completion site relies on: a request found in a queue slot (`cnt` counts the slots holding `r`)
    is owed exactly once, so `uv__req_unregister` + dropping the record keeps the equation
    (third part of `reqs_inv_partial`) -/
theorem held_owed_once (s : State) (hr : Reqs.RInv none s) (r : Nat) (hh : 0 < Reqs.cnt none r s) :
    (s.reqs.filter (·.id == r)).length = 1 := by
  simpa only [Reqs.idc, List.countP_eq_length_filter] using hr.owed_of_held hh

/-- non-vacuity of the hypotheses of `reqs_inv_in_callbacks` / `held_owed_once`: a reachable state with a queued
    send (slot in `write_queue`), a sent one (slot in `write_completed_queue`) and a cancelled work item -/
example :
    let s := runMain (fun _ _ _ => []) 5 (initLoop 1000 false [])
      [MainOp.op (.init .udp), MainOp.op (.work .queueWork), MainOp.op (.work .queueWork), MainOp.op (.udpSend 2), MainOp.op (.udpSend 2),
       MainOp.op (.cancel 1)]
    Reqs.RInv none s ∧ Reqs.cnt none 1 s = 1 ∧ Reqs.cnt none 2 s = 1 ∧ Reqs.cnt none 3 s = 1 ∧ Reqs.cnt none 4 s = 0 :=
  ⟨Reqs.runMain_rinv _ _ _ _ (Reqs.initLoop_rinv _ _ _), by decide +kernel⟩

/-- owed request ids are pairwise distinct and below the next id to be handed out -/
theorem reqs_ids (sc : Script) (fuel clock0 : Nat) (metrics : Bool) (oracle : List PollRes) (prog : List MainOp) :
    let s := runMain sc fuel (initLoop clock0 metrics oracle) prog
    (∀ r, (s.reqs.filter (·.id == r)).length ≤ 1) ∧ ∀ q ∈ s.reqs, q.id < s.nextReq := by
  intro s
  have hr : Reqs.RInv none s := Reqs.runMain_rinv sc fuel prog _ (Reqs.initLoop_rinv clock0 metrics oracle)
  refine ⟨?_, ?_⟩
  · intro r
    have h2 := hr.2.2.1 r
    simpa only [Reqs.idc, List.countP_eq_length_filter] using h2
  · intro q hq
    apply Nat.lt_of_not_le
    intro hle
    have h3 := hr.2.2.2 q.id hle
    simp only [Reqs.idc, List.countP_eq_zero] at h3
    exact absurd (h3 q hq) (by simp)

/-- non-vacuity: four work items (one finishes on the pool thread, one is cancelled while queued), two udp sends;
    after one `uv_run(UV_RUN_NOWAIT)` four callbacks have run (2 work, 2 send) and two requests are still owed:
    one running on the pool thread, one queued -/
example :
    let s := runMain (fun _ _ _ => []) 5 (initLoop 1000 false [{ clock := 1000, done := 1, batch := [(.async, 1)] }])
      [MainOp.op (.init .udp), MainOp.op (.work .queueWork), MainOp.op (.work .queueWork), MainOp.op (.work .queueWork), MainOp.op (.work .queueWork),
       MainOp.op (.udpSend 2), MainOp.op (.udpSend 2), MainOp.op (.cancel 1), MainOp.run .nowait]
    s.ar = 2 ∧ s.reqs = [⟨2, .work .queueWork⟩, ⟨3, .work .queueWork⟩] ∧ s.running = some 2 ∧ s.poolQ = [3] ∧ s.ncbTotal = 4 ∧
      Reqs.cnt none 2 s = 1 ∧ Reqs.cnt none 3 s = 1 := by decide +kernel
/-- before the run: five owed (three work — one of them cancelled and waiting in `loop->wq` — and two sends) -/
example :
    let s := runMain (fun _ _ _ => []) 5 (initLoop 1000 false [])
      [MainOp.op (.init .udp), MainOp.op (.work .queueWork), MainOp.op (.work .queueWork), MainOp.op (.work .queueWork),
       MainOp.op (.udpSend 2), MainOp.op (.udpSend 2), MainOp.op (.cancel 1)]
    s.ar = 5 ∧ s.reqs.length = 5 ∧ s.doneQ = [(1, true)] ∧ s.poolQ = [2] ∧ s.running = some 0 ∧
      (s.handles.map (fun h => (h.wq, h.wcq))) = [([], []), ([], []), ([4], [(3, 1)])] := by decide +kernel

/-! ### the request kinds beyond `uv_queue_work` (fs on both routes, getaddrinfo, getnameinfo, random) -/
/-- non-vacuity, io_uring route: on a loop configured for io_uring an `uv_fs_write` with 3 buffers goes into the
    ring (one registration, in flight), one with IOV_MAX + 1 buffers falls back to the thread pool *without*
    touching the ring (linux.c:1053-1058) and — its work not being gated — sits in `loop->wq` at once -/
example :
    let s := runMain (fun _ _ _ => []) 5 (initLoop 1000 false [])
      [MainOp.op .useIoUring, MainOp.op (.work (.fs .write 1025)), MainOp.op (.work (.fs .write 3)),
       MainOp.op (.work (.fs .read 2000)), MainOp.op (.cancel 1)]
    s.ar = 3 ∧ s.reqs = [⟨0, .work (.fs .write 1025)⟩, ⟨1, .ring (.fs .write 3)⟩, ⟨2, .ring (.fs .read 2000)⟩] ∧
      s.ring = .ok ∧ s.ringQ = [1, 2] ∧ s.doneQ = [(0, false)] ∧ alive s = true ∧ s.nIllegal = 0 ∧
      Reqs.cnt none 0 s = 1 ∧ Reqs.cnt none 1 s = 1 := by decide +kernel
/-- … and after one `uv_run(UV_RUN_NOWAIT)` whose poll reports the async watcher and the ring (completion queue
    r2, r1) all three callbacks have run, nothing is registered, the loop is dead and `uv_loop_close` succeeds -/
example :
    let s := runMain (fun _ _ _ => []) 5
      (initLoop 1000 false [{ clock := 1000, batch := [(.async, 1), (.ring [2, 1], 1)] }])
      [MainOp.op .useIoUring, MainOp.op (.work (.fs .write 1025)), MainOp.op (.work (.fs .write 3)),
       MainOp.op (.work (.fs .read 2000)), MainOp.run .nowait, MainOp.loopClose]
    s.ar = 0 ∧ s.reqs = [] ∧ s.ringQ = [] ∧ s.doneQ = [] ∧ s.doneLocal = [] ∧ s.ncbTotal = 3 ∧ s.closed = true ∧
      (s.trace.reverse.filterMap fun e => match e with | .cb _ .work id _ b => some (id, b) | _ => none) =
        [(0, 1), (2, 1), (1, 1)] := by decide +kernel
/-- without `uv_loop_configure(UV_LOOP_USE_IO_URING_SQPOLL)` the first fs request marks the ring as failed for good
    (a later configure has no effect); getaddrinfo is accepted only into an idle pool; every kind can be cancelled
    while queued behind a running work item -/
example :
    let s := runMain (fun _ _ _ => []) 5 (initLoop 1000 false [])
      [MainOp.op (.work (.fs .stat 0)), MainOp.op .useIoUring, MainOp.op (.work (.fs .open 0)),
       MainOp.op (.work .getaddrinfo), MainOp.op (.work .queueWork), MainOp.op (.work .random),
       MainOp.op (.work (.fs .close 0)), MainOp.op (.work .getnameinfo), MainOp.op (.cancel 4), MainOp.op (.cancel 5),
       MainOp.op (.cancel 3), MainOp.op (.cancel 0)]
    s.ring = .failed ∧ s.ringQ = [] ∧ s.ar = 6 ∧ s.running = some 3 ∧ s.poolQ = [] ∧ s.nIllegal = 1 ∧
      s.doneQ = [(0, false), (1, false), (2, false), (4, true), (5, true)] := by decide +kernel

end UvModel.Props.C01
