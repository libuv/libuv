import UvModel.Signal
import UvModel.Lemmas.SignalLemmas
/-!
# C13 — property theorems (model: `UvModel.Signal`; invariant: `Lemmas/SignalLemmas.lean`)

`Reach s` = `s` is the state after an arbitrary event sequence (API calls, deliveries, loop
iterations, in any order, with arbitrary callback scripts) from the initial state.
-/
namespace UvModel.Props.C13
open UvModel.Signal

/-- reachable states: any events, any callback script, any assignment of handles to loops -/
def Reach (s : S) : Prop := ∃ loopOf sc evs, s = runEvs sc (init loopOf) evs

theorem reach_good {s : S} (h : Reach s) : Good s := by
  obtain ⟨lo, sc, evs, rfl⟩ := h; exact good_runEvs sc evs ⟨inv_init lo, aux_init lo⟩

theorem reach_inv {s : S} (h : Reach s) : Inv s := (reach_good h).1

def w1 : S := runEvs (fun _ => []) (init (fun i => i % 2))
  [.op (.oneshot 0 10), .op (.start 1 10), .op (.oneshot 2 10), .deliver 10, .deliver 10]
theorem w1_reach : Reach w1 := ⟨_, _, _, rfl⟩

/-- `fanout` (1): while libuv's handler is installed, a delivery makes the handler visit exactly the
started handles of that signum — each one once — whatever loop they live on. -/
theorem fanout_visits {s : S} (hr : Reach s) (sig : Nat) :
    (handlerTargets s.tree sig).Nodup ∧
    ∀ k, k ∈ handlerTargets s.tree sig ↔
      (k = keyOf k.id (s.hs k.id) ∧ (s.hs k.id).signum = sig ∧ sig ≠ 0) := by
  have hi := reach_inv hr
  rw [handlerTargets_eq_filter sig hi.sorted]
  refine ⟨(sorted_nodup hi.sorted).filter _, fun k => ?_⟩
  simp only [List.mem_filter, decide_eq_true_eq]
  constructor
  · rintro ⟨hk, hs⟩
    obtain ⟨h1, h2⟩ := hi.key k hk
    exact ⟨h1, congrArg Key.sig h1.symm |>.trans hs, hs ▸ h2⟩
  · rintro ⟨hk, hs, h0⟩
    exact ⟨hk ▸ hi.started k.id (hs ▸ h0), (congrArg Key.sig hk).trans hs⟩

/-- `fanout` (2): one visit writes exactly one message — tagged with the handle and the signum — at the
tail of the pipe of *that handle's own loop*, touches no other pipe, and counts it in `caught`. -/
theorem fanout_enqueue (s : S) (sig : Nat) (k : Key) :
    let L := (s.hs k.id).loop
    (enqueue sig s k).pipes L = s.pipes L ++ [⟨k.id, sig, (s.hs k.id).gen⟩] ∧
    (∀ L', L' ≠ L → (enqueue sig s k).pipes L' = s.pipes L') ∧
    ((enqueue sig s k).hs k.id).caught = (s.hs k.id).caught + 1 ∧
    (∀ h, h ≠ k.id → (enqueue sig s k).hs h = s.hs h) := by
  refine ⟨by simp [enqueue], ?_, by simp [enqueue], ?_⟩
  · intro L' hL; simp [enqueue, upd_other _ _ _ _ hL]
  · intro h hh; simp [enqueue, upd_other _ _ _ _ hh]

/-- `fanout` (3): a delivery is the fold of those visits over a state that differs from `s` only in the kernel's
part (`disp`, `delivered`); a visit that finds the pipe full (`enqueueCap`) does nothing, and inside the
property's envelope that never happens (`foldl_enqueueCap_eq`, used by `fanout`). -/
theorem fanout_deliver {s : S} (sig : Nat) (r : Bool) (hd : s.disp sig = .uv r) :
    ∃ s0 : S, deliver s sig = (handlerTargets s.tree sig).foldl (enqueueCap sig) s0 ∧
      s0.tree = s.tree ∧ s0.hs = s.hs ∧ s0.pipes = s.pipes := by
  unfold deliver; rw [hd]
  cases r <;> (simp only [Bool.false_eq_true, ↓reduceIte]; exact ⟨_, rfl, rfl, rfl, rfl⟩)

example : (handlerTargets w1.tree 10).map (·.id) = [1, 0, 2] := by decide +kernel
example : (w1.pipes 0).map (fun m => (m.h, m.sig)) = [(0, 10), (2, 10), (0, 10), (2, 10)] ∧
          (w1.pipes 1).map (fun m => (m.h, m.sig)) = [(1, 10), (1, 10)] := by decide +kernel

/-- `fanout` (4) / `quiet_after_stop` (1): reading one message yields exactly one callback — for the
message's handle, with the message's signum, on the loop being run — when the handle watches that
signum at that moment, and no callback at all otherwise (in particular none for a handle that was
stopped or closed after the signal was caught: its `signum` is 0 and messages never carry 0).
Whatever the callback does, it cannot add callbacks or messages. -/
theorem dispatch_one_callback (sc : Script) (s : S) (L : Nat) (m : Msg) :
    (dispatchMsg sc s L m).trace =
      (if m.sig = (s.hs m.h).signum then [Cb.signal m.h m.sig L m.gen (s.hs m.h).gen] else []) ++ s.trace ∧
    (dispatchMsg sc s L m).pipes = s.pipes := by
  have hq := finishMsg_quiet (afterCb sc s L m) m.h
  rw [dispatchMsg_eq_finishMsg_afterCb, hq.trace, hq.pipes]
  unfold afterCb; split
  · exact ⟨(runOps_quiet _ _).trace, (runOps_quiet _ _).pipes⟩
  · exact ⟨rfl, rfl⟩

/-- `quiet_after_stop`: reading a message for a handle that is stopped (`signum = 0`) runs no callback.  That messages
never carry signum 0 is `message_handle_not_closed`. -/
theorem quiet_after_stop (sc : Script) (s : S) (L : Nat) (m : Msg) (hstopped : (s.hs m.h).signum = 0)
    (hm : m.sig ≠ 0) : (dispatchMsg sc s L m).trace = s.trace := by
  have := (dispatch_one_callback sc s L m).1
  rw [this, hstopped]; simp [hm]

/-- `quiet_after_stop` (2): a handle that is not watching `sig` when it is delivered gets no message
(so nothing can be dispatched to it later for that delivery). -/
theorem quiet_no_message {s : S} (hr : Reach s) (sig h : Nat) (hn : (s.hs h).signum ≠ sig) :
    ∀ k ∈ handlerTargets s.tree sig, k.id ≠ h := by
  intro k hk e
  have := ((fanout_visits hr sig).2 k).1 hk
  rw [e] at this; exact hn this.2.1

/-- `uv_signal_stop` / `uv_close` leave the handle not watching, whatever its state was. -/
theorem stop_stops (s : S) (h : Nat) : ((sigStop s h).hs h).signum = 0 ∧ ((uvClose s h).hs h).signum = 0 :=
  ⟨sigStop_signum s h, (upd_proj Handle.signum (by rfl) h).trans (sigStop_signum s h)⟩

/-- `oneshot_once_then_stopped`: after the message of a one-shot handle has been processed the handle
is stopped — unless the callback itself restarted it in regular mode — and by
`dispatch_one_callback` that processing produced exactly one callback.  Any further message for it
finds `signum = 0` (`quiet_after_stop`). -/
theorem oneshot_once_then_stopped (sc : Script) (s : S) (L : Nat) (m : Msg) :
    ((dispatchMsg sc s L m).hs m.h).oneshot = true → ((dispatchMsg sc s L m).hs m.h).signum = 0 := by
  rw [dispatchMsg_eq_finishMsg_afterCb, finishMsg_oneshot, finishMsg_signum]
  exact fun h => if_pos h

example : let s := dispatch (fun _ => []) w1 0
    s.trace = [.signal 2 10 0 1 1, .signal 0 10 0 1 1] ∧ (s.hs 0).signum = 0 ∧ (s.hs 2).signum = 0 ∧
    (s.hs 0).dispatched = 2 := by decide +kernel

/-- `close_waits_for_caught`: the close callback of a signal handle runs only when every caught
signal has been read from the pipe (`caught ≤ dispatched`); otherwise the handle goes back into the
closing queue of its loop and nothing else changes. -/
theorem close_waits_for_caught (s : S) (h : Nat) :
    ((s.hs h).dispatched < (s.hs h).caught →
        (finishClose s h).trace = s.trace ∧ ((finishClose s h).hs h).closed = (s.hs h).closed ∧
        h ∈ (finishClose s h).closingQ (s.hs h).loop) ∧
    ((s.hs h).caught ≤ (s.hs h).dispatched →
        (finishClose s h).trace = .close h :: s.trace ∧ ((finishClose s h).hs h).closed = true) := by
  unfold finishClose
  constructor
  · intro hlt; simp [hlt]
  · intro hle
    have : ¬ (s.hs h).caught > (s.hs h).dispatched := by omega
    simp [this]

/-- the deferral does not depend on the handle being referenced (`uv_unref`): `uv__finish_close`
looks only at `caught`/`dispatched`. -/
theorem close_waits_ignores_ref (s : S) (h : Nat) (r : Bool) :
    (finishClose (setRef s h r) h).trace = (finishClose s h).trace ∧
    ((finishClose (setRef s h r) h).hs h).closed = ((finishClose s h).hs h).closed := by
  unfold finishClose setRef
  by_cases c : (s.hs h).caught > (s.hs h).dispatched <;> simp [c]

def w2 : S := runEvs (fun _ => []) (init (fun _ => 0))
  [.op (.start 0 10), .op (.start 1 10), .deliver 10, .op (.close 0), .runClosing 0]
example : w2.trace = [] ∧ w2.closingQ 0 = [0] ∧
    (runLoop (fun _ => []) w2 0).trace = [.close 0, .signal 1 10 0 1 1] := by decide +kernel

/-- `disposition`, as an equation valid in every reachable state: the kernel disposition of every
signal is the function `expectedDisp` of the set of watchers and of "was the handler run since it was
installed" (DESIGN §3 C13). -/
theorem disposition {s : S} (hr : Reach s) (sig : Nat) :
    s.disp sig = expectedDisp s.tree s.delivered sig := (reach_inv hr).disp sig

/-- no handle watches `sig` ⇒ default disposition ("reverts to the default exactly when the last
watcher stops": together with the next two theorems). -/
theorem disposition_no_watcher {s : S} (hr : Reach s) (sig : Nat) (hn : ∀ h, (s.hs h).signum ≠ sig) :
    s.disp sig = .dflt := by
  have hi := reach_inv hr
  rw [hi.disp sig]
  exact expectedDisp_none fun k hk e => hn k.id (by rw [(hi.key k hk).1] at e; exact e)

/-- a regular (non-one-shot) watcher exists ⇒ libuv's handler is installed without RESETHAND. -/
theorem disposition_regular_watcher {s : S} (hr : Reach s) (sig h : Nat) (h0 : sig ≠ 0)
    (hw : (s.hs h).signum = sig) (ho : (s.hs h).oneshot = false) : s.disp sig = .uv false := by
  have hi := reach_inv hr
  rw [hi.disp sig]
  exact expectedDisp_regular (hi.started h (hw ▸ h0)) hw ho

/-- only one-shot watchers ⇒ libuv's handler with RESETHAND, until a delivery: from then on the kernel
has reset the disposition to default although the one-shot handles are still started (documented
RESETHAND behaviour, DESIGN §5 interpretation (i)); a regular start or the stop of a regular watcher
re-installs the handler (`delivered` is cleared by `register`). -/
theorem disposition_oneshot_only {s : S} (hr : Reach s) (sig h : Nat) (h0 : sig ≠ 0)
    (hw : (s.hs h).signum = sig) (hall : ∀ h', (s.hs h').signum = sig → (s.hs h').oneshot = true) :
    s.disp sig = if s.delivered sig then .dflt else .uv true := by
  have hi := reach_inv hr
  rw [hi.disp sig]
  refine expectedDisp_oneshot (hi.started h (hw ▸ h0)) hw fun k hk e => ?_
  rw [(hi.key k hk).1] at e ⊢
  exact hall k.id e

example : w1.disp 10 = .uv false ∧ (runEvs (fun _ => []) w1 [.op (.stop 1)]).disp 10 = .uv true ∧
    (runEvs (fun _ => []) w1 [.op (.stop 1), .deliver 10]).disp 10 = .dflt ∧
    (runEvs (fun _ => []) w1 [.op (.stop 1), .deliver 10, .op (.start 1 10)]).disp 10 = .uv false := by decide +kernel

/-- `restart_is_fresh_oneshot_bit`: starting a stopped handle with
`uv_signal_start` gives a regular handle watching `sig`, whatever its history (and with
`uv_signal_start_oneshot` a one-shot one), in the next incarnation. -/
theorem restart_is_fresh_oneshot_bit (s : S) (h sig : Nat) (os : Bool) (cb : Nat)
    (hstopped : (s.hs h).signum = 0) (hok : (sigStart s h sig os cb).2 = 0) :
    ((sigStart s h sig os cb).1.hs h).oneshot = os ∧ ((sigStart s h sig os cb).1.hs h).signum = sig ∧
    ((sigStart s h sig os cb).1.hs h).gen = (s.hs h).gen + 1 := by
  rcases sigStart_cases s h sig os cb with e | ⟨hsig, hsame, _⟩ | e | ⟨_, e⟩
  · rw [e] at hok; exact absurd hok (by decide : (-22 : Int) ≠ 0)
  · exact absurd (hsame.trans hstopped) hsig
  · rw [e] at hok; exact absurd hok (by decide : (-22 : Int) ≠ 0)
  · rw [e, sigStop_noop hstopped]
    exact ⟨congrArg Handle.oneshot (upd_same ..), congrArg Handle.signum (upd_same ..),
      congrArg Handle.gen (upd_same ..)⟩

example : let s := runEvs (fun _ => []) (init (fun _ => 0)) [.op (.oneshot 0 10), .deliver 10, .dispatch 0]
    (s.hs 0).oneshot = true ∧ (s.hs 0).signum = 0 ∧ ((sigStart s 0 12 false 0).1.hs 0).oneshot = false := by decide +kernel

/-- **Full statement, FALSE (L10).**  `restart_is_fresh` in the strong sense: every signal callback
is for a signal caught by the *current* incarnation of the handle (a handle restarted after
`uv_signal_stop` gets no callback for a signal delivered before the restart). -/
def restart_is_fresh : Prop :=
  ∀ (loopOf : Nat → Nat) (sc : Script) (evs : List Ev) (h sig L mgen hgen : Nat),
    Cb.signal h sig L mgen hgen ∈ (runEvs sc (init loopOf) evs).trace → mgen = hgen

/-- witness: start h SIGUSR1; deliver; stop h; start h SIGUSR1; dispatch → one callback without a new
signal (replayed on the real library: known finding `stale-signal-msg-after-restart-same-signum`). -/
theorem restart_is_fresh_false : ¬ restart_is_fresh := by
  intro h
  have := h (fun _ => 0) (fun _ => [])
    [.op (.start 0 10), .deliver 10, .op (.stop 0), .op (.start 0 10), .dispatch 0] 0 10 0 1 2 (by decide)
  exact absurd this (by decide)

/-- no message of an earlier incarnation that could be mistaken for a current one -/
def FreshH (s : S) (h : Nat) : Prop :=
  ∀ L, ∀ m ∈ s.pipes L, m.h = h → m.sig = (s.hs h).signum → m.gen = (s.hs h).gen

/-- `restart_is_fresh_partial` (a): a (re)start establishes `FreshH` when no pipe holds a message for
the handle carrying the new signum — in particular when the loop's pipe holds no message for it, or
when the new signum differs from that of every message still in flight. -/
theorem restart_is_fresh_partial_start (s : S) (h sig : Nat) (os : Bool) (cb : Nat)
    (hstopped : (s.hs h).signum = 0) (hok : (sigStart s h sig os cb).2 = 0)
    (hnone : ∀ L, ∀ m ∈ s.pipes L, m.h = h → m.sig ≠ sig) : FreshH (sigStart s h sig os cb).1 h := by
  intro L m hm hmh hms
  rw [(sigStart_quiet s h sig os cb).pipes] at hm
  rw [(restart_is_fresh_oneshot_bit s h sig os cb hstopped hok).2.1] at hms
  exact absurd hms (hnone L m hm hmh)

/-- `restart_is_fresh_partial` (b): under `FreshH`, the callback produced for a message is for the
current incarnation.  (Step-level form; the statement over whole event sequences is
`restart_is_fresh_partial` below, proved through the invariant `AuxG.fresh`.) -/
theorem restart_is_fresh_partial_dispatch (sc : Script) (s : S) (L : Nat) (m : Msg) (hin : m ∈ s.pipes L)
    (hf : FreshH s m.h) (h sig L' mgen hgen : Nat)
    (hc : Cb.signal h sig L' mgen hgen ∈ (dispatchMsg sc s L m).trace) (hnew : Cb.signal h sig L' mgen hgen ∉ s.trace) :
    mgen = hgen := by
  rw [(dispatch_one_callback sc s L m).1] at hc
  rcases List.mem_append.1 hc with h1 | h1
  · split at h1
    · cases List.mem_singleton.1 h1; exact hf L m hin rfl ‹_›
    · cases h1
  · exact absurd h1 hnew

/-- **Full statement, FALSE** (sibling of L10, known finding `stale-signal-msg-stops-restarted-oneshot`):
reading a message of an earlier incarnation does not change whether the handle is watching. -/
def stale_msg_keeps_watching : Prop :=
  ∀ (loopOf : Nat → Nat) (sc : Script) (evs : List Ev) (L : Nat) (m : Msg),
    let s := runEvs sc (init loopOf) evs
    m.gen ≠ (s.hs m.h).gen → ((dispatchMsg sc s L m).hs m.h).signum = (s.hs m.h).signum

theorem stale_msg_keeps_watching_false : ¬ stale_msg_keeps_watching := by
  intro h
  have := h (fun _ => 0) (fun _ => [])
    [.op (.start 0 10), .deliver 10, .op (.stop 0), .op (.oneshot 0 12)] 0 ⟨0, 10, 1⟩ (by decide)
  exact absurd this (by decide)

/-- partial: true for handles whose one-shot flag is clear and a message of another signum. -/
theorem stale_msg_keeps_watching_partial (sc : Script) (s : S) (L : Nat) (m : Msg)
    (hreg : (s.hs m.h).oneshot = false) (hsig : m.sig ≠ (s.hs m.h).signum) :
    ((dispatchMsg sc s L m).hs m.h).signum = (s.hs m.h).signum := by
  rw [dispatchMsg_eq_finishMsg_afterCb, finishMsg_signum, show afterCb sc s L m = s from if_neg hsig, hreg]
  rfl

/-- **Full statement, FALSE** (known finding `oneshot-restarted-in-own-callback-stopped`): a handle
that stops itself and starts again one-shot on another signal inside its own callback is watching
that signal when the callback has returned. -/
def own_callback_restart_survives : Prop :=
  ∀ (loopOf : Nat → Nat) (evs : List Ev) (L : Nat) (m : Msg) (sig' : Nat),
    let sc : Script := fun _ => [.stop m.h, .oneshot m.h sig']
    let s := runEvs sc (init loopOf) evs
    m.sig = (s.hs m.h).signum → m.sig ≠ 0 → sigValid sig' = true → (s.hs m.h).closing = false →
    ((dispatchMsg sc s L m).hs m.h).signum = sig'

theorem own_callback_restart_survives_false : ¬ own_callback_restart_survives := by
  intro h
  have := h (fun _ => 0) [.op (.oneshot 0 10), .deliver 10] 0 ⟨0, 10, 1⟩ 12 (by decide) (by decide) (by decide) (by decide)
  exact absurd this (by decide)

/-- partial: whatever the callback did, if the handle's one-shot flag is clear when the callback has
returned (e.g. it restarted itself in regular mode) `uv__signal_event` does not stop it. -/
theorem own_callback_restart_survives_partial (sc : Script) (s : S) (L : Nat) (m : Msg)
    (hreg : ((dispatchMsg sc s L m).hs m.h).oneshot = false) (hm : m.sig = (s.hs m.h).signum) :
    ((dispatchMsg sc s L m).hs m.h).signum =
      ((runOps { s with trace := .signal m.h m.sig L m.gen (s.hs m.h).gen :: s.trace, ncb := s.ncb + 1, cbLog := (s.hs m.h).cb :: s.cbLog } (sc s.ncb)).hs m.h).signum := by
  rw [dispatchMsg_eq_finishMsg_afterCb, finishMsg_oneshot] at hreg
  rw [dispatchMsg_eq_finishMsg_afterCb, finishMsg_signum, hreg]
  unfold afterCb
  rw [if_pos hm]
  rfl

theorem reach_aux {s : S} (h : Reach s) : Aux s := (reach_good h).2

theorem targets_count {s : S} (hr : Reach s) (sig h : Nat) :
    (handlerTargets s.tree sig).countP (fun k => k.id = h) =
      if (s.hs h).signum = sig ∧ sig ≠ 0 then 1 else 0 := by
  have hv := fanout_visits hr sig
  exact (countP_id_of_unique _ hv.1 (keyOf h (s.hs h)) fun k hk e => (show k.id = h from e) ▸ ((hv.2 k).1 hk).1).trans
    (ite_congr (propext ((hv.2 _).trans ⟨fun c => c.2, fun c => ⟨rfl, c⟩⟩)) (fun _ => rfl) fun _ => rfl)

/-- **`fanout`, end to end.**  In every reachable state, a delivery of `sig` while libuv's handler is
installed (a) bumps `caught` of every handle watching `sig` by exactly 1 and of no other handle,
(b) adds exactly one message for each such handle to the pipe of that handle's own loop — and no
message for anybody else, on any loop —, (c) all added messages carry `sig`.  `hroom` is the envelope of
the property text: every self-pipe has room for the messages of this delivery (however many are pending:
up to `pipeCap` = 4096 per loop).  Outside the envelope messages are dropped uncounted, and both
invariants — hence `closed_no_message`, `disposition`, … — still hold (`reach_inv`, `reach_aux`). -/
theorem fanout {s : S} (hr : Reach s) (sig : Nat) (r : Bool) (hd : s.disp sig = .uv r)
    (hroom : ∀ L, (s.pipes L).length + (handlerTargets s.tree sig).length ≤ pipeCap) :
    (∀ h, ((deliver s sig).hs h).caught =
        (s.hs h).caught + (if (s.hs h).signum = sig ∧ sig ≠ 0 then 1 else 0)) ∧
    (∀ L h, cntFor (deliver s sig) L h =
        cntFor s L h + (if ((s.hs h).signum = sig ∧ sig ≠ 0) ∧ (s.hs h).loop = L then 1 else 0)) ∧
    (∀ L, ∃ added, (deliver s sig).pipes L = s.pipes L ++ added ∧ ∀ m ∈ added, m.sig = sig) := by
  obtain ⟨s0, he, ht, hh, hp⟩ := fanout_deliver sig r hd
  rw [foldl_enqueueCap_eq sig _ s0 (by rw [hp]; exact hroom)] at he
  refine ⟨?_, ?_, ?_⟩
  · intro h; rw [he, foldl_enqueue_caught, hh, targets_count hr]
  · intro L h
    unfold cntFor
    rw [he, foldl_enqueue_pipes, hp, hh, List.countP_append, List.countP_map, List.countP_filter]
    congr 1
    by_cases eL : (s.hs h).loop = L
    · rw [ite_congr (propext (and_iff_left eL)) (fun _ => rfl) fun _ => rfl, ← targets_count hr sig h]
      refine List.countP_congr fun k _ => ?_
      simp only [Function.comp, Bool.and_eq_true, decide_eq_true_eq]
      exact ⟨fun h1 => h1.1, fun h1 => ⟨h1, h1 ▸ eL⟩⟩
    · rw [if_neg fun c => eL c.2]
      refine List.countP_eq_zero.2 fun k _ => ?_
      simp only [Function.comp, Bool.and_eq_true, decide_eq_true_eq]
      exact fun h1 => eL (h1.1 ▸ h1.2)
  · intro L; refine ⟨_, by rw [he, foldl_enqueue_pipes, hp], ?_⟩
    intro m hm; simp only [List.mem_map] at hm; obtain ⟨k, _, rfl⟩ := hm; rfl

example : cntFor w1 0 0 = 2 ∧ cntFor w1 0 2 = 2 ∧ cntFor w1 1 1 = 2 ∧ cntFor w1 0 1 = 0 ∧ w1.disp 10 = .uv false := by decide +kernel

/-- **`close_waits_for_caught`, reachable-state version.**  Once the close callback of a handle has
run, no pipe of any loop holds a message naming that handle (so no later `uv__signal_event` can touch
the freed memory), and every signal caught for it was counted as dispatched first. -/
theorem closed_no_message {s : S} (hr : Reach s) (h : Nat) (hc : (s.hs h).closed = true) :
    (∀ L, ∀ m ∈ s.pipes L, m.h ≠ h) ∧ (s.hs h).caught = (s.hs h).dispatched := by
  have ha := reach_aux hr
  obtain ⟨hcnt, hcl⟩ := ha.bal h
  have h0 : cntFor s (s.hs h).loop h = 0 := (hcl hc).1
  refine ⟨fun L m hm e => ?_, hcnt.trans (by rw [h0]; rfl)⟩
  have hl := (ha.own L m hm).1
  rw [e] at hl; subst hl
  simpa [e] using List.countP_eq_zero.1 h0 m hm

/-- a message in the pipe of loop `L` names a handle of that loop that is not closed (so the close callback has not run
for a handle with a pending message), and carries a signum other than 0. -/
theorem message_handle_not_closed {s : S} (hr : Reach s) (L : Nat) (m : Msg) (hm : m ∈ s.pipes L) :
    (s.hs m.h).closed = false ∧ (s.hs m.h).loop = L ∧ m.sig ≠ 0 := by
  have ha := reach_aux hr
  refine ⟨?_, (ha.own L m hm).1, (ha.own L m hm).2⟩
  cases hc : (s.hs m.h).closed
  · rfl
  · exact absurd rfl ((closed_no_message hr m.h hc).1 L m hm)

example : (runLoop (fun _ => []) w2 0).pipes 0 = [] ∧ ((runLoop (fun _ => []) w2 0).hs 0).closed = true ∧
    (w2.hs 0).closed = false ∧ (w2.pipes 0).length = 2 := by decide +kernel

/-- **`restart_is_fresh_partial`, over event sequences.**  For every event sequence, callback script
and loop assignment: if no `uv_signal_start`/`uv_signal_start_oneshot` was ever performed (by the
program or by a callback) at a moment when the pipe of the handle's loop held a message for that
handle with the signum being started — that is exactly what the ghost flag `stale` records, see
`sigStart_stale` — then every signal callback of the run was for a signal caught by the incarnation
of the handle that received it.  (The full statement `restart_is_fresh` drops the hypothesis and is
false: `restart_is_fresh_false`.) -/
theorem restart_is_fresh_partial (loopOf : Nat → Nat) (sc : Script) (evs : List Ev)
    (hclean : (runEvs sc (init loopOf) evs).stale = false) (h sig L mgen hgen : Nat)
    (hcb : Cb.signal h sig L mgen hgen ∈ (runEvs sc (init loopOf) evs).trace) : mgen = hgen :=
  ((reach_aux ⟨loopOf, sc, evs, rfl⟩).fresh hclean).2 h sig L mgen hgen hcb

/-- what sets `stale`: only a start that goes past the short-circuit while a message for the handle
with the same signum is pending in its loop's pipe. -/
theorem sigStart_stale (s : S) (h sig : Nat) (os : Bool) (cb : Nat) (hst : (sigStart s h sig os cb).1.stale = true) :
    s.stale = true ∨ pendingSame (sigStop s h) h sig = true := by
  have hs := (sigStop_quiet_stale s h).2
  rcases sigStart_cases s h sig os cb with e | ⟨_, _, e⟩ | e | ⟨_, e⟩ <;> rw [e] at hst
  · exact Or.inl hst
  · exact Or.inl hst
  · exact Or.inl (hs ▸ hst)
  · exact hs ▸ Bool.or_eq_true_iff.1 hst

/-- and in a clean state with the loop's pipe free of messages for `h` carrying `sig` (in particular:
empty pipe, or a different signum) a start keeps the run clean. -/
theorem sigStart_keeps_clean (s : S) (h sig : Nat) (os : Bool) (cb : Nat) (hclean : s.stale = false)
    (hnone : ∀ m ∈ s.pipes (s.hs h).loop, m.h = h → m.sig ≠ sig) : (sigStart s h sig os cb).1.stale = false := by
  refine Bool.eq_false_iff.2 fun hst => ?_
  rcases sigStart_stale s h sig os cb hst with h1 | h1
  · exact Bool.false_ne_true (hclean.symm.trans h1)
  · unfold pendingSame at h1
    rw [(sigStop_quiet_stale s h).1.pipes, sigStop_proj Handle.loop fun _ => rfl] at h1
    obtain ⟨m, hm, hp⟩ := List.any_eq_true.1 h1
    simp only [Bool.and_eq_true, decide_eq_true_eq] at hp
    exact hnone m hm hp.1 hp.2

example : (runEvs (fun _ => []) (init (fun _ => 0))
    [.op (.start 0 10), .deliver 10, .op (.stop 0), .op (.start 0 12), .dispatch 0, .op (.start 0 10), .deliver 10, .dispatch 0]).stale = false := by decide +kernel
example : (runEvs (fun _ => []) (init (fun _ => 0))
    [.op (.start 0 10), .deliver 10, .op (.stop 0), .op (.start 0 10)]).stale = true := by decide +kernel


/-- every successful `uv_signal_start` / `uv_signal_start_oneshot` installs the callback it was given —
also on the "already watching this signum" short-circuit, which changes nothing else (the handle keeps
its signum, its one-shot mode and its incarnation). -/
theorem start_stores_callback (s : S) (h sig : Nat) (os : Bool) (cb : Nat)
    (hok : (sigStart s h sig os cb).2 = 0) : ((sigStart s h sig os cb).1.hs h).cb = cb := by
  rcases sigStart_cases s h sig os cb with e | ⟨_, _, e⟩ | e | ⟨_, e⟩ <;> rw [e] at hok ⊢
  · exact absurd hok (by decide : (-22 : Int) ≠ 0)
  · exact congrArg Handle.cb (upd_same ..)
  · exact absurd hok (by decide : (-22 : Int) ≠ 0)
  · exact congrArg Handle.cb (upd_same ..)

theorem restart_same_signum_only_callback (s : S) (h sig : Nat) (os : Bool) (cb : Nat)
    (hsig : sig ≠ 0) (hsame : sig = (s.hs h).signum) :
    (sigStart s h sig os cb) = (setCb s h cb, 0) := by
  unfold sigStart; rw [if_neg hsig, if_pos hsame]

/-- `uv__signal_event` invokes the callback that is installed at that moment: the id logged for a
dispatched message is the handle's current `cb`. -/
theorem dispatch_runs_current_callback (sc : Script) (s : S) (L : Nat) (m : Msg)
    (hm : m.sig = (s.hs m.h).signum) :
    (dispatchMsg sc s L m).cbLog = (s.hs m.h).cb :: s.cbLog := by
  rw [dispatchMsg_eq_finishMsg_afterCb, (finishMsg_quiet _ _).cbLog]
  unfold afterCb
  rw [if_pos hm]
  exact (runOps_quiet _ _).cbLog

example : (runEvs (fun _ => []) (init (fun _ => 0))
    [.op (.start 0 10 0), .op (.start 0 10 1), .deliver 10, .dispatch 0, .op (.oneshot 0 10 2), .deliver 10, .dispatch 0]).cbLog = [2, 1] := by
  decide +kernel

end UvModel.Props.C13
